/-
Specification of the combined country table `data/no_food_trade/computer_readable_combined.csv`
(property C17) and an exact-decimal checker for one row.  No Mathlib import; integers only, so the
kernel evaluates `rowOk` over the whole table cheaply (`Props/C17.lean: table_all_ok`).

A numeric cell is an exact decimal `(m, e)` standing for `m · 10^e` (parsed from the CSV text by
`harness/translators/tr_country.py`, never through a float).

Column groups (where each range comes from):
  * `pop`        population: `10 000 < v < 10^10`                      (`verify_country_data`)
  * `qty`        quantities `0 ≤ v`: production, head counts, feed, biofuel, crops, stocks, pulp, crop
                 area, yields, aquaculture, baseline grass            (`verify_country_data`; `aq_*` read as annual tonnes)
  * `frac`       fractions `0 ≤ v ≤ 1`: distribution losses, retail waste (`verify_country_data`), the shares
                 asserted in `Scenarios.init_country_food_system_properties` (`percent_of_global_*`,
                 `*_area_fraction`, `initial_*_fraction`), `fraction_crop_area`, and the relocation exponent
                 `power_law_improvement` (C09 needs `0 < e ≤ 1`)
  * `season`     the twelve seasonality shares: each in `[0, 1]`, together within `1e-6` of 1
  * `grassReduc` `grasses_reduction_year*`: `-1 ≤ v`                   (`verify_country_data`, exact)
  * `cropReduc`  `crop_reduction_year*`: `-1 - 1e-8 ≤ v` — the tolerance `verify_country_data` itself applies
                 before clamping to -1: the shipped table holds 36 cells equal to `-1.0000000000000002`, one
                 unit in the last place below -1, produced by the floating-point mean of several `-100 %`
                 entries in `weighted_average_percentages` (see `Props/C17.lean`, `C17_crop_reduction_ulp_witness`)
  * `growth`     `seaweed_growth_per_day_*`, a daily change in percent: `-100 ≤ v` (`Seaweed.get_growth_rates`
                 uses `(v/100 + 1)^30` as a mass multiplier; a change below -100 % has no meaning)
  * `free`       no range derivable from code or docs, only "present and a finite decimal" is enforced (by the
                 translator): `capex_dollar` and `include_greenhouse` (never read by the model)
-/
namespace Allfed.CountryTable

/-- exact decimal `m · 10^e` -/
abbrev Dec := Int × Int

/-- both mantissas scaled to the smaller of the two exponents -/
def Dec.scale (a b : Dec) : Int × Int :=
  let e := min a.2 b.2
  (a.1 * 10 ^ (a.2 - e).toNat, b.1 * 10 ^ (b.2 - e).toNat)

def Dec.le (a b : Dec) : Bool := decide ((Dec.scale a b).1 ≤ (Dec.scale a b).2)
def Dec.lt (a b : Dec) : Bool := decide ((Dec.scale a b).1 < (Dec.scale a b).2)
def Dec.add (a b : Dec) : Dec := ((Dec.scale a b).1 + (Dec.scale a b).2, min a.2 b.2)
def Dec.sum (l : List Dec) : Dec := l.foldr Dec.add (0, 0)

/-- constructors used by the generated table: `pn 123 4` = `123 · 10^-4`, `np 5 0` = `-5`, … -/
def pp (m e : Nat) : Dec := (Int.ofNat m, Int.ofNat e)
def pn (m e : Nat) : Dec := (Int.ofNat m, -Int.ofNat e)
def np (m e : Nat) : Dec := (-Int.ofNat m, Int.ofNat e)
def nn (m e : Nat) : Dec := (-Int.ofNat m, -Int.ofNat e)

inductive Kind where
  | pop | qty | frac | season | cropReduc | grassReduc | growth | free
  deriving DecidableEq, Repr

/-- one row: the two text columns and the numeric cells in header order -/
structure Row where
  iso3 : String
  name : String
  cells : List Dec

/-- the expected numeric columns, in order, with their group -/
def spec : List (String × Kind) :=
  [
   ("population", .pop), ("aq_kcals", .qty), ("aq_fat", .qty), ("aq_protein", .qty),
   ("grasses_baseline", .qty), ("dairy", .qty), ("chicken", .qty), ("pork", .qty),
   ("beef", .qty), ("small_animals", .qty), ("medium_animals", .qty), ("large_animals", .qty),
   ("dairy_cows", .qty), ("biofuel_kcals", .qty), ("biofuel_fat", .qty), ("biofuel_protein", .qty),
   ("feed_kcals", .qty), ("feed_fat", .qty), ("feed_protein", .qty), ("crop_kcals", .qty),
   ("crop_fat", .qty), ("crop_protein", .qty), ("crop_reduction_year1", .cropReduc), ("crop_reduction_year2", .cropReduc),
   ("crop_reduction_year3", .cropReduc), ("crop_reduction_year4", .cropReduc), ("crop_reduction_year5", .cropReduc), ("crop_reduction_year6", .cropReduc),
   ("crop_reduction_year7", .cropReduc), ("crop_reduction_year8", .cropReduc), ("crop_reduction_year9", .cropReduc), ("crop_reduction_year10", .cropReduc),
   ("grasses_reduction_year1", .grassReduc), ("grasses_reduction_year2", .grassReduc), ("grasses_reduction_year3", .grassReduc), ("grasses_reduction_year4", .grassReduc),
   ("grasses_reduction_year5", .grassReduc), ("grasses_reduction_year6", .grassReduc), ("grasses_reduction_year7", .grassReduc), ("grasses_reduction_year8", .grassReduc),
   ("grasses_reduction_year9", .grassReduc), ("grasses_reduction_year10", .grassReduc), ("seasonality_m1", .season), ("seasonality_m2", .season),
   ("seasonality_m3", .season), ("seasonality_m4", .season), ("seasonality_m5", .season), ("seasonality_m6", .season),
   ("seasonality_m7", .season), ("seasonality_m8", .season), ("seasonality_m9", .season), ("seasonality_m10", .season),
   ("seasonality_m11", .season), ("seasonality_m12", .season), ("stocks_kcals_jan", .qty), ("stocks_kcals_feb", .qty),
   ("stocks_kcals_mar", .qty), ("stocks_kcals_apr", .qty), ("stocks_kcals_may", .qty), ("stocks_kcals_jun", .qty),
   ("stocks_kcals_jul", .qty), ("stocks_kcals_aug", .qty), ("stocks_kcals_sep", .qty), ("stocks_kcals_oct", .qty),
   ("stocks_kcals_nov", .qty), ("stocks_kcals_dec", .qty), ("distribution_loss_crops", .frac), ("distribution_loss_sugar", .frac),
   ("distribution_loss_meat", .frac), ("distribution_loss_dairy", .frac), ("distribution_loss_seafood", .frac), ("retail_waste_baseline", .frac),
   ("retail_waste_price_double", .frac), ("retail_waste_price_triple", .frac), ("wood_pulp_tonnes", .qty), ("percent_of_global_production", .frac),
   ("capex_dollar", .free), ("percent_of_global_capex", .frac), ("crop_area_1000ha", .qty), ("include_greenhouse", .free),
   ("fraction_crop_area", .frac), ("max_area_fraction", .frac), ("new_area_fraction", .frac), ("initial_built_fraction", .frac),
   ("initial_seaweed_fraction", .frac), ("seaweed_growth_per_day_-3", .growth), ("seaweed_growth_per_day_-2", .growth), ("seaweed_growth_per_day_-1", .growth),
   ("seaweed_growth_per_day_0", .growth), ("seaweed_growth_per_day_1", .growth), ("seaweed_growth_per_day_2", .growth), ("seaweed_growth_per_day_3", .growth),
   ("seaweed_growth_per_day_4", .growth), ("seaweed_growth_per_day_5", .growth), ("seaweed_growth_per_day_6", .growth), ("seaweed_growth_per_day_7", .growth),
   ("seaweed_growth_per_day_8", .growth), ("seaweed_growth_per_day_9", .growth), ("seaweed_growth_per_day_10", .growth), ("seaweed_growth_per_day_11", .growth),
   ("seaweed_growth_per_day_12", .growth), ("seaweed_growth_per_day_13", .growth), ("seaweed_growth_per_day_14", .growth), ("seaweed_growth_per_day_15", .growth),
   ("seaweed_growth_per_day_16", .growth), ("seaweed_growth_per_day_17", .growth), ("seaweed_growth_per_day_18", .growth), ("seaweed_growth_per_day_19", .growth),
   ("seaweed_growth_per_day_20", .growth), ("seaweed_growth_per_day_21", .growth), ("seaweed_growth_per_day_22", .growth), ("seaweed_growth_per_day_23", .growth),
   ("seaweed_growth_per_day_24", .growth), ("seaweed_growth_per_day_25", .growth), ("seaweed_growth_per_day_26", .growth), ("seaweed_growth_per_day_27", .growth),
   ("seaweed_growth_per_day_28", .growth), ("seaweed_growth_per_day_29", .growth), ("seaweed_growth_per_day_30", .growth), ("seaweed_growth_per_day_31", .growth),
   ("seaweed_growth_per_day_32", .growth), ("seaweed_growth_per_day_33", .growth), ("seaweed_growth_per_day_34", .growth), ("seaweed_growth_per_day_35", .growth),
   ("seaweed_growth_per_day_36", .growth), ("seaweed_growth_per_day_37", .growth), ("seaweed_growth_per_day_38", .growth), ("seaweed_growth_per_day_39", .growth),
   ("seaweed_growth_per_day_40", .growth), ("seaweed_growth_per_day_41", .growth), ("seaweed_growth_per_day_42", .growth), ("seaweed_growth_per_day_43", .growth),
   ("seaweed_growth_per_day_44", .growth), ("seaweed_growth_per_day_45", .growth), ("seaweed_growth_per_day_46", .growth), ("seaweed_growth_per_day_47", .growth),
   ("seaweed_growth_per_day_48", .growth), ("seaweed_growth_per_day_49", .growth), ("seaweed_growth_per_day_50", .growth), ("seaweed_growth_per_day_51", .growth),
   ("seaweed_growth_per_day_52", .growth), ("seaweed_growth_per_day_53", .growth), ("seaweed_growth_per_day_54", .growth), ("seaweed_growth_per_day_55", .growth),
   ("seaweed_growth_per_day_56", .growth), ("seaweed_growth_per_day_57", .growth), ("seaweed_growth_per_day_58", .growth), ("seaweed_growth_per_day_59", .growth),
   ("seaweed_growth_per_day_60", .growth), ("seaweed_growth_per_day_61", .growth), ("seaweed_growth_per_day_62", .growth), ("seaweed_growth_per_day_63", .growth),
   ("seaweed_growth_per_day_64", .growth), ("seaweed_growth_per_day_65", .growth), ("seaweed_growth_per_day_66", .growth), ("seaweed_growth_per_day_67", .growth),
   ("seaweed_growth_per_day_68", .growth), ("seaweed_growth_per_day_69", .growth), ("seaweed_growth_per_day_70", .growth), ("seaweed_growth_per_day_71", .growth),
   ("seaweed_growth_per_day_72", .growth), ("seaweed_growth_per_day_73", .growth), ("seaweed_growth_per_day_74", .growth), ("seaweed_growth_per_day_75", .growth),
   ("seaweed_growth_per_day_76", .growth), ("seaweed_growth_per_day_77", .growth), ("seaweed_growth_per_day_78", .growth), ("seaweed_growth_per_day_79", .growth),
   ("seaweed_growth_per_day_80", .growth), ("seaweed_growth_per_day_81", .growth), ("seaweed_growth_per_day_82", .growth), ("seaweed_growth_per_day_83", .growth),
   ("seaweed_growth_per_day_84", .growth), ("seaweed_growth_per_day_85", .growth), ("seaweed_growth_per_day_86", .growth), ("seaweed_growth_per_day_87", .growth),
   ("seaweed_growth_per_day_88", .growth), ("seaweed_growth_per_day_89", .growth), ("seaweed_growth_per_day_90", .growth), ("seaweed_growth_per_day_91", .growth),
   ("seaweed_growth_per_day_92", .growth), ("seaweed_growth_per_day_93", .growth), ("seaweed_growth_per_day_94", .growth), ("seaweed_growth_per_day_95", .growth),
   ("seaweed_growth_per_day_96", .growth), ("seaweed_growth_per_day_97", .growth), ("seaweed_growth_per_day_98", .growth), ("seaweed_growth_per_day_99", .growth),
   ("seaweed_growth_per_day_100", .growth), ("seaweed_growth_per_day_101", .growth), ("seaweed_growth_per_day_102", .growth), ("seaweed_growth_per_day_103", .growth),
   ("seaweed_growth_per_day_104", .growth), ("seaweed_growth_per_day_105", .growth), ("seaweed_growth_per_day_106", .growth), ("seaweed_growth_per_day_107", .growth),
   ("seaweed_growth_per_day_108", .growth), ("seaweed_growth_per_day_109", .growth), ("seaweed_growth_per_day_110", .growth), ("seaweed_growth_per_day_111", .growth),
   ("seaweed_growth_per_day_112", .growth), ("seaweed_growth_per_day_113", .growth), ("seaweed_growth_per_day_114", .growth), ("seaweed_growth_per_day_115", .growth),
   ("seaweed_growth_per_day_116", .growth), ("power_law_improvement", .frac), ("milk_yield_kg_per_milk_bearing_animal_per_year", .qty), ("kg_meat_per_pig", .qty),
   ("kg_meat_per_chicken", .qty)
  ]

def kinds : List Kind := spec.map Prod.snd

/-- the executable statement for one cell -/
def cellOk : Kind → Dec → Bool
  | .pop, v => Dec.lt (1, 4) v && Dec.lt v (1, 10)
  | .qty, v => Dec.le (0, 0) v
  | .frac, v => Dec.le (0, 0) v && Dec.le v (1, 0)
  | .season, v => Dec.le (0, 0) v && Dec.le v (1, 0)
  | .cropReduc, v => Dec.le (-100000001, -8) v
  | .grassReduc, v => Dec.le (-1, 0) v
  | .growth, v => Dec.le (-100, 0) v
  | .free, _ => true

/-- every cell against the kind of its column; the two lists must have the same length -/
def cellsOk : List Kind → List Dec → Bool
  | [], [] => true
  | k :: ks, c :: cs => cellOk k c && cellsOk ks cs
  | _, _ => false

/-- the cells of the `season` columns -/
def seasonCells : List Kind → List Dec → List Dec
  | k :: ks, c :: cs => if k = Kind.season then c :: seasonCells ks cs else seasonCells ks cs
  | _, _ => []

/-- `|Σ seasonality − 1| ≤ 1e-6` -/
def seasonOk (cells : List Dec) : Bool :=
  let s := Dec.sum (seasonCells kinds cells)
  Dec.le (999999, -6) s && Dec.le s (1000001, -6)

/-- the executable statement for one row -/
def rowOk (r : Row) : Bool :=
  r.iso3 != "" && r.name != "" && cellsOk kinds r.cells && seasonOk r.cells

end Allfed.CountryTable
