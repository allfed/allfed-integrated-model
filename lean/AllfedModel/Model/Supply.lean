import AllfedModel.Num.Basic
/-
Model of the monthly supply series handed to the optimiser (properties C08, C09):

  * `src/food_system/outdoor_crops.py`    -> `monthsCycle`, `year1Ratio`, `allMonthsReductions`,
                                             `assignReduction`, `areaRamp`, `cropProduction`
  * `src/food_system/greenhouses.py`      -> `ghAreaList`, `ghKcalsPerHa`, `greenhouse`
  * `src/optimizer/parameters.py`         -> `cropsAndGreenhouses`  (`init_outdoor_crops` + `init_greenhouse_params`)
  * `src/food_system/seafood.py`          -> `fishSeries`;  `scenarios.set_fish_*` -> `fishPercent*`
  * `src/food_system/meat_and_dairy.py`   -> `grassSeries`  (`human_inedible_feed`)
  * `src/food_system/feed_and_biofuels.py`-> `demandSeries`
  * `src/food_system/methane_scp.py`      -> `scpSeries`
  * `src/food_system/cellulosic_sugar.py` -> `csSeries`
  * `src/food_system/seaweed.py`          -> `seaweedBuiltArea`, `seaweedGrowth`
  * `src/food_system/stored_food.py`      -> `storedFood`

Every function is written the way the code is written (concatenations, slices, `linspace`, loops
that write into arrays).  Next to each there is a closed-form, pointwise `…Spec` written from the
documentation; `Proofs/Supply/*.lean` and `Props/C08.lean` prove that the two agree for every horizon.

`pow` (Python's `**` with a real exponent) has no field counterpart and is a parameter.
-/
namespace Allfed.Supply
open Allfed

section
variable {α : Type} [Add α] [Sub α] [Mul α] [Div α] [Neg α] [LE α] [LT α]
  [DecidableLE α] [DecidableLT α] [OfNat α 0] [OfNat α 1] [OfScientific α] [NatCast α]

/-! ## numpy helpers -/

/-- `np.linspace(a, b, n)`: `arange(n) * step + a` with `step = (b - a)/(n - 1)`, last entry set to `b`
    (for `n = 1` numpy multiplies by `delta` instead of the undefined step). -/
def linspace (a b : α) (n : Nat) : List α :=
  let step := (b - a) / ((n - 1 : Nat) : α)
  (List.range n).map fun (k : Nat) =>
    if 1 < n then (if k + 1 = n then b else (k : α) * step + a)
    else (k : α) * (b - a) + a   -- numpy: `div = 0` -> `y = arange(n) * delta + start`

/-- `np.linspace(a, b, n, endpoint=False)` -/
def linspaceOpen (a b : α) (n : Nat) : List α :=
  let step := (b - a) / (n : α)
  (List.range n).map fun (k : Nat) => (k : α) * step + a

/-- integer power by repeated multiplication (`x ** 30`) -/
def npow (x : α) : Nat → α
  | 0 => 1
  | n + 1 => npow x n * x

/-- `Except`-valued loop body applied to every element (a `for` loop that may `assert`) -/
def mapE {β γ : Type} (f : β → Except String γ) : List β → Except String (List γ)
  | [] => .ok []
  | x :: t =>
    match f x with
    | .error e => .error e
    | .ok y =>
      match mapE f t with
      | .error e => .error e
      | .ok ys => .ok (y :: ys)

/-! ## outdoor crops (`outdoor_crops.py`) -/

structure CropIn (α : Type) where
  nmonths : Nat
  /-- `STARTING_MONTH_NUM` (1 = January … 12 = December; the pipeline passes 5) -/
  startMonth : Nat
  /-- `BASELINE_CROP_KCALS` -/
  baseline : α
  /-- `SEASONALITY`, January first -/
  season : List α
  /-- `RATIO_CROPS_YEAR1 … YEAR10` -/
  ratios : List α
  country : String
  addOutdoor : Bool
  /-- `OG_USE_BETTER_ROTATION` -/
  relocation : Bool
  /-- `ROTATION_IMPROVEMENTS.POWER_LAW_IMPROVEMENT` -/
  exponent : α
  /-- `RATIO_INCREASED_CROP_AREA` -/
  ratioArea : α
  /-- `NUMBER_YEARS_TAKES_TO_REACH_INCREASED_AREA` -/
  yearsToReach : Nat
  /-- `INITIAL_HARVEST_DURATION_IN_MONTHS` -/
  harvestDuration : Nat
  /-- `DELAY.ROTATION_CHANGE_IN_MONTHS` -/
  rotationDelay : Nat
  /-- `WASTE_DISTRIBUTION.CROPS` (percent) -/
  waste : α

/-- `SEED_PERCENT = 100 * (92 / 3898)` -/
def seedPercent : α := 100.0 * (92.0 / 3898.0)

/-- `ANNUAL_YIELD = BASELINE_CROP_KCALS * (1 - SEED_PERCENT / 100)` -/
def annualYield (baseline : α) : α := baseline * (1 - seedPercent / 100.0)

/-- `X_KCALS_OG = X_FRACTION * ANNUAL_YIELD * 4e6 / 1e9` for the twelve calendar months, January first -/
def monthsFromJanuary (baseline : α) (season : List α) : List α :=
  (season.take 12).map fun f => f * annualYield baseline * 4e6 / 1e9

/-- `month_cycle_starting_january[month_index:] + month_cycle_starting_january[0:month_index]` -/
def monthsCycle (startMonth : Nat) (baseline : α) (season : List α) : List α :=
  let jan := monthsFromJanuary baseline season
  let mi := startMonth - 1
  jan.drop mi ++ jan.take mi

/-- the country switch of `get_year_1_ratio_using_fraction_harvest_before_may` -/
def harvestBeforeMay (country : String) (season : List α) : α :=
  if country = "ZAF" then 1
  else if country = "JPN" then 0
  else if country = "PRK" then 0
  else if country = "KOR" then 0
  else lsum (season.take 4)

/-- `get_year_1_ratio_using_fraction_harvest_before_may` -/
def year1Ratio (r1 : α) (season : List α) (country : String) : Except String α :=
  let hb := harvestBeforeMay country season
  let afterNW0 := r1 - hb
  let r1' := if r1 < 0 then 0 else r1
  if ¬ (r1' < 101.0) then .error "assert" else
  let afterNW := if afterNW0 < 0 then 0 else afterNW0
  if 0 < afterNW then
    let after := 1 - hb
    if ¬ (0 ≤ after) then .error "assert"
    else if ¬ (after ≤ 1) then .error "assert"
    else if after < 0.25 then .ok 1
    else .ok (afterNW / after)
  else .ok 0

/-- `all_months_reductions`: 8 months of year 1, twelve of each of the years 2…9 (a 13-point
    `linspace` without its last point), sixteen of year 10 (17 points without the last).
    `r k` is `RATIO_CROPS_YEAR(k+1)`. -/
def allMonthsReductions (y1 : α) (r : Nat → α) : List α :=
  linspace y1 y1 8
  ++ (List.range 8).flatMap (fun k => (linspace (r (k + 1)) (r (k + 1)) 13).dropLast)
  ++ (linspace (r 9) (r 9) (13 + 4)).dropLast

/-- "if there's some very small negative value here, just round it off to zero"
    (`round(x, 8)` for `x ≤ 0`), followed by `assert baseline_reduction >= 0` -/
def clampTiny (x : α) : Except String α :=
  let x' := if x ≤ 0 then (if -(5e-9) < x then 0 else x) else x
  if 0 ≤ x' then .ok x' else .error "assert"

/-- the relocation response: `x` above one, `x ** e` otherwise -/
def relocGain (pow : α → α → α) (e x : α) : α := if 1 < x then x else pow x e

/-- one pass of the loop of `assign_reduction_from_climate_impact`:
    `(KCALS_GROWN[i], NO_RELOCATION_KCALS_GROWN[i])` -/
def monthGrown (pow : α → α → α) (cycle reductions : List α) (e : α) (i : Nat) : Except String (α × α) :=
  let month := cycle.getD (i % 12) 0
  match reductions[i]? with
  | none => .error "index-error"
  | some red0 =>
    match clampTiny red0 with
    | .error s => .error s
    | .ok red =>
      let g := if 1 < red then month * red else month * pow red e
      let nr := month * red
      -- "ERROR: Relocation has somehow decreased crop production!"
      if nr ≤ g then .ok (g, nr) else .error "assert"

/-- `assign_reduction_from_climate_impact` -/
def assignReduction (pow : α → α → α) (n : Nat) (cycle reductions : List α) (e : α) :
    Except String (List α × List α) :=
  match mapE (monthGrown pow cycle reductions e) (List.range n) with
  | .error s => .error s
  | .ok l => .ok (l.map (·.1), l.map (·.2))

/-- the array `linspace` of `assign_increase_from_increased_cultivated_area`:
    ones; a loop writing `1 + (i - N)·increment` for `N ≤ i < total_months`; `max_value` from
    `total_months` on. -/
def areaRamp (n N total : Nat) (maxv : α) : Except String (List α) :=
  if total = N then .error "zero-division"
  else if N < total ∧ n < total then .error "index-error"
  else
    let inc := (maxv - 1) / ((total : α) - (N : α))
    let l0 := List.replicate n (1 : α)
    let l1 := (List.range' N (total - N)).foldl
      (fun l i => l.set i (1 + ((i - N : Nat) : α) * inc)) l0
    .ok (l1.take total ++ List.replicate (n - total) maxv)

/-- `set_crop_production_minus_greenhouse_area` (after the `fix:` commits for D1 and D2):
    the slices `[:hd]` / `[hd:]` of the relocation branch, `(1 - greenhouse fraction)` in both
    branches, then the distribution waste. -/
def cropProduction (c : CropIn α) (grown noReloc ghf : List α) : List α :=
  let produced :=
    if c.addOutdoor then
      if c.relocation then
        let hd := c.harvestDuration + c.rotationDelay
        List.zipWith (· * ·) (noReloc.take hd) ((ghf.take hd).map (1 - ·))
        ++ List.zipWith (· * ·) (grown.drop hd) ((ghf.drop hd).map (1 - ·))
      else List.zipWith (· * ·) noReloc (ghf.map (1 - ·))
    else List.replicate c.nmonths 0
  produced.map (· * (1 - c.waste / 100.0))

/-- what `calculate_rotation_ratios` + `calculate_monthly_production` leave on the object -/
structure CropState (α : Type) where
  cycle : List α
  reductions : List α
  /-- `OG_KCAL_EXPONENT` -/
  e : α
  grown : List α
  noReloc : List α

def ratioAt (ratios : List α) (k : Nat) : α := ratios.getD k 0

/-- `calculate_monthly_production` -/
def monthlyProduction (pow : α → α → α) (c : CropIn α) : Except String (CropState α) :=
  if c.season.length < 12 then .error "index-error"
  else if c.ratios.length < 10 then .error "key-error"
  else
    let s := lsum (c.season.take 12)
    -- `assert (SUM < 1.001 and SUM > 0.999) or SUM == 0`
    if ¬ ((s < 1.001 ∧ 0.999 < s) ∨ (s ≤ 0 ∧ 0 ≤ s)) then .error "assert"
    else
      match year1Ratio (ratioAt c.ratios 0) c.season c.country with
      | .error s => .error s
      | .ok y1 =>
        let reductions := allMonthsReductions y1 (ratioAt c.ratios)
        let cycle := monthsCycle c.startMonth c.baseline c.season
        let e : α := if c.relocation then c.exponent else 1
        match assignReduction pow c.nmonths cycle reductions e with
        | .error s => .error s
        | .ok (grown, noReloc) =>
          if 1 < c.ratioArea then
            match areaRamp c.nmonths c.harvestDuration (c.yearsToReach * 12) c.ratioArea with
            | .error s => .error s
            | .ok ramp => .ok ⟨cycle, reductions, e, List.zipWith (· * ·) grown ramp, noReloc⟩
          else .ok ⟨cycle, reductions, e, grown, noReloc⟩

/-! ## greenhouses (`greenhouses.py`) -/

structure GhIn (α : Type) where
  addGreenhouses : Bool
  /-- `INITIAL_GLOBAL_CROP_AREA` -/
  globalCropArea : α
  /-- `INITIAL_CROP_AREA_FRACTION` -/
  cropAreaFraction : α
  /-- `DELAY.GREENHOUSE_MONTHS` -/
  delay : Nat
  /-- `GREENHOUSE_AREA_MULTIPLIER` -/
  areaMultiplier : α
  /-- `GREENHOUSE_GAIN_PCT` -/
  gainPct : α
  /-- `WASTE_RETAIL` -/
  wasteRetail : α

/-- the four `linspace` pieces of `get_greenhouse_area`, cut to `NMONTHS` -/
def ghAreaList (n lenGrown delay : Nat) (limit : α) : List α :=
  (linspace 0 0 delay ++ linspace 0 0 5 ++ linspace 0 limit 37
    ++ linspace limit limit (lenGrown - 42)).take n

/-- one pass of the loop of `assign_productivity_reduction_from_climate_impact` -/
def ghMonth (pow : α → α → α) (monthly : α) (reductions : List α) (e : α) (i : Nat) : Except String α :=
  match reductions[i]? with
  | none => .error "index-error"
  | some red0 =>
    match clampTiny red0 with
    | .error s => .error s
    | .ok red =>
      let g := if 1 < red then monthly * red else monthly * pow red e
      if monthly * red ≤ g then .ok g else .error "assert"

structure GhOut (α : Type) where
  area : List α
  fraction : List α
  /-- kcals per hectare (`get_greenhouse_yield_per_ha`) -/
  yieldPerHa : List α
  /-- `time_consts["greenhouse_crops"].kcals` -/
  crops : List α

/-- `Greenhouses.__init__`, `get_greenhouse_area`, `get_greenhouse_yield_per_ha` and the
    product of `init_greenhouse_params`.  `st = none` when `calculate_monthly_production`
    was not run (neither outdoor growing nor greenhouses). -/
def greenhouse (pow : α → α → α) (n : Nat) (g : GhIn α) (cropWaste : α) (st : Option (CropState α)) :
    Except String (GhOut α) :=
  let total := g.globalCropArea * g.cropAreaFraction
  let zeros := List.replicate n (0 : α)
  if total ≤ 0 ∧ 0 ≤ total then
    -- `TOTAL_CROP_AREA == 0`
    if g.cropAreaFraction ≤ 0 ∧ 0 ≤ g.cropAreaFraction then .ok ⟨zeros, zeros, zeros, zeros⟩
    else .error "assert"
  else if g.addGreenhouses then
    match st with
    | none => .error "attribute-error"
    | some st =>
      if st.grown.length < 42 then .error "assert"
      else
        let limit := total * g.areaMultiplier
        let area := ghAreaList n st.grown.length g.delay limit
        let coef := (1 - cropWaste / 100.0) * (1 - g.wasteRetail / 100.0)
        if ¬ (0 < total) then .error "assert"
        else if st.reductions.length < n then .error "assert"
        else
          let monthly := (lsum st.cycle / 12.0) / total
          match mapE (ghMonth pow monthly st.reductions st.e) (List.range n) with
          | .error s => .error s
          | .ok before =>
            let perHa := before.map (coef * ·)
            let yld := (perHa.map fun k => k * 1 * (1 + g.gainPct / 100.0)).take n
            let fraction := area.map (· / total)
            .ok ⟨area, fraction, yld, List.zipWith (· * ·) yld area⟩
  else .ok ⟨zeros, zeros.map (· / total), zeros, zeros⟩

structure CropsOut (α : Type) where
  grown : List α
  noReloc : List α
  gh : GhOut α
  /-- `time_consts["outdoor_crops"].production.kcals` -/
  production : List α

/-- `init_outdoor_crops` followed by `init_greenhouse_params` of `parameters.py` -/
def cropsAndGreenhouses (pow : α → α → α) (c : CropIn α) (g : GhIn α) : Except String (CropsOut α) :=
  let stE : Except String (Option (CropState α)) :=
    if c.addOutdoor ∨ g.addGreenhouses then
      match monthlyProduction pow c with
      | .error s => .error s
      | .ok st => .ok (some st)
    else .ok none
  match stE with
  | .error s => .error s
  | .ok st =>
    match greenhouse pow c.nmonths g c.waste st with
    | .error s => .error s
    | .ok gh =>
      let grown := match st with | some s => s.grown | none => []
      let noReloc := match st with | some s => s.noReloc | none => []
      if c.addOutdoor ∧ gh.fraction.length ≠ c.nmonths then .error "shape"
      else .ok ⟨grown, noReloc, gh, cropProduction c grown noReloc gh.fraction⟩

/-! ### closed-form specification of the crop and greenhouse series -/

/-- calendar-month kcals of simulated month `i`: annual baseline net of seed × the seasonality share
    of calendar month `(start − 1 + i) mod 12`, in billion kcals -/
def monthSpec (c : CropIn α) (i : Nat) : α :=
  c.season.getD ((c.startMonth - 1 + i) % 12) 0 * annualYield c.baseline * 4e6 / 1e9

/-- the year-1 correction: share of the normal harvest that still arrives May–December -/
def year1Spec (r1 : α) (season : List α) (country : String) : α :=
  let hb := harvestBeforeMay country season
  let afterNW := if r1 - hb < 0 then 0 else r1 - hb
  if 0 < afterNW then (if 1 - hb < 0.25 then 1 else afterNW / (1 - hb)) else 0

/-- disruption ratio of the model year of month `i`: year 1 = months 0…7, then twelve months a year,
    year 10 extended to the end -/
def ratioYearRaw (c : CropIn α) (i : Nat) : α :=
  if i < 8 then year1Spec (ratioAt c.ratios 0) c.season c.country
  else ratioAt c.ratios (Nat.min 9 (1 + (i - 8) / 12))

/-- … with "some very small negative value" (rounding noise of `1 + reduction`) read as zero -/
def ratioYearSpec (c : CropIn α) (i : Nat) : α :=
  if ratioYearRaw c i ≤ 0 then 0 else ratioYearRaw c i

/-- cropland expansion: 1 until the first harvest, linear up to the configured ratio, then constant -/
def areaRampSpec (c : CropIn α) (i : Nat) : α :=
  if 1 < c.ratioArea then
    let total := c.yearsToReach * 12
    if total ≤ i then c.ratioArea
    else if c.harvestDuration ≤ i then
      1 + ((i - c.harvestDuration : Nat) : α) * ((c.ratioArea - 1) / ((total : α) - (c.harvestDuration : α)))
    else 1
  else 1

def expSpec (c : CropIn α) : α := if c.relocation then c.exponent else 1

/-- `KCALS_GROWN[i]` -/
def grownSpec (pow : α → α → α) (c : CropIn α) (i : Nat) : α :=
  monthSpec c i * relocGain pow (expSpec c) (ratioYearSpec c i) * areaRampSpec c i

/-- `NO_RELOCATION_KCALS_GROWN[i]` -/
def noRelocSpec (c : CropIn α) (i : Nat) : α := monthSpec c i * ratioYearSpec c i

/-- what is grown outdoors in month `i`: the relocated (and expanded) series from
    `harvest duration + rotation delay` on when relocation is on, the plain one otherwise -/
def grownEffSpec (pow : α → α → α) (c : CropIn α) (i : Nat) : α :=
  if c.relocation ∧ c.harvestDuration + c.rotationDelay ≤ i then grownSpec pow c i else noRelocSpec c i

/-- outdoor crop production handed to the optimiser -/
def productionSpec (pow : α → α → α) (c : CropIn α) (ghf : Nat → α) (i : Nat) : α :=
  if c.addOutdoor then grownEffSpec pow c i * (1 - ghf i) * (1 - c.waste / 100.0) else 0

/-- greenhouse area: nothing until `delay + 5`, then 36 equal steps up to the limit -/
def ghAreaSpec (delay : Nat) (limit : α) (i : Nat) : α :=
  if i < delay + 5 then 0
  else if i < delay + 5 + 36 then ((i - (delay + 5) : Nat) : α) * (limit / 36.0) else limit

def ghTotal (g : GhIn α) : α := g.globalCropArea * g.cropAreaFraction
def ghLimit (g : GhIn α) : α := ghTotal g * g.areaMultiplier

/-- "If there is no crop area, it returns an array of zeros" -/
def noCropland (g : GhIn α) : Prop := ghTotal g ≤ 0 ∧ 0 ≤ ghTotal g
instance (g : GhIn α) : Decidable (noCropland g) := by unfold noCropland; exact inferInstance

/-- greenhouse area in hectares -/
def ghAreaSpec' (g : GhIn α) (i : Nat) : α :=
  if g.addGreenhouses ∧ ¬ noCropland g then ghAreaSpec g.delay (ghLimit g) i else 0

def ghFractionSpec (g : GhIn α) (i : Nat) : α :=
  if g.addGreenhouses ∧ ¬ noCropland g then ghAreaSpec g.delay (ghLimit g) i / ghTotal g else 0

/-- greenhouse kcals per hectare -/
def ghYieldSpec (pow : α → α → α) (c : CropIn α) (g : GhIn α) (i : Nat) : α :=
  if g.addGreenhouses ∧ ¬ noCropland g then
    (1 - c.waste / 100.0) * (1 - g.wasteRetail / 100.0)
      * ((lsum (monthsCycle c.startMonth c.baseline c.season) / 12.0) / ghTotal g
          * relocGain pow (expSpec c) (ratioYearSpec c i))
      * 1 * (1 + g.gainPct / 100.0)
  else 0

def ghCropsSpec (pow : α → α → α) (c : CropIn α) (g : GhIn α) (i : Nat) : α :=
  ghYieldSpec pow c g i * ghAreaSpec' g i

/-! ## fish (`seafood.py`, `scenarios.set_fish_*`) -/

/-- `FISH_KCALS` -/
def fishKcalsMonthly (annual wd wr : α) : α :=
  annual * ((1 - wd / 100.0) * (1 - wr / 100.0)) * 4e6 / 1e9 / 12.0

/-- `set_seafood_production` -/
def fishSeries (add : Bool) (n : Nat) (annual wd wr : α) (pct : List α) : List α :=
  let p := pct.take n
  if add then p.map fun x => x / 100.0 * fishKcalsMonthly annual wd wr else p.map fun _ => 0

def fishSpec (add : Bool) (annual wd wr : α) (pct : Nat → α) (i : Nat) : α :=
  if add then pct i / 100.0 * (annual * ((1 - wd / 100.0) * (1 - wr / 100.0)) * 4e6 / 1e9 / 12.0) else 0

/-- `yearly_fish_reduction` of `set_fish_nuclear_winter_reduction` -/
def yearlyFishReduction : List α :=
  [0, -(11.0), -(32.0), -(35.0), -(34.0), -(32.5), -(32.0), -(30.0), -(29.0), -(27.0), -(22.0), -(15.0), -(8.0), 0, 0, 0]

/-- `FISH_PERCENT_MONTHLY` of `set_fish_nuclear_winter_reduction` (192 values) -/
def fishPercentNW : List α :=
  let y : List α := yearlyFishReduction
  let m := (List.range (y.length - 1)).flatMap fun i => linspaceOpen (y.getD i 0) (y.getD (i + 1) 0) 12
  (m ++ List.replicate 12 (y.getD (y.length - 1) 0)).map (· + 100.0)

/-- month `i` lies in year `i / 12`; linear interpolation between that year's and the next year's value -/
def fishPercentNWSpec (i : Nat) : α :=
  let y : List α := yearlyFishReduction
  if i < 180 then
    ((i % 12 : Nat) : α) * ((y.getD (i / 12 + 1) 0 - y.getD (i / 12) 0) / ((12 : Nat) : α)) + y.getD (i / 12) 0 + 100.0
  else 0 + 100.0

/-! ## grass (`meat_and_dairy.py`, `human_inedible_feed`) -/

/-- the `for i in range(1, int(n_years) + 1)` loop: 8 months for year 1, 16 for the last year
    (`i == NMONTHS / 12`), 12 otherwise; `ratio i` is `RATIO_GRASSES_YEARi` -/
def grassTons (n : Nat) (base : α) (ratio : Nat → α) : List α :=
  (List.range' 1 (n / 12)).foldl (fun acc i =>
      let cnt := if i = 1 then 8 else if 12 * i = n then 12 + 4 else 12
      acc ++ List.replicate cnt (ratio i * base)) []

/-- million dry caloric tons → billion kcals (`in_units`: `1 / from_multiplier * to_multiplier`) -/
def tonsToKcals : α := 1 / (1 / (1e6 * 1000.0 * 4000.0 / 1e9)) * 1

/-- `MeatAndDairy.human_inedible_feed.kcals`; `ratios` = `RATIO_GRASSES_YEAR1…` -/
def grassSeries (n : Nat) (base : α) (ratios : List α) : Except String (List α) :=
  let years := n / 12
  if ratios.length < years then .error "key-error"
  else if (ratios.take years).any (fun r => !(decide (0 ≤ r ∧ r ≤ 10000.0))) then .error "assert"
  else .ok ((grassTons n base (fun i => ratios.getD (i - 1) 0)).map (tonsToKcals * ·))

/-- model year (0-based) of month `i` in a horizon of `years` years: 8, 12, …, 12, 16 months -/
def grassYear (years i : Nat) : Nat := if i < 8 then 0 else Nat.min (years - 1) (1 + (i - 8) / 12)

def grassSpec (n : Nat) (base : α) (ratios : List α) (i : Nat) : α :=
  4000.0 * (ratios.getD (grassYear (n / 12) i) 0 * base)

/-! ## feed and biofuel demand (`feed_and_biofuels.py`) -/

def demandMonthly (annual : α) : α := annual / 12.0 * 4e6 / 1e9

/-- `[monthly] * duration + [0] * (NMONTHS - duration)` -/
def demandSeries (n duration : Nat) (annual : α) : Except String (List α) :=
  if demandMonthly annual < 0 then .error "assert"
  else .ok (List.replicate duration (demandMonthly annual) ++ List.replicate (n - duration) 0)

def demandSpec (duration : Nat) (annual : α) (i : Nat) : α :=
  if i < duration then annual / 12.0 * 4e6 / 1e9 else 0

/-! ## methane SCP (`methane_scp.py`) and cellulosic sugar (`cellulosic_sugar.py`) -/

/-- `industrial_delay_months + global_values_percent_fed_just_scp` (the latter starts with the
    delay again) -/
def scpPercentList (d : Nat) : List Nat :=
  List.replicate d 0 ++ (List.replicate d 0 ++ List.replicate 12 0 ++ List.replicate 5 2 ++ [4]
    ++ List.replicate 5 7 ++ [9] ++ List.replicate 6 11 ++ [13] ++ List.replicate 1000 15)

/-- `production_kcals_scp_per_month`; `globalNeeds = GLOBAL_POP * kcals_monthly / 1e9` -/
def scpSeries (add : Bool) (n d : Nat) (slope globalPop kcalsMonthly fraction wd : α) : List α :=
  if add then
    ((scpPercentList d).map fun (p : Nat) =>
      ((p : α) / (1 - 0.12) * slope) / 100.0 * (globalPop * kcalsMonthly / 1e9) * fraction * (1 - wd / 100.0)).take n
  else List.replicate n 0

/-- percent of global needs `j` months after the (doubled) delay -/
def scpStep (j : Nat) : Nat :=
  if j < 12 then 0 else if j < 17 then 2 else if j < 18 then 4 else if j < 23 then 7
  else if j < 24 then 9 else if j < 30 then 11 else if j < 31 then 13 else 15

def scpSpec (add : Bool) (d : Nat) (slope globalPop kcalsMonthly fraction wd : α) (i : Nat) : α :=
  if add then
    (((if i < 2 * d then 0 else scpStep (i - 2 * d) : Nat) : α) / (1 - 0.12) * slope) / 100.0
      * (globalPop * kcalsMonthly / 1e9) * fraction * (1 - wd / 100.0)
  else 0

/-- `np.append(industrial_delay_months, [0.0]*5 + [4.7]*3 + [9.5]*1000)` -/
def csPercentList (d : Nat) : List α :=
  List.replicate d 0 ++ (List.replicate 5 0.0 ++ List.replicate 3 4.7 ++ List.replicate 1000 9.5)

def csSeries (add : Bool) (n d : Nat) (slope globalPop kcalsMonthly fraction wd : α) : List α :=
  if add then
    ((csPercentList d).map fun p =>
      (p * 1 / (1 - 0.12) * slope) / 100.0 * (globalPop * kcalsMonthly / 1e9) * fraction * (1 - wd / 100.0)).take n
  else (List.replicate n 0).take n

def csStep (j : Nat) : α := if j < 5 then 0.0 else if j < 8 then 4.7 else 9.5

def csSpec (add : Bool) (d : Nat) (slope globalPop kcalsMonthly fraction wd : α) (i : Nat) : α :=
  if add then
    ((if i < d then 0 else csStep (i - d)) * 1 / (1 - 0.12) * slope) / 100.0
      * (globalPop * kcalsMonthly / 1e9) * fraction * (1 - wd / 100.0)
  else 0

/-! ## seaweed (`seaweed.py`) -/

def seaweedNewPerMonth (newFrac : α) : α := 2.0765 * 30.0 * newFrac
def seaweedInitBuilt (newFrac : α) : α := 0.1 * newFrac
def seaweedMaxArea (maxFrac : α) : α := 1853.0 * maxFrac

/-- `get_built_area` -/
def seaweedBuiltArea (add : Bool) (n delay : Nat) (newFrac maxFrac : α) : List α :=
  let init := seaweedInitBuilt newFrac
  let sd := List.replicate (if add then delay else 1000) init
  let long := sd ++ linspace init (((n - 1 : Nat) : α) * seaweedNewPerMonth newFrac + init) n
  (long.map fun x => if seaweedMaxArea maxFrac < x then seaweedMaxArea maxFrac else x).take n

def seaweedAreaSpec (add : Bool) (delay : Nat) (newFrac maxFrac : α) (i : Nat) : α :=
  let d := if add then delay else 1000
  let x := if i < d then seaweedInitBuilt newFrac
           else ((i - d : Nat) : α) * seaweedNewPerMonth newFrac + seaweedInitBuilt newFrac
  if seaweedMaxArea maxFrac < x then seaweedMaxArea maxFrac else x

/-- monthly growth factor in percent: `100 * ((p / 100) + 1) ** 30` -/
def growthFactor (p : α) : α := 100.0 * npow (p / 100.0 + 1) 30

/-- `get_growth_rates`: the columns sorted by their integer key -/
def seaweedGrowth (cols : List (Int × α)) : List α :=
  (cols.mergeSort fun a b => decide (a.1 ≤ b.1)).map fun c => growthFactor c.2

/-! ## stored food (`stored_food.py`) -/

/-- Python's `min(list)` -/
def listMin : List α → α
  | [] => 0
  | x :: t => t.foldl pmin x

/-- `calculate_stored_food_to_use` (kcals of `initial_available`);
    `stocks` = end-of-month stocks January … December -/
def storedFood (startMonth : Nat) (stocks : List α) (untouched pctUse wd : α) : Except String α :=
  if ¬ (1 ≤ startMonth ∧ startMonth ≤ 12) then .error "assert"
  else if stocks.length ≠ 12 then .error "key-error"
  else
    let frac := pctUse / 100.0
    if ¬ (untouched ≤ frac) then .error "assert"
    else
      let lowest := listMin stocks
      -- `end_of_month_stocks[starting_month_index - 1]` (index −1 = December)
      let before := if startMonth = 1 then 11 else startMonth - 2
      let tons := stocks.getD before 0 * frac - lowest * untouched
      if ¬ (0 ≤ tons) then .error "assert"
      else .ok (tons * 4e6 / 1e9 * (1 - wd / 100.0))

def storedFoodSpec (startMonth : Nat) (stocks : List α) (untouched pctUse wd : α) : α :=
  (stocks.getD ((startMonth + 10) % 12) 0 * (pctUse / 100.0) - listMin stocks * untouched) * 4e6 / 1e9
    * (1 - wd / 100.0)

end
end Allfed.Supply
