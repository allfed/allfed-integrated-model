import AllfedModel.Model.AllocLP
/-
The physical-feasibility specification of property C01, written from the *supplies* (stocks,
monthly production, slaughter, growth factors, demand) and the reported allocation — not from the
rows of the LP.  One definition serves both readings:
  * at `Float` the driver evaluates every clause on the allocation CBC reported (`physCore`, `physGap`);
  * at an ordered field the theorems of `Props/C01.lean` show that every feasible point of
    `buildLP` satisfies every clause of `physCore`.
Each clause is a quantity that must be `≤ 0` (an *excess*); equalities are two clauses.
-/
namespace Allfed.PhysSpec
open Allfed.LP Allfed.AllocLP

structure Excess (α : Type) where
  clause : String
  month : Nat
  value : α

section
variable {α : Type} [Add α] [Sub α] [Mul α] [Div α] [Neg α] [LE α] [LT α]
  [DecidableLT α] [OfNat α 0] [OfNat α 1] [OfScientific α]

/-- `Σ_{k ≤ m} f k` -/
def cum (f : Nat → α) : Nat → α
  | 0 => f 0
  | m + 1 => cum f m + f (m + 1)

/-- value of a monthly variable; a variable of a resource that is switched off does not exist: 0 -/
def X (x : Var → α) (on : Bool) (k : VK) (m : Nat) : α := if on then x (.mv k m) else 0

/-- eaten by people, grossed up for retail waste `w` (percent) -/
def grossUp (v w : α) : α := v / (1 - w / 100.0)

/-- stored food drawn in month `k` (people grossed up, feed, biofuel) -/
def storedUse (i : Inp α) (x : Var → α) (k : Nat) : α :=
  grossUp (x (.mv .sfHumans k)) i.wStored + x (.mv .sfFeed k) + x (.mv .sfBiofuel k)

def cropUse (i : Inp α) (x : Var → α) (k : Nat) : α :=
  grossUp (x (.mv .cropHumans k)) i.wCrop + x (.mv .cropFeed k) + x (.mv .cropBiofuel k)

def meatUse (i : Inp α) (x : Var → α) (k : Nat) : α := grossUp (x (.mv .meatEaten k)) i.wMeat

def scpUse (i : Inp α) (x : Var → α) (k : Nat) : α :=
  grossUp (x (.mv .scpHumans k)) i.wScp + x (.mv .scpFeed k) + x (.mv .scpBiofuel k)

def csUse (i : Inp α) (x : Var → α) (k : Nat) : α :=
  grossUp (x (.mv .csHumans k)) i.wCs + x (.mv .csFeed k) + x (.mv .csBiofuel k)

/-- human-edible food turned into feed in month `m` (billion kcals) -/
def feedTotal (i : Inp α) (x : Var → α) (m : Nat) : α :=
  X x i.addStored .sfFeed m + X x i.addOutdoor .cropFeed m + X x i.addSeaweed .swFeed m * i.seaweedKcals
    + X x i.addCs .csFeed m + X x i.addScp .scpFeed m

def biofuelTotal (i : Inp α) (x : Var → α) (m : Nat) : α :=
  X x i.addStored .sfBiofuel m + X x i.addOutdoor .cropBiofuel m + X x i.addSeaweed .swBiofuel m * i.seaweedKcals
    + X x i.addCs .csBiofuel m + X x i.addScp .scpBiofuel m

/-- right-hand side of the seaweed ledger for month `m ≥ 1` -/
def seaweedLedger (i : Inp α) (x : Var → α) (m : Nat) : α :=
  x (.mv .swWet (m - 1)) * (1 + at' i.growth m / 100.0)
    - grossUp (x (.mv .swHumans m)) i.wSeaweed - x (.mv .swFeed m) - x (.mv .swBiofuel m)
    - (x (.mv .usedArea m) - x (.mv .usedArea (m - 1))) * i.minDensity * (i.harvestLoss / 100.0)

def ex (c : String) (m : Nat) (v : α) : Excess α := ⟨c, m, v⟩
/-- an equality as two excess clauses -/
def exEq (c : String) (m : Nat) (a b : α) : List (Excess α) := [⟨c ++ ":le", m, a - b⟩, ⟨c ++ ":ge", m, b - a⟩]

def monthVars : List VK :=
  [.sfStart, .sfEnd, .sfHumans, .sfFeed, .sfBiofuel, .scpHumans, .scpFeed, .scpBiofuel, .csHumans, .csFeed, .csBiofuel,
   .meatStart, .meatEnd, .meatEaten, .cropStorage, .cropConsumed, .cropHumans, .cropFeed, .cropBiofuel,
   .swWet, .swHumans, .swFeed, .swBiofuel, .usedArea, .consumedKcals]

/-- clauses of month `m` that every feasible point of the code's LP provably satisfies -/
def physMonth (i : Inp α) (kind : Kind) (x : Var → α) (m : Nat) : List (Excess α) :=
  -- no quantity is negative
  monthVars.map (fun k => ex "nonneg" m (-(x (.mv k m)))) ++
  -- cumulative use of stored food never exceeds the initial stock
  (if i.addStored then [ex "stored-cumulative" m (cum (storedUse i x) m - i.storedInitial)] else []) ++
  -- cumulative use of crops never exceeds what has been harvested so far
  (if i.addOutdoor then [ex "crops-cumulative" m (cum (cropUse i x) m - cum (at' i.cropProd) m)] else []) ++
  -- meat: without storage month by month (hence cumulatively); with storage the total and, cumulatively, the running slaughter total
  (if i.addMeat then
    (if !i.storeBetweenYears then [ex "meat-monthly" m (meatUse i x m - at' i.slaughtered m)]
     else [ex "meat-total" m (cum (meatUse i x) m - i.meatSummed),
           -- `maxCulled` is the running slaughter total the pipeline hands over (checked per instance against
           -- the cumulative sum of the slaughter series): meat is never eaten before it is slaughtered
           ex "meat-cumulative" m (cum (meatUse i x) m - at' i.maxCulled m)])
   else []) ++
  -- monthly output caps
  (if i.addScp then [ex "scp-monthly" m (scpUse i x m - at' i.scp m)] else []) ++
  (if i.addCs then [ex "sugar-monthly" m (csUse i x m - at' i.cs m)] else []) ++
  -- seaweed ledger and bounds
  (if i.addSeaweed then
    [ex "seaweed-wet-ge-initial" m (i.initialSeaweed - x (.mv .swWet m)),
     ex "seaweed-wet-le-density" m (x (.mv .swWet m) - i.maxDensity * at' i.builtArea m),
     ex "seaweed-area-ge-initial" m (i.initialBuiltArea - x (.mv .usedArea m)),
     ex "seaweed-area-le-built" m (x (.mv .usedArea m) - at' i.builtArea m)] ++
    (if m = 0 then
       -- the farm starts at its initial stock and nothing can be harvested before it has grown
       exEq "seaweed-wet0" 0 (x (.mv .swWet 0)) i.initialSeaweed ++
       [ex "seaweed-harvest0" 0 (x (.mv .swHumans 0) + x (.mv .swFeed 0) + x (.mv .swBiofuel 0))]
     else exEq "seaweed-ledger" m (x (.mv .swWet m)) (seaweedLedger i x m))
   else []) ++
  -- feed and biofuel totals
  (if anyFeedVar i then
    (match kind with
     | .toHumans => exEq "feed-equals-charge" m (feedTotal i x m) (at' i.feed m) ++
                    exEq "biofuel-equals-charge" m (biofuelTotal i x m) (at' i.biofuel m)
     | .toAnimals => [ex "feed-le-ceiling" m (feedTotal i x m - at' i.maxFeed m),
                      ex "biofuel-le-ceiling" m (biofuelTotal i x m - at' i.maxBiofuel m)] ++
                     (if 0 < m then [ex "feed-never-rises" m (feedTotal i x m - feedTotal i x (m - 1))] else []))
   else [])

/-- clauses about the whole horizon -/
def physFinal (i : Inp α) (kind : Kind) (x : Var → α) : List (Excess α) :=
  let l := i.nmonths - 1
  if kind = .toHumans then
    -- harvested crops fully used by the last month
    (if i.addOutdoor then [ex "crops-full-use" l (cum (at' i.cropProd) l - cum (cropUse i x) l)] else []) ++
    -- stored food fully used by the last month (where food may be stored between years)
    (if i.addStored && i.storeBetweenYears then [ex "stored-full-use" l (i.storedInitial - cum (storedUse i x) l)] else [])
  else []

/-- the part of C01 that holds for every feasible point of the LP the code builds -/
def physCore (i : Inp α) (kind : Kind) (x : Var → α) : List (Excess α) :=
  (List.range i.nmonths).flatMap (physMonth i kind x) ++ physFinal i kind x

/-- the clause of C01 the code's rows do NOT enforce (known finding D14): full use of stored food in
    the regimes without storage between years.  (The other former gap, D10 — cumulative meat eaten ≤
    cumulative slaughter with storage — was repaired in /repo and is now a clause of `physCore`;
    `meatVsSlaughter` keeps the statement about the slaughter series itself for the check.) -/
def physGap (i : Inp α) (kind : Kind) (x : Var → α) : List (Excess α) :=
  (if kind = .toHumans && i.addStored && !i.storeBetweenYears then
    [ex "stored-full-use-no-storage" (i.nmonths - 1) (i.storedInitial - cum (storedUse i x) (i.nmonths - 1))]
   else [])

/-- cumulative meat eaten against the cumulative *slaughter series* (what the property literally
    says); equals the `meat-cumulative` clause of `physCore` whenever `maxCulled` is the running
    total of `slaughtered`, which the check verifies per instance -/
def meatVsSlaughter (i : Inp α) (x : Var → α) : List (Excess α) :=
  if i.addMeat && i.storeBetweenYears then
    (List.range i.nmonths).map (fun m => ex "meat-cumulative-vs-slaughter" m (cum (meatUse i x) m - cum (at' i.slaughtered) m))
  else []

/-- residual of a row at `x`: how far it is from holding (≤ 0 ⇔ holds) -/
def rowExcess (x : Var → α) (r : Row α) : List (Excess α) :=
  let a := Aff.eval x r.lhs
  let b := Aff.eval x r.rhs
  match r.rel with
  | .le => [⟨r.name, 0, a - b⟩]
  | .ge => [⟨r.name, 0, b - a⟩]
  | .eq => [⟨r.name ++ ":le", 0, a - b⟩, ⟨r.name ++ ":ge", 0, b - a⟩]

end
end Allfed.PhysSpec
