-- GENERATED on every check run by harness/translators/tr_country.py (run) from the combined country table
-- REGENERATED in the scratch copy by re-running the import scripts of scripts/run_all_imports.sh
-- and ImportUtilities.country_codes of /repo/src/utilities/import_utilities.py.  Do not edit.
-- The rows themselves (one `def rowN : Row` each) are in CountryTableRows0..7.lean.
import AllfedModel.Model.CountryTable
import AllfedModel.Gen.CountryTableRows0
import AllfedModel.Gen.CountryTableRows1
import AllfedModel.Gen.CountryTableRows2
import AllfedModel.Gen.CountryTableRows3
import AllfedModel.Gen.CountryTableRows4
import AllfedModel.Gen.CountryTableRows5
import AllfedModel.Gen.CountryTableRows6
import AllfedModel.Gen.CountryTableRows7
namespace Allfed.Gen.CountryTable
open Allfed.CountryTable

/-- the header of the table (all columns, `iso3` and `country` first) -/
def columns : List String := ["iso3", "country", "population", "aq_kcals", "aq_fat", "aq_protein", "grasses_baseline", "dairy", "chicken", "pork", "beef", "small_animals", "medium_animals", "large_animals", "dairy_cows", "biofuel_kcals", "biofuel_fat", "biofuel_protein", "feed_kcals", "feed_fat", "feed_protein", "crop_kcals", "crop_fat", "crop_protein", "crop_reduction_year1", "crop_reduction_year2", "crop_reduction_year3", "crop_reduction_year4", "crop_reduction_year5", "crop_reduction_year6", "crop_reduction_year7", "crop_reduction_year8", "crop_reduction_year9", "crop_reduction_year10", "grasses_reduction_year1", "grasses_reduction_year2", "grasses_reduction_year3", "grasses_reduction_year4", "grasses_reduction_year5", "grasses_reduction_year6", "grasses_reduction_year7", "grasses_reduction_year8", "grasses_reduction_year9", "grasses_reduction_year10", "seasonality_m1", "seasonality_m2", "seasonality_m3", "seasonality_m4", "seasonality_m5", "seasonality_m6", "seasonality_m7", "seasonality_m8", "seasonality_m9", "seasonality_m10", "seasonality_m11", "seasonality_m12", "stocks_kcals_jan", "stocks_kcals_feb", "stocks_kcals_mar", "stocks_kcals_apr", "stocks_kcals_may", "stocks_kcals_jun", "stocks_kcals_jul", "stocks_kcals_aug", "stocks_kcals_sep", "stocks_kcals_oct", "stocks_kcals_nov", "stocks_kcals_dec", "distribution_loss_crops", "distribution_loss_sugar", "distribution_loss_meat", "distribution_loss_dairy", "distribution_loss_seafood", "retail_waste_baseline", "retail_waste_price_double", "retail_waste_price_triple", "wood_pulp_tonnes", "percent_of_global_production", "capex_dollar", "percent_of_global_capex", "crop_area_1000ha", "include_greenhouse", "fraction_crop_area", "max_area_fraction", "new_area_fraction", "initial_built_fraction", "initial_seaweed_fraction", "seaweed_growth_per_day_-3", "seaweed_growth_per_day_-2", "seaweed_growth_per_day_-1", "seaweed_growth_per_day_0", "seaweed_growth_per_day_1", "seaweed_growth_per_day_2", "seaweed_growth_per_day_3", "seaweed_growth_per_day_4", "seaweed_growth_per_day_5", "seaweed_growth_per_day_6", "seaweed_growth_per_day_7", "seaweed_growth_per_day_8", "seaweed_growth_per_day_9", "seaweed_growth_per_day_10", "seaweed_growth_per_day_11", "seaweed_growth_per_day_12", "seaweed_growth_per_day_13", "seaweed_growth_per_day_14", "seaweed_growth_per_day_15", "seaweed_growth_per_day_16", "seaweed_growth_per_day_17", "seaweed_growth_per_day_18", "seaweed_growth_per_day_19", "seaweed_growth_per_day_20", "seaweed_growth_per_day_21", "seaweed_growth_per_day_22", "seaweed_growth_per_day_23", "seaweed_growth_per_day_24", "seaweed_growth_per_day_25", "seaweed_growth_per_day_26", "seaweed_growth_per_day_27", "seaweed_growth_per_day_28", "seaweed_growth_per_day_29", "seaweed_growth_per_day_30", "seaweed_growth_per_day_31", "seaweed_growth_per_day_32", "seaweed_growth_per_day_33", "seaweed_growth_per_day_34", "seaweed_growth_per_day_35", "seaweed_growth_per_day_36", "seaweed_growth_per_day_37", "seaweed_growth_per_day_38", "seaweed_growth_per_day_39", "seaweed_growth_per_day_40", "seaweed_growth_per_day_41", "seaweed_growth_per_day_42", "seaweed_growth_per_day_43", "seaweed_growth_per_day_44", "seaweed_growth_per_day_45", "seaweed_growth_per_day_46", "seaweed_growth_per_day_47", "seaweed_growth_per_day_48", "seaweed_growth_per_day_49", "seaweed_growth_per_day_50", "seaweed_growth_per_day_51", "seaweed_growth_per_day_52", "seaweed_growth_per_day_53", "seaweed_growth_per_day_54", "seaweed_growth_per_day_55", "seaweed_growth_per_day_56", "seaweed_growth_per_day_57", "seaweed_growth_per_day_58", "seaweed_growth_per_day_59", "seaweed_growth_per_day_60", "seaweed_growth_per_day_61", "seaweed_growth_per_day_62", "seaweed_growth_per_day_63", "seaweed_growth_per_day_64", "seaweed_growth_per_day_65", "seaweed_growth_per_day_66", "seaweed_growth_per_day_67", "seaweed_growth_per_day_68", "seaweed_growth_per_day_69", "seaweed_growth_per_day_70", "seaweed_growth_per_day_71", "seaweed_growth_per_day_72", "seaweed_growth_per_day_73", "seaweed_growth_per_day_74", "seaweed_growth_per_day_75", "seaweed_growth_per_day_76", "seaweed_growth_per_day_77", "seaweed_growth_per_day_78", "seaweed_growth_per_day_79", "seaweed_growth_per_day_80", "seaweed_growth_per_day_81", "seaweed_growth_per_day_82", "seaweed_growth_per_day_83", "seaweed_growth_per_day_84", "seaweed_growth_per_day_85", "seaweed_growth_per_day_86", "seaweed_growth_per_day_87", "seaweed_growth_per_day_88", "seaweed_growth_per_day_89", "seaweed_growth_per_day_90", "seaweed_growth_per_day_91", "seaweed_growth_per_day_92", "seaweed_growth_per_day_93", "seaweed_growth_per_day_94", "seaweed_growth_per_day_95", "seaweed_growth_per_day_96", "seaweed_growth_per_day_97", "seaweed_growth_per_day_98", "seaweed_growth_per_day_99", "seaweed_growth_per_day_100", "seaweed_growth_per_day_101", "seaweed_growth_per_day_102", "seaweed_growth_per_day_103", "seaweed_growth_per_day_104", "seaweed_growth_per_day_105", "seaweed_growth_per_day_106", "seaweed_growth_per_day_107", "seaweed_growth_per_day_108", "seaweed_growth_per_day_109", "seaweed_growth_per_day_110", "seaweed_growth_per_day_111", "seaweed_growth_per_day_112", "seaweed_growth_per_day_113", "seaweed_growth_per_day_114", "seaweed_growth_per_day_115", "seaweed_growth_per_day_116", "power_law_improvement", "milk_yield_kg_per_milk_bearing_animal_per_year", "kg_meat_per_pig", "kg_meat_per_chicken"]


def table : List Row := [row0, row1, row2, row3, row4, row5, row6, row7, row8, row9, row10, row11, row12, row13, row14, row15, row16, row17, row18, row19, row20, row21, row22, row23, row24, row25, row26, row27, row28, row29, row30, row31, row32, row33, row34, row35, row36, row37, row38, row39, row40, row41, row42, row43, row44, row45, row46, row47, row48, row49, row50, row51, row52, row53, row54, row55, row56, row57, row58, row59, row60, row61, row62, row63, row64, row65, row66, row67, row68, row69, row70, row71, row72, row73, row74, row75, row76, row77, row78, row79, row80, row81, row82, row83, row84, row85, row86, row87, row88, row89, row90, row91, row92, row93, row94, row95, row96, row97, row98, row99, row100, row101, row102, row103, row104, row105, row106, row107, row108, row109, row110, row111, row112, row113, row114, row115, row116, row117, row118, row119, row120, row121, row122, row123, row124, row125, row126, row127, row128, row129, row130, row131, row132, row133, row134, row135, row136, row137, row138, row139, row140, row141, row142, row143, row144, row145, row146, row147, row148, row149, row150, row151, row152, row153, row154, row155, row156, row157, row158, row159, row160, row161, row162, row163]

/-- `ImportUtilities.country_codes` with "SWZ" renamed to "SWT" (what import_food_data.py asserts against) -/
def expectedCodes : List String := ["GBR", "AUT", "BEL", "BGR", "HRV", "CYP", "CZE", "DNK", "EST", "FIN", "FRA", "DEU", "GRC", "HUN", "IRL", "ITA", "LVA", "LTU", "LUX", "MLT", "NLD", "POL", "PRT", "ROU", "SVK", "SVN", "ESP", "SWE", "AFG", "ALB", "DZA", "AGO", "ARG", "ARM", "AUS", "AZE", "BHR", "BGD", "BRB", "BLR", "BEN", "BTN", "BOL", "BIH", "BWA", "BRA", "BRN", "BFA", "MMR", "BDI", "CPV", "KHM", "CMR", "CAN", "CAF", "TCD", "CHL", "CHN", "COL", "COD", "COG", "CRI", "CIV", "CUB", "DJI", "DOM", "ECU", "EGY", "SLV", "ERI", "SWT", "ETH", "FJI", "GAB", "GMB", "GEO", "GHA", "GTM", "GIN", "GNB", "GUY", "HTI", "HND", "IND", "IDN", "IRN", "IRQ", "ISR", "JAM", "JPN", "JOR", "KAZ", "KEN", "KOR", "PRK", "KWT", "KGZ", "LAO", "LBN", "LSO", "LBR", "LBY", "MDG", "MWI", "MYS", "MLI", "MRT", "MUS", "MEX", "MDA", "MNG", "MAR", "MOZ", "NAM", "NPL", "NZL", "NIC", "NER", "NGA", "MKD", "NOR", "OMN", "PAK", "PAN", "PNG", "PRY", "PER", "PHL", "QAT", "RUS", "RWA", "SAU", "SEN", "SRB", "SLE", "SGP", "SOM", "ZAF", "SSD", "LKA", "SDN", "SUR", "CHE", "SYR", "TJK", "TZA", "THA", "TGO", "TTO", "TUN", "TUR", "TKM", "UGA", "UKR", "ARE", "USA", "URY", "UZB", "VEN", "VNM", "YEM", "ZMB", "ZWE", "TWN"]
/-- position in the table of each expected code (checked, not trusted: see `Props/C17.lean`) -/
def expectedPos : List Nat := [163, 136, 137, 138, 139, 140, 141, 142, 143, 144, 145, 146, 147, 148, 149, 150, 151, 152, 153, 154, 155, 156, 157, 158, 159, 160, 161, 162, 0, 1, 2, 3, 4, 5, 6, 7, 8, 9, 10, 11, 12, 13, 14, 15, 16, 17, 18, 19, 20, 21, 22, 23, 24, 25, 26, 27, 28, 29, 30, 31, 32, 33, 34, 35, 36, 37, 38, 39, 40, 41, 42, 43, 44, 45, 46, 47, 48, 49, 50, 51, 52, 53, 54, 55, 56, 57, 58, 59, 60, 61, 62, 63, 64, 66, 65, 67, 68, 69, 70, 71, 72, 73, 74, 75, 76, 77, 78, 79, 80, 81, 82, 83, 84, 85, 86, 87, 88, 89, 90, 91, 92, 93, 94, 95, 96, 97, 98, 99, 100, 101, 102, 103, 104, 105, 106, 107, 108, 109, 110, 111, 112, 113, 114, 115, 117, 118, 119, 120, 121, 122, 123, 124, 125, 126, 127, 128, 129, 130, 131, 132, 133, 134, 135, 116]

end Allfed.Gen.CountryTable
