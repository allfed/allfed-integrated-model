-- GENERATED on every check run by harness/translators/tr_country.py (run): rows 42..62 of the combined country table
-- REGENERATED in the scratch copy by re-running the import scripts of scripts/run_all_imports.sh.  Do not edit.
import AllfedModel.Model.CountryTable
namespace Allfed.Gen.CountryTable
open Allfed.CountryTable


def row42 : Row := ⟨"SWT", "Eswatini", [pp 1160164 0, pp 3 1, pp 0 0, pp 2 1, pn 154633544883478 14, pp 4 4, pp 6024 0, pp 1373 0, pp 16619 0, pp 3871 3, pp 331061 0, pp 638728 0, pp 136166 0, pp 32 4, pp 1 4, pp 0 0, pp 4 4, pp 0 0, pp 1 4, pn 5391952749236325 10, pn 5230965856648924 12, pn 22812010730263915 12, nn 548431476922561 16, nn 6401045499672132 16, nn 6968728381854306 16, nn 8247462621169952 16, nn 7134971685678977 16, nn 7371804172580458 16, nn 5431808633881389 16, nn 2524262569373565 16, nn 3302870465184197 16, nn 218913442259734 15, nn 461434855355345 16, nn 418403307405491 15, nn 5466922720648779 16, nn 7993610263236781 16, nn 8407713978747521 16, nn 9311159478353028 16, nn 948610058169596 15, nn 945362598156749 15, nn 924173472991826 15, nn 880745569999559 15, pp 0 0, pp 0 0, pp 0 0, pp 0 0, pn 25 2, pn 25 2, pn 25 2, pn 25 2, pp 0 0, pp 0 0, pp 0 0, pp 0 0, pp 224 3, pp 163 3, pp 102 3, pp 41 3, pp 163 3, pp 285 3, pp 407 3, pp 529 3, pp 468 3, pp 407 3, pp 346 3, pp 285 3, pn 200745033112583 16, pp 0 0, pp 0 0, pn 715563506261181 16, pn 17464103009754 16, pn 202622292520951 15, pn 829613974620054 16, pn 47114354992333 15, pp 0 0, pp 0 0, pn 132485743236965 16, pn 288094744987788 19, pp 19 1, pp 1 0, pn 1226281571005 16, pp 0 0, pp 0 0, pp 0 0, pp 0 0, pp 0 0, pp 0 0, pp 0 0, pp 0 0, pp 0 0, pp 0 0, pp 0 0, pp 0 0, pp 0 0, pp 0 0, pp 0 0, pp 0 0, pp 0 0, pp 0 0, pp 0 0, pp 0 0, pp 0 0, pp 0 0, pp 0 0, pp 0 0, pp 0 0, pp 0 0, pp 0 0, pp 0 0, pp 0 0, pp 0 0, pp 0 0, pp 0 0, pp 0 0, pp 0 0, pp 0 0, pp 0 0, pp 0 0, pp 0 0, pp 0 0, pp 0 0, pp 0 0, pp 0 0, pp 0 0, pp 0 0, pp 0 0, pp 0 0, pp 0 0, pp 0 0, pp 0 0, pp 0 0, pp 0 0, pp 0 0, pp 0 0, pp 0 0, pp 0 0, pp 0 0, pp 0 0, pp 0 0, pp 0 0, pp 0 0, pp 0 0, pp 0 0, pp 0 0, pp 0 0, pp 0 0, pp 0 0, pp 0 0, pp 0 0, pp 0 0, pp 0 0, pp 0 0, pp 0 0, pp 0 0, pp 0 0, pp 0 0, pp 0 0, pp 0 0, pp 0 0, pp 0 0, pp 0 0, pp 0 0, pp 0 0, pp 0 0, pp 0 0, pp 0 0, pp 0 0, pp 0 0, pp 0 0, pp 0 0, pp 0 0, pp 0 0, pp 0 0, pp 0 0, pp 0 0, pp 0 0, pp 0 0, pp 0 0, pp 0 0, pp 0 0, pp 0 0, pp 0 0, pp 0 0, pp 0 0, pp 0 0, pp 0 0, pp 0 0, pp 0 0, pp 0 0, pp 0 0, pp 0 0, pp 0 0, pp 0 0, pp 0 0, pp 0 0, pp 0 0, pp 0 0, pp 0 0, pp 0 0, pp 0 0, pp 0 0, pp 0 0, pp 0 0, pp 0 0, pp 0 0, pn 796 3, pn 2951 1, pn 507 1, pp 1 0]⟩

def row43 : Row := ⟨"ETH", "Ethiopia", [pp 115 6, pp 969 1, pp 14 2, pp 612 1, pn 273798111352106 13, pp 4196 3, pp 67803 0, pp 2165 0, pp 433025 0, pp 56993 3, pp 95414816 0, pp 85252171 0, pp 7556402 0, pp 632 4, pp 44 4, pp 71 4, pp 232 4, pp 12 4, pp 35 4, pn 31478962877561927 9, pn 14387993485502943 10, pn 4037451589032556 9, nn 6202788049993869 16, nn 8585142104344483 16, nn 880064085873057 15, nn 8610300209821691 16, nn 7647196146663819 16, nn 8465010015841778 16, nn 7160790937873946 16, nn 6244078632488954 16, nn 5047435128283269 16, nn 1597886241272786 16, nn 11266773147183 16, nn 654595369588667 15, nn 7035172944438609 16, nn 722375429344935 15, nn 764028443856726 15, nn 7457279579715841 16, nn 734403338476606 15, nn 6893502927250189 16, nn 528152237229308 15, nn 351409194964391 15, pn 2434685604 10, pp 0 0, pp 0 0, pp 0 0, pn 6531439639 12, pn 6531439639 12, pn 6531439639 12, pn 6531439639 12, pp 0 0, pn 2434685604 10, pn 2434685604 10, pn 2434685604 10, pn 106013658333333 7, pn 951048841666667 8, pp 8419611 0, pn 732873358333333 8, pn 632335616666667 8, pn 531797875 2, pn 4312601333333329 9, pn 33072239166666702 10, pn 22163465 1, pn 4312601333333329 9, pn 640885616666667 8, pp 8505111 0, pn 495831193847358 16, pn 34487163111508 16, pp 0 0, pn 345627464625377 16, pn 17464103009754 16, pp 0 0, pp 0 0, pp 0 0, pp 0 0, pp 0 0, pn 669862348197987 15, pn 14566384100351 16, pp 17903 0, pp 1 0, pn 11554799455639 15, pp 0 0, pp 0 0, pp 0 0, pp 0 0, pp 0 0, pp 0 0, pp 0 0, pp 0 0, pp 0 0, pp 0 0, pp 0 0, pp 0 0, pp 0 0, pp 0 0, pp 0 0, pp 0 0, pp 0 0, pp 0 0, pp 0 0, pp 0 0, pp 0 0, pp 0 0, pp 0 0, pp 0 0, pp 0 0, pp 0 0, pp 0 0, pp 0 0, pp 0 0, pp 0 0, pp 0 0, pp 0 0, pp 0 0, pp 0 0, pp 0 0, pp 0 0, pp 0 0, pp 0 0, pp 0 0, pp 0 0, pp 0 0, pp 0 0, pp 0 0, pp 0 0, pp 0 0, pp 0 0, pp 0 0, pp 0 0, pp 0 0, pp 0 0, pp 0 0, pp 0 0, pp 0 0, pp 0 0, pp 0 0, pp 0 0, pp 0 0, pp 0 0, pp 0 0, pp 0 0, pp 0 0, pp 0 0, pp 0 0, pp 0 0, pp 0 0, pp 0 0, pp 0 0, pp 0 0, pp 0 0, pp 0 0, pp 0 0, pp 0 0, pp 0 0, pp 0 0, pp 0 0, pp 0 0, pp 0 0, pp 0 0, pp 0 0, pp 0 0, pp 0 0, pp 0 0, pp 0 0, pp 0 0, pp 0 0, pp 0 0, pp 0 0, pp 0 0, pp 0 0, pp 0 0, pp 0 0, pp 0 0, pp 0 0, pp 0 0, pp 0 0, pp 0 0, pp 0 0, pp 0 0, pp 0 0, pp 0 0, pp 0 0, pp 0 0, pp 0 0, pp 0 0, pp 0 0, pp 0 0, pp 0 0, pp 0 0, pp 0 0, pp 0 0, pp 0 0, pp 0 0, pp 0 0, pp 0 0, pp 0 0, pp 0 0, pp 0 0, pp 0 0, pp 0 0, pp 0 0, pp 0 0, pp 0 0, pp 0 0, pp 0 0, pn 796 3, pn 3151 1, pn 52600002 6, pn 79999995 8]⟩

def row44 : Row := ⟨"FJI", "Fiji", [pp 896444 0, pp 838 1, pp 134 1, pp 52 2, pn 248016689944612 15, pp 11 3, pp 25368 0, pp 4085 0, pp 2507 0, pp 5668 3, pp 451391 0, pp 140913 0, pp 3262 1, pp 3 4, pp 1 4, pp 0 0, pp 3 4, pp 0 0, pp 0 0, pn 2034463450104137 10, pn 5225850010480214 12, pn 877242992981331 11, np 1 0, np 1 0, np 1 0, np 1 0, np 1 0, np 1 0, np 1 0, np 1 0, np 1 0, np 1 0, np 1 0, np 1 0, np 1 0, np 1 0, np 1 0, np 1 0, np 1 0, np 1 0, np 1 0, np 1 0, pp 0 0, pp 0 0, pp 0 0, pp 0 0, pn 25 2, pn 25 2, pn 25 2, pn 25 2, pp 0 0, pp 0 0, pp 0 0, pp 0 0, pn 824705 1, pn 650538333333333 10, pn 476371666666667 10, pn 302205 1, pn 650538333333333 10, pn 998871666666667 10, pn 1347205 1, pn 169553833333333 9, pn 15213716666666698 11, pn 1347205 1, pn 117303833333333 9, pn 998871666666667 10, pn 103350558426404 16, pp 0 0, pp 0 0, pn 375586854460094 16, pn 17464103009754 16, pn 273593659715552 15, pn 118234642241685 15, pn 682811189593585 16, pp 0 0, pp 0 0, pn 204667530267055 16, pn 445056490599934 19, pp 25 1, pp 1 0, pn 1613528382902 16, pn 9139150322913 16, pn 9139150322913 16, pn 9139150322913 16, pn 9139150322913 16, pn 175435425176481 14, pn 174687909534561 14, pn 132526710333623 14, pn 10894157867869 13, pn 128551540746042 14, pn 307586679183569 14, pn 411949723149241 14, pn 413001697107147 14, pn 373151259279135 14, pn 364494469935826 14, pn 367627345316203 14, pn 339438837233562 14, pn 296932453030631 14, pn 317154040234602 14, pn 351852666556997 14, pn 393109760974266 14, pn 452235855792299 14, pn 461793755125513 14, pn 441603255458607 14, pn 439978921580841 14, pn 438220531963644 14, pn 411845183381513 14, pn 395832540327996 14, pn 354770612592589 14, pn 341803660501108 14, pn 321197570317955 14, pn 316748399344889 14, pn 319474156198058 14, pn 346213013606221 14, pn 367188893855819 14, pn 349188069322977 14, pn 327363154790049 14, pn 308501789801726 14, pn 308379775952604 14, pn 287518849303107 14, pn 290088447251308 14, pn 269181648948018 14, pn 26680129851077 13, pn 259031644491008 14, pn 256088426967214 14, pn 269627574299937 14, pn 289092995161537 14, pn 280097323272331 14, pn 269837585523674 14, pn 249126191151516 14, pn 229206925463001 14, pn 23079073150992 13, pn 248857075959849 14, pn 255334859813408 14, pn 254146098040422 14, pn 232682190444455 14, pn 200538842205611 14, pn 20412851903952 13, pn 217108941741431 14, pn 221572766356145 14, pn 219718973936091 14, pn 192358462437988 14, pn 177795081819962 14, pn 196707082953172 14, pn 235094953689013 14, pn 248289211470693 14, pn 244611467822232 14, pn 203589403144879 14, pn 171552813720964 14, pn 171573129831579 14, pn 195742945535128 14, pn 211076216813198 14, pn 209764242946365 14, pn 193525287729021 14, pn 174835234696924 14, pn 184200138375307 14, pn 198728599785949 14, pn 242239712924235 14, pn 237794656833356 14, pn 192975688145191 14, pn 145044931027268 14, pn 144724928633821 14, pn 178901634680745 14, pn 225286382340578 14, pn 224369136180392 14, pn 195833706936713 14, pn 177174200828644 14, pn 183793335843467 14, pn 216031001800275 14, pn 243040512459709 14, pn 217367424274253 14, pn 16820003650444 13, pn 136242151907685 14, pn 137244104560406 14, pn 189544875656872 14, pn 239949654610283 14, pn 234797576473278 14, pn 21157738842697 13, pn 200284549480744 14, pn 205274380434133 14, pn 22941331015885 13, pn 249820951924197 14, pn 220583839959753 14, pn 184653273756604 14, pn 184625357144848 14, pn 175677871255755 14, pn 220391522300563 14, pn 269163164429181 14, pn 264123847045561 14, pn 246766054662045 14, pn 224144413592101 14, pn 236570465099245 14, pn 256996014850562 14, pn 279789150975588 14, pn 265288714690626 14, pn 205539887033517 14, pn 179700223612738 14, pn 178257449823275 14, pn 230092271225776 14, pn 307609931233833 14, pn 349287166624032 14, pn 311141515628867 14, pn 259955677117142 14, pn 247591379120906 14, pn 272667468091998 14, pn 796 3, pn 3399 1, pp 45 0, pn 19755 4]⟩

def row45 : Row := ⟨"GAB", "Gabon", [pp 2225728 0, pp 526 1, pp 9 2, pp 306 1, pp 0 0, pp 14 3, pp 399 1, pp 3573 0, pp 984 0, pp 3588 3, pp 561191 0, pp 39263 0, pp 10089 0, pp 4 4, pp 2 4, pp 0 0, pp 8 4, pp 0 0, pp 1 4, pn 3404921035585759 10, pn 1848923204325077 11, pn 22879712585395144 12, nn 517828731845138 16, nn 7564191830451448 16, nn 9033026572495386 16, nn 9156569502583825 16, nn 9301588714479164 16, nn 7884205394050773 16, nn 6901816123804025 16, nn 5329160419927103 16, nn 3903970751931353 16, nn 1582357352159532 16, nn 84504196712604 15, nn 492733563467002 15, nn 885128828692796 15, nn 813705471264238 15, nn 737698923196519 15, nn 7275824799032801 16, nn 828451414928448 15, nn 7732875686583429 16, nn 768935026506784 15, nn 7663802237790691 16, pp 0 0, pp 0 0, pp 0 0, pp 0 0, pn 25 2, pn 25 2, pn 25 2, pn 25 2, pp 0 0, pp 0 0, pp 0 0, pp 0 0, pp 145 2, pp 12 3, pp 95 2, pp 7 3, pp 12 3, pp 17 3, pp 22 3, pp 27 3, pp 245 2, pp 22 3, pp 195 2, pp 17 3, pn 116677121605879 15, pp 0 0, pp 0 0, pn 392156862745098 16, pn 17464103009754 16, pn 285767150489945 15, pn 124681972190424 15, pn 722276121155207 16, pp 0 0, pp 0 0, pn 111324987819054 15, pn 2420799641749 16, pp 495 0, pp 1 0, pn 3194786198146 16, pn 7163992945773 16, pn 7163992945773 16, pn 7163992945773 16, pn 7163992945773 16, pn 225563619622158 14, pn 224007972500148 14, pn 148606453827951 14, pn 114355202888872 14, pn 160951789253174 14, pn 521966083355326 14, pn 743437685745195 14, pn 747972711789109 14, pn 664280356141849 14, pn 646647044242444 14, pn 65771874112729 13, pn 615087329436925 14, pn 534977880528962 14, pn 571758638142947 14, pn 633725490408862 14, pn 710580962719998 14, pn 827223961234327 14, pn 854518932298853 14, pn 820843801067746 14, pn 816608141169708 14, pn 810982541964485 14, pn 755868200634493 14, pn 727441488563201 14, pn 653695979028396 14, pn 628534685511087 14, pn 589070949208488 14, pn 577589039896562 14, pn 581788069739559 14, pn 633828785774011 14, pn 683619681625962 14, pn 650726280711991 14, pn 608688789791755 14, pn 567459044912239 14, pn 561208414528042 14, pn 521499840213542 14, pn 527972658978082 14, pn 487388133502636 14, pn 483010833322668 14, pn 4676713228069 12, pn 460844068580014 14, pn 487837613254963 14, pn 531162341657829 14, pn 516884731434986 14, pn 497902067622137 14, pn 452361893257602 14, pn 407266102333234 14, pn 409386816082206 14, pn 443703262940789 14, pn 456681029282089 14, pn 453750216969654 14, pn 41069449815675 13, pn 347683974395228 14, pn 355036326450263 14, pn 3869939531218 12, pn 403586377822991 14, pn 401259844107923 14, pn 341374567255376 14, pn 306303937445421 14, pn 339662756674879 14, pn 414268590561571 14, pn 437778663119636 14, pn 426460470008121 14, pn 343931557743281 14, pn 284893096423649 14, pn 290026347343356 14, pn 344407639823311 14, pn 381088516403793 14, pn 37920574097581 13, pn 34168359641049 13, pn 297148329944834 14, pn 311217239211973 14, pn 339382155452187 14, pn 420949780539445 14, pn 405406533156939 14, pn 318779014623005 14, pn 229910459740717 14, pn 2373108082246 12, pn 31085020745919 13, pn 407807608795591 14, pn 405775190382202 14, pn 345063849689118 14, pn 300087762760537 14, pn 308478371667017 14, pn 369597783750681 14, pn 416213884386239 14, pn 35673784418279 13, pn 261088270593267 14, pn 20841204638453 13, pn 217349193744004 14, pn 327051500737282 14, pn 430934827503372 14, pn 423438857629996 14, pn 370150089910681 14, pn 342785217891785 14, pn 346413286727789 14, pn 388217941446816 14, pn 415270708063935 14, pn 349864476608232 14, pn 283136535533392 14, pn 292162278737474 14, pn 285190579039329 14, pn 378904646399308 14, pn 480046378209707 14, pn 476505625357688 14, pn 437905938224189 14, pn 388326244550295 14, pn 403945554491463 14, pn 427047613698725 14, pn 457654226002208 14, pn 423444946558973 14, pn 30901188433574 13, pn 274798000248855 14, pn 280908906252639 14, pn 393828629819519 14, pn 552466284019736 14, pn 638494859265154 14, pn 562808407419351 14, pn 455094432883848 14, pn 418448007315187 14, pn 454716994967059 14, pn 796 3, pp 1386 0, pp 3 1, pn 81219995 8]⟩

def row46 : Row := ⟨"GMB", "Gambia", [pp 2416664 0, pp 1206 1, pp 208 1, pp 696 1, pn 5050570789765 13, pp 78 3, pp 1619 0, pp 491 0, pp 4249 0, pp 1485 3, pp 436986 0, pp 553492 0, pp 5647 1, pp 13 4, pp 4 4, pp 0 0, pp 1 4, pp 0 0, pp 0 0, pn 2717617874579789 10, pn 4279754587872306 11, pn 3399675642940804 11, nn 3998619798828537 16, pn 3823558228742794 15, pn 16277324712940615 16, pn 67015933975805 15, nn 35541531850183 14, pn 6138936953877595 16, nn 3686775387473889 16, nn 4773934691912088 16, nn 3850408985050492 16, nn 4702284098411358 16, nn 377249745113902 16, nn 403603274265943 15, nn 616744193682283 15, nn 618048780442642 15, nn 531077616734724 15, nn 421457649277828 15, nn 318183467053755 15, nn 1856996134645369 16, nn 244950659556394 15, nn 290743268169703 15, pn 25 2, pp 0 0, pp 0 0, pp 0 0, pp 0 0, pp 0 0, pp 0 0, pp 0 0, pp 0 0, pn 25 2, pn 25 2, pn 25 2, pn 806641666666667 10, pn 764214583333333 10, pn 7217875 2, pn 679360416666667 10, pn 636933333333333 10, pn 59450625 3, pn 5520791666666669 11, pn 5096520833333331 11, pn 467225 1, pn 5520791666666669 11, pn 636933333333333 10, pn 7217875 2, pn 401357532831636 16, pp 0 0, pp 0 0, pn 692771084337349 16, pn 17464103009754 16, pp 0 0, pp 0 0, pp 0 0, pp 0 0, pp 0 0, pn 75805127752228 16, pn 164840822981861 19, pp 445 0, pp 1 0, pn 2872080521565 16, pn 6475925826688358 20, pn 6475925826688358 20, pn 6475925826688358 20, pn 5 4, pn 104462928928399 13, pn 107353565103232 13, pn 103932608079095 13, pn 100638214829153 13, pn 982932004629659 14, pn 114634503153017 13, pn 120526954443097 13, pn 117953723063019 13, pn 112609105076942 13, pn 108188162608913 13, pn 108923969502021 13, pn 106651249690074 13, pn 101094295235941 13, pn 106044455826692 13, pn 109671213470669 13, pn 112207097480749 13, pn 117010408027705 13, pn 112696083941088 13, pn 109466330865936 13, pn 108948534875927 13, pn 111131410401486 13, pn 105757769033842 13, pn 101486538753365 13, pn 926620088269116 14, pn 950795107489292 14, pn 944841786603207 14, pn 916579621268551 14, pn 939518053875552 14, pn 930831360797472 14, pn 951656216000671 14, pn 878261004294571 14, pn 842637110619779 14, pn 834535387647427 14, pn 811469814842215 14, pn 777873547403519 14, pn 799740831814672 14, pn 768162271492863 14, pn 775535678940707 14, pn 78456136695809 13, pn 788234241479958 14, pn 790781078607326 14, pn 796992828403785 14, pn 782723808395923 14, pn 73534558997615 13, pn 717735916257441 14, pn 709751757661668 14, pn 706669404843699 14, pn 707586049124551 14, pn 738572226635145 14, pn 752309127446057 14, pn 720838496609505 14, pn 655027553428903 14, pn 655448253473075 14, pn 645888118921901 14, pn 648965517527458 14, pn 64968067065901 13, pn 619850339649028 14, pn 604824136772273 14, pn 620631693653891 14, pn 689453906291949 14, pn 70713105533393 13, pn 724203367529441 14, pn 674423792822874 14, pn 605796302054787 14, pn 572105131885089 14, pn 610616217783801 14, pn 63466366735931 13, pn 617758778533267 14, pn 576987213429858 14, pn 560349207201704 14, pn 570229446048452 14, pn 618772250294256 14, pn 693159124987793 14, pn 674423743185867 14, pn 600210654335467 14, pn 512814169916847 14, pn 502593930465891 14, pn 534594022484031 14, pn 616879271037409 14, pn 639560287210772 14, pn 61202969661372 13, pn 582416971345373 14, pn 581482119544764 14, pn 649798348780194 14, pn 70734729062574 13, pn 671505722565057 14, pn 615883871482525 14, pn 559425102865466 14, pn 580431582857677 14, pn 666395616128984 14, pn 740532622296824 14, pn 762025318598269 14, pn 740149605611624 14, pn 731408057637338 14, pn 751655107975059 14, pn 813141637822371 14, pn 842689570286338 14, pn 808231205312287 14, pn 772271234389035 14, pn 766848468409568 14, pn 763426272878731 14, pn 828948314457289 14, pn 887088450069435 14, pn 908617933429853 14, pn 8982552869375 12, pn 898784203220411 14, pn 914822261669797 14, pn 969679902785242 14, pn 104383691960851 13, pn 104894561200081 13, pn 983465839803647 14, pn 925178884892611 14, pn 889368814313954 14, pn 930558460937762 14, pn 102161333252708 13, pn 106828489858603 13, pn 104031667734145 13, pn 100547590738195 13, pn 101101242926437 13, pn 108567151114467 13, pn 796 3, pn 13888 1, pp 4 1, pn 10361999 7]⟩

def row47 : Row := ⟨"GEO", "Georgia", [pp 3714 3, pp 2115 1, pp 355 1, pp 1236 1, pn 265755114598823 14, pp 575 3, pp 237 2, pp 198 2, pp 201 2, pp 978 4, pp 10471 2, pp 936438 0, pp 4418 2, pp 13 4, pp 3 4, pp 0 0, pp 21 4, pp 1 4, pp 4 4, pn 5122795981835056 10, pn 2903134735850821 11, pn 5599610094354238 11, np 1 0, np 1 0, np 1 0, nn 9872230743518738 16, nn 9949533063341484 16, nn 7335796331310313 16, nn 5494802980546115 16, nn 434967791451114 15, nn 3973314428502854 16, nn 2042471064190989 16, nn 1672965860435099 16, nn 994788359097315 15, nn 878355454769623 15, nn 892442173234402 15, nn 917972036060254 15, nn 925363152037274 15, nn 9108238228586468 16, nn 890110991959245 15, nn 850839325984517 15, nn 791558338733094 15, pp 0 0, pp 0 0, pp 0 0, pp 0 0, pp 0 0, pp 0 0, pn 25 2, pn 25 2, pn 25 2, pn 25 2, pp 0 0, pp 0 0, pn 2840975 1, pp 257888 0, pn 2316785 1, pp 205469 0, pn 1792595 1, pp 15305 1, pp 205469 0, pp 257888 0, pp 310307 0, pp 362726 0, pn 3365165 1, pp 310307 0, pn 192152647137866 16, pp 0 0, pn 101246105919003 16, pp 0 0, pn 17464103009754 16, pn 286121136120612 15, pn 124871304351863 15, pn 723438744606131 16, pp 0 0, pp 0 0, pn 885695176721904 16, pn 1925974220624 16, pp 428 0, pp 1 0, pn 2762360591528 16, pn 2509421257841 16, pn 2509421257841 16, pn 2509421257841 16, pn 5 4, pn 125307230730804 14, pn 125367846568973 14, pn 116446966839296 14, pn 103527954468509 14, pn 961512922389098 15, pn 932072750118132 15, pn 804617605532861 15, pn 780306824251848 15, pn 820221624164208 15, pn 823418956292081 15, pn 775359495051149 15, pn 637903450301987 15, pn 588870255322997 15, pn 625494423262561 15, pn 699798427051329 15, pn 756385592285336 15, pn 77247750350272 14, pn 690685779521733 15, pn 623627098494677 15, pn 633497019919744 15, pn 654585219628031 15, pn 678221661285326 15, pn 642235920927908 15, pn 558452461567825 15, pn 550726354911298 15, pn 533241914274222 15, pn 559077587932166 15, pn 571602426565577 15, pn 585972414384307 15, pn 507581060856766 15, pn 476498579339626 15, pn 460375197883433 15, pn 495445346912131 15, pn 555511373771659 15, pn 535378583926726 15, pn 522042355245346 15, pn 509751643933992 15, pn 505917636988734 15, pn 503919661751173 15, pn 513327853544145 15, pn 514175353449103 15, pn 470236486652447 15, pn 433099151096754 15, pn 417731034252111 15, pn 4589048904543 13, pn 511477485927674 15, pn 521946469376341 15, pn 540108889789081 15, pn 539886903447276 15, pn 545419791111906 15, pn 546698827321603 15, pn 533937100159938 15, pn 532207116287776 15, pn 472239303610618 15, pn 395591548892984 15, pn 381781037642599 15, pn 433423576206002 15, pn 492862261945019 15, pn 537514092314661 15, pn 559213168164554 15, pn 587997598217513 15, pn 627624656363427 15, pn 632472485464784 15, pn 582125310182791 15, pn 531199123198026 15, pn 470782512469459 15, pn 410639172226025 15, pn 403227449169194 15, pn 453669790475513 15, pn 525221394490141 15, pn 571830375386405 15, pn 580750441197102 15, pn 635296453090261 15, pn 701827805097738 15, pn 671723616673777 15, pn 60179402313819 14, pn 521390490430414 15, pn 469530619023012 15, pn 427651558855648 15, pn 42963081978582 14, pn 46603564184307 14, pn 542606388967509 15, pn 59108300019918 14, pn 624642198498689 15, pn 69867140533179 14, pn 779970043657163 15, pn 753118024156137 15, pn 640722574308407 15, pn 571390153768085 15, pn 520382505764622 15, pn 489644817171928 15, pn 461562953165597 15, pn 530046869432579 15, pn 577838810697034 15, pn 641354741404765 15, pn 706086788708845 15, pn 843711957844599 15, pn 913032033112738 15, pn 861700119798149 15, pn 770884355522217 15, pn 661651634721807 15, pn 618783982018184 15, pn 582799506486546 15, pn 517420687334327 15, pn 556261710999006 15, pn 599625826339062 15, pn 691953757070279 15, pn 869444160023993 15, pn 101924075948968 14, pn 107132482822279 14, pn 102067889731294 14, pn 846024469766208 15, pn 756059933939122 15, pn 66355912632032 14, pn 627535784479301 15, pn 600794739829099 15, pn 594746238383821 15, pn 648169213504355 15, pn 767347509266252 15, pn 906179412169381 15, pn 796 3, pn 9397 1, pn 354 1, pn 14793999 7]⟩

def row48 : Row := ⟨"GHA", "Ghana", [pp 31072945 0, pp 8468 1, pp 1383 1, pp 5048 1, pp 0 0, pp 46 3, pp 72138 0, pp 25358 0, pp 30729 0, pp 95455 3, pp 14419998 0, pp 1939975 0, pp 338955 0, pp 171 4, pp 45 4, pp 3 4, pp 271 4, pp 9 4, pp 28 4, pn 16509241999388097 9, pn 11650635686336372 10, pn 1058282991776514 9, nn 1079580844196174 16, nn 7420588991226644 16, nn 779814172482776 15, nn 7949035969805499 16, nn 7452962830540213 16, nn 6294779562251016 16, nn 3831931047681831 16, nn 2579585272583051 16, nn 950086333816572 16, nn 626276371734191 16, nn 657027416718827 16, nn 652666703582081 15, nn 600586145533809 15, nn 6757789171867201 16, nn 693366008289018 15, nn 622432219502266 15, nn 609621122442911 15, nn 571341531970468 15, nn 491455860716597 15, nn 193823825616224 15, pn 4874464617 11, pp 0 0, pp 0 0, pp 0 0, pp 0 0, pp 0 0, pn 2012553538 10, pn 2012553538 10, pn 2012553538 10, pn 25 2, pn 4874464617 11, pn 4874464617 11, pn 188505554166667 8, pn 170571533333333 8, pn 1526375125 3, pn 134703491666667 8, pn 116769470833333 8, pn 9883545 1, pn 124213241666667 8, pn 149591033333333 8, pn 174968825 2, pn 210836866666667 8, pn 20339309583333295 10, pn 195949325 2, pn 186279698473774 15, pp 0 0, pp 0 0, pn 572687224669604 16, pn 17464103009754 16, pn 11492920782762 14, pn 441866233438486 16, pn 246436510147656 16, pp 0 0, pp 0 0, pn 349336832911173 15, pn 7596447990058 16, pp 5221 0, pp 1 0, pn 33696926748528 16, pn 4363155025731 16, pn 4363155025731 16, pn 4363155025731 16, pn 5 4, pn 225563619622158 14, pn 224007972500148 14, pn 148606453827951 14, pn 114355202888872 14, pn 160951789253174 14, pn 521966083355326 14, pn 743437685745195 14, pn 747972711789109 14, pn 664280356141849 14, pn 646647044242444 14, pn 65771874112729 13, pn 615087329436925 14, pn 534977880528962 14, pn 571758638142947 14, pn 633725490408862 14, pn 710580962719998 14, pn 827223961234327 14, pn 854518932298853 14, pn 820843801067746 14, pn 816608141169708 14, pn 810982541964485 14, pn 755868200634493 14, pn 727441488563201 14, pn 653695979028396 14, pn 628534685511087 14, pn 589070949208488 14, pn 577589039896562 14, pn 581788069739559 14, pn 633828785774011 14, pn 683619681625962 14, pn 650726280711991 14, pn 608688789791755 14, pn 567459044912239 14, pn 561208414528042 14, pn 521499840213542 14, pn 527972658978082 14, pn 487388133502636 14, pn 483010833322668 14, pn 4676713228069 12, pn 460844068580014 14, pn 487837613254963 14, pn 531162341657829 14, pn 516884731434986 14, pn 497902067622137 14, pn 452361893257602 14, pn 407266102333234 14, pn 409386816082206 14, pn 443703262940789 14, pn 456681029282089 14, pn 453750216969654 14, pn 41069449815675 13, pn 347683974395228 14, pn 355036326450263 14, pn 3869939531218 12, pn 403586377822991 14, pn 401259844107923 14, pn 341374567255376 14, pn 306303937445421 14, pn 339662756674879 14, pn 414268590561571 14, pn 437778663119636 14, pn 426460470008121 14, pn 343931557743281 14, pn 284893096423649 14, pn 290026347343356 14, pn 344407639823311 14, pn 381088516403793 14, pn 37920574097581 13, pn 34168359641049 13, pn 297148329944834 14, pn 311217239211973 14, pn 339382155452187 14, pn 420949780539445 14, pn 405406533156939 14, pn 318779014623005 14, pn 229910459740717 14, pn 2373108082246 12, pn 31085020745919 13, pn 407807608795591 14, pn 405775190382202 14, pn 345063849689118 14, pn 300087762760537 14, pn 308478371667017 14, pn 369597783750681 14, pn 416213884386239 14, pn 35673784418279 13, pn 261088270593267 14, pn 20841204638453 13, pn 217349193744004 14, pn 327051500737282 14, pn 430934827503372 14, pn 423438857629996 14, pn 370150089910681 14, pn 342785217891785 14, pn 346413286727789 14, pn 388217941446816 14, pn 415270708063935 14, pn 349864476608232 14, pn 283136535533392 14, pn 292162278737474 14, pn 285190579039329 14, pn 378904646399308 14, pn 480046378209707 14, pn 476505625357688 14, pn 437905938224189 14, pn 388326244550295 14, pn 403945554491463 14, pn 427047613698725 14, pn 457654226002208 14, pn 423444946558973 14, pn 30901188433574 13, pn 274798000248855 14, pn 280908906252639 14, pn 393828629819519 14, pn 552466284019736 14, pn 638494859265154 14, pn 562808407419351 14, pn 455094432883848 14, pn 418448007315187 14, pn 454716994967059 14, pn 796 3, pn 1351 1, pn 425 1, pn 6915 4]⟩

def row49 : Row := ⟨"GTM", "Guatemala", [pp 16858333 0, pp 727 1, pp 87 1, pp 485 1, pn 217297494835114 13, pp 507 3, pp 234226 0, pp 64837 0, pp 227452 0, pp 35994 3, pp 3682493 0, pp 4265856 0, pp 709909 0, pp 127 4, pp 8 4, pp 2 4, pp 141 4, pp 6 4, pp 23 4, pn 66009802999747405 10, pn 5659031416159011 10, pn 4377335093170838 10, nn 1742366454555299 16, nn 7417990795806206 16, nn 8268657848062526 16, nn 8172378608853221 16, nn 6873711250492311 16, nn 6131651195345882 16, nn 4351955541714206 16, nn 969626593249227 16, pn 3108451948530106 16, pn 3410004451524251 16, pn 91504377131974 14, nn 179610102569948 15, nn 655401901077051 15, nn 745156490933842 15, nn 750553084240354 15, nn 7019672144816511 16, nn 5417888318469299 16, pn 219962452401801 16, pn 546213072011636 15, pn 148660962910481 14, pn 1588232706 10, pn 2190865303 12, pp 0 0, pp 0 0, pp 0 0, pp 0 0, pn 9117672936 11, pn 9117672936 11, pn 9117672936 11, pn 2478091347 10, pn 1588232706 10, pn 1588232706 10, pn 349691775 2, pn 312525425 2, pn 274355575 2, pn 236185725 2, pn 198015875 2, pn 159846025 2, pp 1634386 0, pn 167031175 2, pn 17062375 1, pn 24595995 1, pn 280537225 2, pp 3151145 0, pn 158140699324042 16, pp 0 0, pn 317142380237022 16, pp 0 0, pn 17464103009754 16, pn 203236903754661 15, pn 832509388096353 16, pn 472852385207165 16, pp 0 0, pp 0 0, pn 21602895282302 14, pn 4697622895333 16, pp 2045 0, pp 1 0, pn 13198662172139 16, pn 3237962913344 16, pn 3237962913344 16, pn 3237962913344 16, pn 5 4, pn 104462928928399 13, pn 107353565103232 13, pn 103932608079095 13, pn 100638214829153 13, pn 982932004629659 14, pn 114634503153017 13, pn 120526954443097 13, pn 117953723063019 13, pn 112609105076942 13, pn 108188162608913 13, pn 108923969502021 13, pn 106651249690074 13, pn 101094295235941 13, pn 106044455826692 13, pn 109671213470669 13, pn 112207097480749 13, pn 117010408027705 13, pn 112696083941088 13, pn 109466330865936 13, pn 108948534875927 13, pn 111131410401486 13, pn 105757769033842 13, pn 101486538753365 13, pn 926620088269116 14, pn 950795107489292 14, pn 944841786603207 14, pn 916579621268551 14, pn 939518053875552 14, pn 930831360797472 14, pn 951656216000671 14, pn 878261004294571 14, pn 842637110619779 14, pn 834535387647427 14, pn 811469814842215 14, pn 777873547403519 14, pn 799740831814672 14, pn 768162271492863 14, pn 775535678940707 14, pn 78456136695809 13, pn 788234241479958 14, pn 790781078607326 14, pn 796992828403785 14, pn 782723808395923 14, pn 73534558997615 13, pn 717735916257441 14, pn 709751757661668 14, pn 706669404843699 14, pn 707586049124551 14, pn 738572226635145 14, pn 752309127446057 14, pn 720838496609505 14, pn 655027553428903 14, pn 655448253473075 14, pn 645888118921901 14, pn 648965517527458 14, pn 64968067065901 13, pn 619850339649028 14, pn 604824136772273 14, pn 620631693653891 14, pn 689453906291949 14, pn 70713105533393 13, pn 724203367529441 14, pn 674423792822874 14, pn 605796302054787 14, pn 572105131885089 14, pn 610616217783801 14, pn 63466366735931 13, pn 617758778533267 14, pn 576987213429858 14, pn 560349207201704 14, pn 570229446048452 14, pn 618772250294256 14, pn 693159124987793 14, pn 674423743185867 14, pn 600210654335467 14, pn 512814169916847 14, pn 502593930465891 14, pn 534594022484031 14, pn 616879271037409 14, pn 639560287210772 14, pn 61202969661372 13, pn 582416971345373 14, pn 581482119544764 14, pn 649798348780194 14, pn 70734729062574 13, pn 671505722565057 14, pn 615883871482525 14, pn 559425102865466 14, pn 580431582857677 14, pn 666395616128984 14, pn 740532622296824 14, pn 762025318598269 14, pn 740149605611624 14, pn 731408057637338 14, pn 751655107975059 14, pn 813141637822371 14, pn 842689570286338 14, pn 808231205312287 14, pn 772271234389035 14, pn 766848468409568 14, pn 763426272878731 14, pn 828948314457289 14, pn 887088450069435 14, pn 908617933429853 14, pn 8982552869375 12, pn 898784203220411 14, pn 914822261669797 14, pn 969679902785242 14, pn 104383691960851 13, pn 104894561200081 13, pn 983465839803647 14, pn 925178884892611 14, pn 889368814313954 14, pn 930558460937762 14, pn 102161333252708 13, pn 106828489858603 13, pn 104031667734145 13, pn 100547590738195 13, pn 101101242926437 13, pn 108567151114467 13, pn 796 3, pn 71560004 5, pn 913 1, pn 17465 4]⟩

def row50 : Row := ⟨"GIN", "Guinea", [pp 13132792 0, pp 2527 1, pp 429 1, pp 1474 1, pn 277132296969559 15, pp 279 3, pp 12384 0, pp 2677 0, pp 105217 0, pp 34074 3, pp 6384985 0, pp 8373827 0, pp 705204 0, pp 36 4, pp 6 4, pp 3 4, pp 123 4, pp 7 4, pp 16 4, pn 6702710323802702 9, pn 5346610226503179 10, pn 5899621918422165 10, nn 921487706177567 16, nn 81818770033276 14, nn 8970958555661224 16, nn 9060755538101766 16, nn 8697399545333387 16, nn 7021063810514476 16, nn 4099291564688508 16, nn 1938184492115116 16, nn 1948569064906186 16, nn 673342242630364 16, nn 154256899142856 15, nn 632930169497134 15, nn 776898978118217 15, nn 7942330125007431 16, nn 7602423622512541 16, nn 658331327965007 15, nn 552290236270861 15, nn 4545173281924849 16, nn 315601142627695 15, nn 277465647098117 15, pn 25 2, pp 0 0, pp 0 0, pp 0 0, pp 0 0, pp 0 0, pp 0 0, pp 0 0, pp 0 0, pn 25 2, pn 25 2, pn 25 2, pn 158623233333333 8, pn 142390379166667 8, pn 126157525 2, pn 109924670833333 8, pn 9369181666666672 10, pn 774589625 3, pn 612261083333334 9, pn 44993254166666704 11, pp 287604 0, pn 6122610833333329 10, pn 9369181666666672 10, pn 126157525 2, pn 100715842581016 15, pp 0 0, pp 0 0, pn 801138674257829 16, pn 17464103009754 16, pp 0 0, pp 0 0, pp 0 0, pp 0 0, pp 0 0, pn 666280996224936 16, pn 1448850638625 16, pp 38 2, pp 1 0, pn 24525631420112 16, pn 2590370330675 16, pn 2590370330675 16, pn 2590370330675 16, pn 5 4, pn 225563619622158 14, pn 224007972500148 14, pn 148606453827951 14, pn 114355202888872 14, pn 160951789253174 14, pn 521966083355326 14, pn 743437685745195 14, pn 747972711789109 14, pn 664280356141849 14, pn 646647044242444 14, pn 65771874112729 13, pn 615087329436925 14, pn 534977880528962 14, pn 571758638142947 14, pn 633725490408862 14, pn 710580962719998 14, pn 827223961234327 14, pn 854518932298853 14, pn 820843801067746 14, pn 816608141169708 14, pn 810982541964485 14, pn 755868200634493 14, pn 727441488563201 14, pn 653695979028396 14, pn 628534685511087 14, pn 589070949208488 14, pn 577589039896562 14, pn 581788069739559 14, pn 633828785774011 14, pn 683619681625962 14, pn 650726280711991 14, pn 608688789791755 14, pn 567459044912239 14, pn 561208414528042 14, pn 521499840213542 14, pn 527972658978082 14, pn 487388133502636 14, pn 483010833322668 14, pn 4676713228069 12, pn 460844068580014 14, pn 487837613254963 14, pn 531162341657829 14, pn 516884731434986 14, pn 497902067622137 14, pn 452361893257602 14, pn 407266102333234 14, pn 409386816082206 14, pn 443703262940789 14, pn 456681029282089 14, pn 453750216969654 14, pn 41069449815675 13, pn 347683974395228 14, pn 355036326450263 14, pn 3869939531218 12, pn 403586377822991 14, pn 401259844107923 14, pn 341374567255376 14, pn 306303937445421 14, pn 339662756674879 14, pn 414268590561571 14, pn 437778663119636 14, pn 426460470008121 14, pn 343931557743281 14, pn 284893096423649 14, pn 290026347343356 14, pn 344407639823311 14, pn 381088516403793 14, pn 37920574097581 13, pn 34168359641049 13, pn 297148329944834 14, pn 311217239211973 14, pn 339382155452187 14, pn 420949780539445 14, pn 405406533156939 14, pn 318779014623005 14, pn 229910459740717 14, pn 2373108082246 12, pn 31085020745919 13, pn 407807608795591 14, pn 405775190382202 14, pn 345063849689118 14, pn 300087762760537 14, pn 308478371667017 14, pn 369597783750681 14, pn 416213884386239 14, pn 35673784418279 13, pn 261088270593267 14, pn 20841204638453 13, pn 217349193744004 14, pn 327051500737282 14, pn 430934827503372 14, pn 423438857629996 14, pn 370150089910681 14, pn 342785217891785 14, pn 346413286727789 14, pn 388217941446816 14, pn 415270708063935 14, pn 349864476608232 14, pn 283136535533392 14, pn 292162278737474 14, pn 285190579039329 14, pn 378904646399308 14, pn 480046378209707 14, pn 476505625357688 14, pn 437905938224189 14, pn 388326244550295 14, pn 403945554491463 14, pn 427047613698725 14, pn 457654226002208 14, pn 423444946558973 14, pn 30901188433574 13, pn 274798000248855 14, pn 280908906252639 14, pn 393828629819519 14, pn 552466284019736 14, pn 638494859265154 14, pn 562808407419351 14, pn 455094432883848 14, pn 418448007315187 14, pn 454716994967059 14, pn 796 3, pn 18740001 5, pn 124700005 6, pn 15617 4]⟩

def row51 : Row := ⟨"GNB", "Guinea-Bissau", [pp 1967998 0, pp 114 1, pp 21 1, pp 66 1, pn 734191867316669 15, pp 41 3, pp 3155 0, pp 14093 0, pp 729 1, pp 218 4, pp 1818204 0, pp 728381 0, pp 109069 0, pp 2 4, pp 1 4, pp 0 0, pp 2 4, pp 0 0, pp 0 0, pn 4021212993701616 10, pn 448121800753576 10, pn 3393402988790622 11, pn 781376139796609 16, nn 1537003094566546 16, nn 3900823376765363 16, nn 7494888304503325 16, nn 6364900197884609 16, nn 4876475739942186 16, nn 2366140772594409 16, nn 229132574686949 16, pn 3594936193009958 16, pn 2402923634099257 16, nn 164556504567608 15, nn 406708293757947 15, nn 606486553408205 15, nn 5723288921060881 16, nn 462981551244975 15, nn 146160805422874 15, nn 309289099207153 15, nn 1473027972719049 16, nn 19312934055209 14, nn 168099117369309 15, pn 25 2, pp 0 0, pp 0 0, pp 0 0, pp 0 0, pp 0 0, pp 0 0, pp 0 0, pp 0 0, pn 25 2, pn 25 2, pn 25 2, pn 714958333333333 10, pn 636129166666667 10, pp 5573 1, pn 478470833333333 10, pn 399641666666666 10, pn 3208125 2, pn 241983333333333 10, pn 163154166666667 10, pn 84325 1, pn 241983333333333 10, pn 399641666666667 10, pp 5573 1, pn 402255066280664 16, pp 0 0, pp 0 0, pn 183098591549296 15, pn 17464103009754 16, pp 0 0, pp 0 0, pp 0 0, pp 0 0, pp 0 0, pn 23033226271688 16, pn 500865322325236 20, pp 55 1, pp 1 0, pn 3549762442384 16, pn 2833217549176 16, pn 2833217549176 16, pn 2833217549176 16, pn 5 4, pn 225563619622158 14, pn 224007972500148 14, pn 148606453827951 14, pn 114355202888872 14, pn 160951789253174 14, pn 521966083355326 14, pn 743437685745195 14, pn 747972711789109 14, pn 664280356141849 14, pn 646647044242444 14, pn 65771874112729 13, pn 615087329436925 14, pn 534977880528962 14, pn 571758638142947 14, pn 633725490408862 14, pn 710580962719998 14, pn 827223961234327 14, pn 854518932298853 14, pn 820843801067746 14, pn 816608141169708 14, pn 810982541964485 14, pn 755868200634493 14, pn 727441488563201 14, pn 653695979028396 14, pn 628534685511087 14, pn 589070949208488 14, pn 577589039896562 14, pn 581788069739559 14, pn 633828785774011 14, pn 683619681625962 14, pn 650726280711991 14, pn 608688789791755 14, pn 567459044912239 14, pn 561208414528042 14, pn 521499840213542 14, pn 527972658978082 14, pn 487388133502636 14, pn 483010833322668 14, pn 4676713228069 12, pn 460844068580014 14, pn 487837613254963 14, pn 531162341657829 14, pn 516884731434986 14, pn 497902067622137 14, pn 452361893257602 14, pn 407266102333234 14, pn 409386816082206 14, pn 443703262940789 14, pn 456681029282089 14, pn 453750216969654 14, pn 41069449815675 13, pn 347683974395228 14, pn 355036326450263 14, pn 3869939531218 12, pn 403586377822991 14, pn 401259844107923 14, pn 341374567255376 14, pn 306303937445421 14, pn 339662756674879 14, pn 414268590561571 14, pn 437778663119636 14, pn 426460470008121 14, pn 343931557743281 14, pn 284893096423649 14, pn 290026347343356 14, pn 344407639823311 14, pn 381088516403793 14, pn 37920574097581 13, pn 34168359641049 13, pn 297148329944834 14, pn 311217239211973 14, pn 339382155452187 14, pn 420949780539445 14, pn 405406533156939 14, pn 318779014623005 14, pn 229910459740717 14, pn 2373108082246 12, pn 31085020745919 13, pn 407807608795591 14, pn 405775190382202 14, pn 345063849689118 14, pn 300087762760537 14, pn 308478371667017 14, pn 369597783750681 14, pn 416213884386239 14, pn 35673784418279 13, pn 261088270593267 14, pn 20841204638453 13, pn 217349193744004 14, pn 327051500737282 14, pn 430934827503372 14, pn 423438857629996 14, pn 370150089910681 14, pn 342785217891785 14, pn 346413286727789 14, pn 388217941446816 14, pn 415270708063935 14, pn 349864476608232 14, pn 283136535533392 14, pn 292162278737474 14, pn 285190579039329 14, pn 378904646399308 14, pn 480046378209707 14, pn 476505625357688 14, pn 437905938224189 14, pn 388326244550295 14, pn 403945554491463 14, pn 427047613698725 14, pn 457654226002208 14, pn 423444946558973 14, pn 30901188433574 13, pn 274798000248855 14, pn 280908906252639 14, pn 393828629819519 14, pn 552466284019736 14, pn 638494859265154 14, pn 562808407419351 14, pn 455094432883848 14, pn 418448007315187 14, pn 454716994967059 14, pn 796 3, pn 125200005 6, pn 397 1, pn 83129996 8]⟩

def row52 : Row := ⟨"GUY", "Guyana", [pp 786559 0, pp 648 1, pp 63 1, pp 475 1, pn 402712888001589 16, pp 55 3, pp 47112 0, pp 793 0, pp 2927 0, pp 3029 4, pp 225184 0, pp 99692 0, pp 39 3, pp 16 4, pp 2 4, pp 1 4, pp 29 4, pp 2 4, pp 3 4, pn 8787896024081216 10, pn 3352474430355682 11, pn 5969387719977806 11, pn 3118578873137236 16, nn 310458207795129 16, nn 7483852368008834 16, nn 8306259176483674 16, nn 6680833643744567 16, nn 3721337654213413 16, pn 570004422840803 16, pn 270621571937524 15, pn 5172869356837074 16, pn 6702267640785923 16, nn 693529474424524 16, nn 506284077754161 15, nn 6346278361912681 16, nn 7306389989541741 16, nn 769784906296873 15, nn 817579187133966 15, nn 770446609668531 15, nn 6549289021657291 16, nn 6279757829321251 16, nn 496410465709822 15, pn 25 2, pn 1864231768 10, pn 1864231768 10, pn 1864231768 10, pp 0 0, pp 0 0, pp 0 0, pp 0 0, pp 0 0, pn 6357682322 11, pn 6357682322 11, pn 6357682322 11, pn 227117791666667 9, pn 30355633333333296 11, pn 379994875 3, pn 456433416666667 9, pn 394643833333333 9, pn 33285425 2, pn 27106466666666704 11, pn 209275083333333 9, pn 1474855 1, pn 132836541666667 9, pn 118187583333333 9, pn 24176675 2, pn 710302708443972 16, pp 0 0, pp 0 0, pp 0 0, pn 17464103009754 16, pn 267240410029697 15, pn 114918321889979 15, pn 662606383808331 16, pp 0 0, pp 0 0, pp 0 0, pp 0 0, pp 46 1, pp 1 0, pn 2968892224539 16, pn 3715562443062 16, pn 3715562443062 16, pn 3715562443062 16, pn 5 4, pn 175435425176481 14, pn 174687909534561 14, pn 132526710333623 14, pn 10894157867869 13, pn 128551540746042 14, pn 307586679183569 14, pn 411949723149241 14, pn 413001697107147 14, pn 373151259279135 14, pn 364494469935826 14, pn 367627345316203 14, pn 339438837233562 14, pn 296932453030631 14, pn 317154040234602 14, pn 351852666556997 14, pn 393109760974266 14, pn 452235855792299 14, pn 461793755125513 14, pn 441603255458607 14, pn 439978921580841 14, pn 438220531963644 14, pn 411845183381513 14, pn 395832540327996 14, pn 354770612592589 14, pn 341803660501108 14, pn 321197570317955 14, pn 316748399344889 14, pn 319474156198058 14, pn 346213013606221 14, pn 367188893855819 14, pn 349188069322977 14, pn 327363154790049 14, pn 308501789801726 14, pn 308379775952604 14, pn 287518849303107 14, pn 290088447251308 14, pn 269181648948018 14, pn 26680129851077 13, pn 259031644491008 14, pn 256088426967214 14, pn 269627574299937 14, pn 289092995161537 14, pn 280097323272331 14, pn 269837585523674 14, pn 249126191151516 14, pn 229206925463001 14, pn 23079073150992 13, pn 248857075959849 14, pn 255334859813408 14, pn 254146098040422 14, pn 232682190444455 14, pn 200538842205611 14, pn 20412851903952 13, pn 217108941741431 14, pn 221572766356145 14, pn 219718973936091 14, pn 192358462437988 14, pn 177795081819962 14, pn 196707082953172 14, pn 235094953689013 14, pn 248289211470693 14, pn 244611467822232 14, pn 203589403144879 14, pn 171552813720964 14, pn 171573129831579 14, pn 195742945535128 14, pn 211076216813198 14, pn 209764242946365 14, pn 193525287729021 14, pn 174835234696924 14, pn 184200138375307 14, pn 198728599785949 14, pn 242239712924235 14, pn 237794656833356 14, pn 192975688145191 14, pn 145044931027268 14, pn 144724928633821 14, pn 178901634680745 14, pn 225286382340578 14, pn 224369136180392 14, pn 195833706936713 14, pn 177174200828644 14, pn 183793335843467 14, pn 216031001800275 14, pn 243040512459709 14, pn 217367424274253 14, pn 16820003650444 13, pn 136242151907685 14, pn 137244104560406 14, pn 189544875656872 14, pn 239949654610283 14, pn 234797576473278 14, pn 21157738842697 13, pn 200284549480744 14, pn 205274380434133 14, pn 22941331015885 13, pn 249820951924197 14, pn 220583839959753 14, pn 184653273756604 14, pn 184625357144848 14, pn 175677871255755 14, pn 220391522300563 14, pn 269163164429181 14, pn 264123847045561 14, pn 246766054662045 14, pn 224144413592101 14, pn 236570465099245 14, pn 256996014850562 14, pn 279789150975588 14, pn 265288714690626 14, pn 205539887033517 14, pn 179700223612738 14, pn 178257449823275 14, pn 230092271225776 14, pn 307609931233833 14, pn 349287166624032 14, pn 311141515628867 14, pn 259955677117142 14, pn 247591379120906 14, pn 272667468091998 14, pn 796 3, pn 14103 1, pp 64 0, pn 15113 4]⟩

def row53 : Row := ⟨"HTI", "Haiti", [pp 11402533 0, pp 288 1, pp 42 1, pp 196 1, pn 46171801584984 13, pp 101 3, pp 8707 0, pp 3181 1, pp 48287 0, pp 641 4, pp 3097829 0, pp 2307723 0, pp 195574 0, pp 35 4, pp 15 4, pp 0 0, pp 16 4, pp 1 4, pp 2 4, pn 10279426187334458 10, pn 5349655298314009 11, pn 8593427050806985 11, pn 6277420911843844 16, pn 5848546241532977 16, pn 5838795775608274 16, pn 4860169054642393 16, pn 9189048707205008 16, pn 18138334628397093 16, pn 32061361382755864 16, pn 3678752940947169 15, pn 16854241274993012 16, pn 11072276172869702 16, pn 382534266379822 14, pn 145799478952845 14, pn 3398468774796609 16, pn 3090652394713979 16, pn 548173204797395 15, pn 96544479144437 14, pn 195207632671926 14, pn 39382914238777103 16, pn 662964910036368 14, pn 603754449421111 14, pp 0 0, pp 0 0, pp 0 0, pp 0 0, pp 0 0, pp 0 0, pn 25 2, pn 25 2, pn 25 2, pn 25 2, pp 0 0, pp 0 0, pn 270544083333333 9, pn 246731166666667 9, pn 22291825 2, pn 199105333333333 9, pn 175292416666667 9, pn 1514795 1, pn 199105333333333 9, pn 246731166666667 9, pp 294357 0, pn 341982833333333 9, pn 318169916666667 9, pp 294357 0, pn 820795516842298 16, pp 0 0, pp 0 0, pn 806324110671937 16, pn 17464103009754 16, pp 0 0, pp 0 0, pp 0 0, pp 0 0, pp 0 0, pn 579770923145062 16, pn 1260731548722 16, pp 135 1, pp 1 0, pn 8713053267671 16, pn 14336080798831 16, pn 14336080798831 16, pn 14336080798831 16, pn 14336080798831 16, pn 225563619622158 14, pn 224007972500148 14, pn 148606453827951 14, pn 114355202888872 14, pn 160951789253174 14, pn 521966083355326 14, pn 743437685745195 14, pn 747972711789109 14, pn 664280356141849 14, pn 646647044242444 14, pn 65771874112729 13, pn 615087329436925 14, pn 534977880528962 14, pn 571758638142947 14, pn 633725490408862 14, pn 710580962719998 14, pn 827223961234327 14, pn 854518932298853 14, pn 820843801067746 14, pn 816608141169708 14, pn 810982541964485 14, pn 755868200634493 14, pn 727441488563201 14, pn 653695979028396 14, pn 628534685511087 14, pn 589070949208488 14, pn 577589039896562 14, pn 581788069739559 14, pn 633828785774011 14, pn 683619681625962 14, pn 650726280711991 14, pn 608688789791755 14, pn 567459044912239 14, pn 561208414528042 14, pn 521499840213542 14, pn 527972658978082 14, pn 487388133502636 14, pn 483010833322668 14, pn 4676713228069 12, pn 460844068580014 14, pn 487837613254963 14, pn 531162341657829 14, pn 516884731434986 14, pn 497902067622137 14, pn 452361893257602 14, pn 407266102333234 14, pn 409386816082206 14, pn 443703262940789 14, pn 456681029282089 14, pn 453750216969654 14, pn 41069449815675 13, pn 347683974395228 14, pn 355036326450263 14, pn 3869939531218 12, pn 403586377822991 14, pn 401259844107923 14, pn 341374567255376 14, pn 306303937445421 14, pn 339662756674879 14, pn 414268590561571 14, pn 437778663119636 14, pn 426460470008121 14, pn 343931557743281 14, pn 284893096423649 14, pn 290026347343356 14, pn 344407639823311 14, pn 381088516403793 14, pn 37920574097581 13, pn 34168359641049 13, pn 297148329944834 14, pn 311217239211973 14, pn 339382155452187 14, pn 420949780539445 14, pn 405406533156939 14, pn 318779014623005 14, pn 229910459740717 14, pn 2373108082246 12, pn 31085020745919 13, pn 407807608795591 14, pn 405775190382202 14, pn 345063849689118 14, pn 300087762760537 14, pn 308478371667017 14, pn 369597783750681 14, pn 416213884386239 14, pn 35673784418279 13, pn 261088270593267 14, pn 20841204638453 13, pn 217349193744004 14, pn 327051500737282 14, pn 430934827503372 14, pn 423438857629996 14, pn 370150089910681 14, pn 342785217891785 14, pn 346413286727789 14, pn 388217941446816 14, pn 415270708063935 14, pn 349864476608232 14, pn 283136535533392 14, pn 292162278737474 14, pn 285190579039329 14, pn 378904646399308 14, pn 480046378209707 14, pn 476505625357688 14, pn 437905938224189 14, pn 388326244550295 14, pn 403945554491463 14, pn 427047613698725 14, pn 457654226002208 14, pn 423444946558973 14, pn 30901188433574 13, pn 274798000248855 14, pn 280908906252639 14, pn 393828629819519 14, pn 552466284019736 14, pn 638494859265154 14, pn 562808407419351 14, pn 455094432883848 14, pn 418448007315187 14, pn 454716994967059 14, pn 796 3, pn 120700005 6, pp 6 1, pn 91029996 8]⟩

def row54 : Row := ⟨"HND", "Honduras", [pp 9904608 0, pp 1077 1, pp 1 3, pp 769 1, pn 687889359089065 14, pp 681 3, pp 193527 0, pp 9903 0, pp 63681 0, pp 47601 3, pp 502236 0, pp 3114998 0, pp 498124 0, pp 25 4, pp 11 4, pp 0 0, pp 65 4, pp 3 4, pp 11 4, pn 23367787201575413 10, pn 3495697991207775 10, pn 15449486678381715 11, nn 1075747624417071 16, nn 6786054120768612 16, nn 9115636927266594 16, nn 8510348437017332 16, nn 8152309426311778 16, nn 5747474327577442 16, nn 2471310250083707 16, nn 136554937422475 16, pn 3843113178798802 16, pn 1996143676987766 16, pn 381941393840577 15, nn 283194323863584 15, nn 675773448841207 15, nn 769115571463889 15, nn 7813272518669601 16, nn 734927236396822 15, nn 602857468716144 15, nn 316260682181101 15, pn 166863073157175 15, pn 524361340641856 15, pn 1435101141 10, pp 0 0, pp 0 0, pp 0 0, pp 0 0, pp 0 0, pn 1064898859 10, pn 1064898859 10, pn 1064898859 10, pn 25 2, pn 1435101141 10, pn 1435101141 10, pn 122259333333333 8, pn 113904666666667 8, pp 10555 2, pn 971953333333333 9, pn 888406666666667 9, pp 80486 1, pn 828075833333333 9, pn 851291666666667 9, pn 8745075 1, pn 104160083333333 8, pn 110193166666667 8, pn 11622625 1, pn 154785604044109 16, pp 0 0, pp 0 0, pn 794556059624109 16, pn 17464103009754 16, pn 127419523538384 15, pn 494180230269668 16, pn 276281739998352 16, pp 0 0, pp 0 0, pn 11486981169016 14, pn 2497883039874 16, pp 1596 0, pp 1 0, pn 10300765196447 16, pn 6734962859755 16, pn 6734962859755 16, pn 6734962859755 16, pn 6734962859755 16, pn 225563619622158 14, pn 224007972500148 14, pn 148606453827951 14, pn 114355202888872 14, pn 160951789253174 14, pn 521966083355326 14, pn 743437685745195 14, pn 747972711789109 14, pn 664280356141849 14, pn 646647044242444 14, pn 65771874112729 13, pn 615087329436925 14, pn 534977880528962 14, pn 571758638142947 14, pn 633725490408862 14, pn 710580962719998 14, pn 827223961234327 14, pn 854518932298853 14, pn 820843801067746 14, pn 816608141169708 14, pn 810982541964485 14, pn 755868200634493 14, pn 727441488563201 14, pn 653695979028396 14, pn 628534685511087 14, pn 589070949208488 14, pn 577589039896562 14, pn 581788069739559 14, pn 633828785774011 14, pn 683619681625962 14, pn 650726280711991 14, pn 608688789791755 14, pn 567459044912239 14, pn 561208414528042 14, pn 521499840213542 14, pn 527972658978082 14, pn 487388133502636 14, pn 483010833322668 14, pn 4676713228069 12, pn 460844068580014 14, pn 487837613254963 14, pn 531162341657829 14, pn 516884731434986 14, pn 497902067622137 14, pn 452361893257602 14, pn 407266102333234 14, pn 409386816082206 14, pn 443703262940789 14, pn 456681029282089 14, pn 453750216969654 14, pn 41069449815675 13, pn 347683974395228 14, pn 355036326450263 14, pn 3869939531218 12, pn 403586377822991 14, pn 401259844107923 14, pn 341374567255376 14, pn 306303937445421 14, pn 339662756674879 14, pn 414268590561571 14, pn 437778663119636 14, pn 426460470008121 14, pn 343931557743281 14, pn 284893096423649 14, pn 290026347343356 14, pn 344407639823311 14, pn 381088516403793 14, pn 37920574097581 13, pn 34168359641049 13, pn 297148329944834 14, pn 311217239211973 14, pn 339382155452187 14, pn 420949780539445 14, pn 405406533156939 14, pn 318779014623005 14, pn 229910459740717 14, pn 2373108082246 12, pn 31085020745919 13, pn 407807608795591 14, pn 405775190382202 14, pn 345063849689118 14, pn 300087762760537 14, pn 308478371667017 14, pn 369597783750681 14, pn 416213884386239 14, pn 35673784418279 13, pn 261088270593267 14, pn 20841204638453 13, pn 217349193744004 14, pn 327051500737282 14, pn 430934827503372 14, pn 423438857629996 14, pn 370150089910681 14, pn 342785217891785 14, pn 346413286727789 14, pn 388217941446816 14, pn 415270708063935 14, pn 349864476608232 14, pn 283136535533392 14, pn 292162278737474 14, pn 285190579039329 14, pn 378904646399308 14, pn 480046378209707 14, pn 476505625357688 14, pn 437905938224189 14, pn 388326244550295 14, pn 403945554491463 14, pn 427047613698725 14, pn 457654226002208 14, pn 423444946558973 14, pn 30901188433574 13, pn 274798000248855 14, pn 280908906252639 14, pn 393828629819519 14, pn 552466284019736 14, pn 638494859265154 14, pn 562808407419351 14, pn 455094432883848 14, pn 418448007315187 14, pn 454716994967059 14, pn 796 3, pp 1372 0, pn 638 1, pn 1925 3]⟩

def row55 : Row := ⟨"IND", "India", [pp 138 7, pp 200628 1, pp 2935 2, pp 125378 1, pn 24782330673889496 14, pp 187631 3, pp 3550636 0, pp 335932 0, pp 916581 0, pp 826539 3, pp 22720036 1, pp 30510166 1, pp 51568474 0, pp 3068 4, pp 1019 4, pp 9 4, pp 4961 4, pp 309 4, pp 1296 4, pn 40941958671793866 8, pn 1910509839686382 8, pn 45581557460817024 9, nn 2624714700757048 16, nn 7381187957747766 16, nn 7259820592412984 16, nn 6349851532364248 16, nn 5689664166789621 16, nn 5249119533522956 16, nn 5075385763800265 16, nn 2514923154140854 16, pn 726714800659476 16, pn 1273636410269845 16, nn 475714712561113 15, nn 8398169952092159 16, nn 811286813904806 15, nn 8495838482646759 16, nn 903254615598771 15, nn 7914547642326331 16, nn 768750807754888 15, nn 694381200575521 15, nn 496022365533437 15, nn 292358497455753 15, pn 1675625879 10, pn 2476733476 11, pp 0 0, pn 8243741208 11, pn 8243741208 11, pn 8243741208 11, pn 8243741208 11, pp 0 0, pp 0 0, pn 1427952532 10, pn 1675625879 10, pn 1675625879 10, pn 162725683083333 6, pn 14879660704166698 8, pn 1289769785 1, pn 128763896583333 6, pn 128550814666667 6, pn 12833773275 2, pn 128124650833333 6, pn 108305022291667 6, pn 8848539375 2, pn 102627551708333 6, pn 122660262166667 6, pn 142692972625 3, pn 602519687612474 16, pn 1048777403165 16, pp 0 0, pn 11943159951981 15, pn 17464103009754 16, pn 158087731968582 15, pn 626604594476387 16, pn 352481463530724 16, pp 24348 2, pn 160714842298197 16, pn 155650277750535 13, pn 33846681144864 15, pp 169317 0, pp 1 0, pn 109279114083138 15, pn 56664350983523 16, pn 56664350983523 16, pn 56664350983523 16, pn 56664350983523 16, pn 19214482332504 13, pn 19112793052309 13, pn 137886624831733 14, pn 110746120082084 14, pn 139351623581752 14, pn 379046480574155 14, pn 522445710681225 14, pn 524658702001134 14, pn 470194291566706 14, pn 458545328038032 14, pn 464324477253232 14, pn 431321667968016 14, pn 376280928863408 14, pn 402022239537383 14, pn 445810274507619 14, pn 49893349488951 13, pn 577231890939642 14, pn 592702147516626 14, pn 568016770661653 14, pn 56552199477713 13, pn 562474535297258 14, pn 52651952246584 13, pn 506368856406398 14, pn 454412401404525 14, pn 437380668837768 14, pn 410488696614799 14, pn 40369527952878 13, pn 406912127378559 14, pn 442084937662151 14, pn 472665823112533 14, pn 449700806452648 14, pn 421138366457284 14, pn 394820874838564 14, pn 392655988811083 14, pn 365512512939919 14, pn 369383184493566 14, pn 341917143799557 14, pn 338871143448069 14, pn 328578203929639 14, pn 324340307504814 14, pn 342364253951612 14, pn 369782777326967 14, pn 359026459326549 14, pn 345859079556495 14, pn 316871425186878 14, pn 288559984419745 14, pn 290322759700682 14, pn 313805804953496 14, pn 322450249636302 14, pn 320680804350166 14, pn 292019626348553 14, pn 24958721960215 13, pn 254431121509768 14, pn 27373727886822 13, pn 282243970178427 14, pn 280232597326702 14, pn 242030497377117 14, pn 220631367028448 14, pn 244358974193741 14, pn 294819499313199 14, pn 311452362020341 14, pn 305227801884195 14, pn 250370121344346 14, pn 209332907955192 14, pn 211057535668838 14, pn 245297843631189 14, pn 267746983343396 14, pn 266244742289513 14, pn 242911390622844 14, pn 215606266446227 14, pn 226539171987529 14, pn 245613118341361 14, pn 301809735462638 14, pn 29366528227455 13, pn 234910130304463 14, pn 173333440598418 14, pn 175586888497414 14, pn 22288449227356 13, pn 286126791158916 14, pn 284837820914329 14, pn 245577087854181 14, pn 218145388139275 14, pn 225355014451317 14, pn 267219929117077 14, pn 300764969768552 14, pn 263824230910432 14, pn 199162781200716 14, pn 160298783399967 14, pn 163945800954939 14, pn 235380417350342 14, pn 303611378907979 14, pn 297678003525517 14, pn 264434955588207 14, pn 247784772284425 14, pn 252320682532018 14, pn 282348187254839 14, pn 304970870637443 14, pn 263677385509246 14, pn 2174810276822 12, pn 220470997675723 14, pn 212182107183613 14, pn 273229230333478 14, pn 339457569022689 14, pn 334917773149603 14, pn 31047934918276 13, pn 278871690578165 14, pn 292362161563318 14, pn 313679881133283 14, pn 339077509317795 14, pn 318007458646742 14, pn 240030552800924 14, pn 211399482491444 14, pn 212474601966396 14, pn 28467105742369 13, pn 389228715495801 14, pn 445689730837739 14, pn 395030479559028 14, pn 325001929039377 14, pn 304543588519 11, pn 333350643717018 14, pn 796 3, pn 14446 1, pp 35 0, pn 13432 4]⟩

def row56 : Row := ⟨"IDN", "Indonesia", [pp 274 6, pp 225752 1, pp 33811 1, pp 139613 1, pn 38198625958498695 15, pp 156 4, pp 3707876 0, pp 241354 0, pp 515628 0, pp 3618322 3, pp 45935357 0, pp 19038271 0, pp 568265 0, pp 5687 4, pp 1048 4, pp 314 4, pp 1964 4, pp 172 4, pp 541 4, pn 19362117994500795 8, pn 3903630504383069 8, pn 8136033967456798 9, nn 9535973277247 14, nn 6525917136937287 16, nn 7431507940351021 16, nn 8131961988223988 16, nn 7618594214532584 16, nn 6410755944406458 16, nn 5258513722127642 16, nn 3367781875796564 16, nn 2048951649747511 16, nn 1220450807696546 16, nn 67850984976441 15, nn 401551753901373 15, nn 62407394797311 14, nn 709910917421527 15, nn 742936079825581 15, nn 774651746048147 15, nn 778253907835839 15, nn 750368142089283 15, nn 671412077003986 15, nn 544064697390472 15, pn 2381378766 10, pn 1790125946 10, pn 1790125946 10, pn 1790125946 10, pn 1186212343 11, pn 1186212343 11, pn 1186212343 11, pn 1186212343 11, pp 0 0, pn 5912528197 11, pn 5912528197 11, pn 5912528197 11, pn 213779050833333 7, pn 256427746666667 7, pn 2990764425 2, pn 341725138333333 7, pn 309867096666667 7, pn 278009055 1, pn 246151013333333 7, pn 214292971666667 7, pp 17714743 0, pn 166356775833333 7, pn 155566121666667 7, pn 224569705 1, pn 638287680217546 16, pn 17287062168799 16, pp 0 0, pn 322496917785997 16, pn 17464103009754 16, pn 252399532794875 15, pn 107297816907091 15, pn 616420203543356 16, pp 8597583 0, pn 567504187609112 16, pn 702420707023124 14, pn 15274376662704 15, pp 513 2, pp 1 0, pn 331096024171525 16, pn 44292094691635 15, pn 44292094691635 15, pn 44292094691635 15, pn 44292094691635 15, pn 738188603099597 14, pn 757479716211206 14, pn 731699709473729 14, pn 705430750350524 14, pn 687338433832743 14, pn 795299112690715 14, pn 830333616471744 14, pn 812368381228524 14, pn 778068087985086 14, pn 748701715935825 14, pn 752005113181844 14, pn 732271779610562 14, pn 693590976750372 14, pn 727812852953366 14, pn 754468037372836 14, pn 773260169614504 14, pn 805818636968126 14, pn 774330085591313 14, pn 750563109056063 14, pn 747440133170175 14, pn 762695576664173 14, pn 727659182268458 14, pn 697984789053364 14, pn 636361807565005 14, pn 652220950156572 14, pn 647669254877945 14, pn 62968900044344 13, pn 64539878346922 13, pn 640086654344458 14, pn 651356846029006 14, pn 601390622174368 14, pn 577103913675967 14, pn 572871769995356 14, pn 559496922353865 14, pn 536428317733237 14, pn 550561966384626 14, pn 529099902459708 14, pn 533887707193429 14, pn 539838233363766 14, pn 542600422771444 14, pn 544326564186521 14, pn 547003101824272 14, pn 536252510633841 14, pn 504154761125837 14, pn 493787440520104 14, pn 490217087972034 14, pn 488511152208344 14, pn 489727662409337 14, pn 510377714538339 14, pn 519720078001101 14, pn 498782291983723 14, pn 454482938957933 14, pn 454705739524976 14, pn 446333389401621 14, pn 445830063314738 14, pn 445846481694094 14, pn 427681012306218 14, pn 419644833246349 14, pn 431671598846416 14, pn 478276376466785 14, pn 491020623496537 14, pn 503723066898408 14, pn 470698278064076 14, pn 423268378375951 14, pn 39911005869666 13, pn 422770228938183 14, pn 436797083980407 14, pn 425280100661151 14, pn 399780468635756 14, pn 391073517950807 14, pn 399213976545181 14, pn 431873181569407 14, pn 483282631761537 14, pn 473010088960502 14, pn 422531223446104 14, pn 361935914049171 14, pn 352442303324941 14, pn 372047035623454 14, pn 425507899320128 14, pn 440694552133375 14, pn 423554319137249 14, pn 406364860529166 14, pn 407357513036482 14, pn 454020305803419 14, pn 494853907261553 14, pn 473669483165277 14, pn 435693181793555 14, pn 394307487720591 14, pn 406000727030721 14, pn 461609827611477 14, pn 51000990877028 13, pn 523402310837699 14, pn 511101299388835 14, pn 506866665448126 14, pn 522481896696865 14, pn 565630651505209 14, pn 589916778785712 14, pn 569255204645282 14, pn 543570826919295 14, pn 536928457457119 14, pn 531005903076548 14, pn 573258342372132 14, pn 610818950262508 14, pn 622992645197713 14, pn 617378914991634 14, pn 619176996358243 14, pn 632946633015541 14, pn 675434740524295 14, pn 729865971721998 14, pn 735007902274633 14, pn 689666523112863 14, pn 644986738920614 14, pn 61811454067394 13, pn 642490944835852 14, pn 701993414500697 14, pn 73221642371832 13, pn 713369326173758 14, pn 691922912038113 14, pn 699586536485121 14, pn 753986987835428 14, pn 796 3, pn 1099 1, pn 549 1, pn 84059995 8]⟩

def row57 : Row := ⟨"IRN", "Iran (Islamic Republic of)", [pp 83992953 0, pp 22285 1, pp 3603 1, pp 1334 2, pn 878917047826047 14, pp 7531 3, pp 2219155 0, pp 0 0, pp 526429 0, pp 1013801 3, pp 63250731 0, pp 7523227 0, pp 2038571 0, pp 144 4, pp 64 4, pp 0 0, pp 1753 4, pp 62 4, pp 291 4, pn 252031412221932 7, pn 1001748574363566 9, pn 3155603053273226 9, nn 9685331740957668 16, nn 9729122710329058 16, nn 9725241039754308 16, nn 8217591209834371 16, nn 4187972277587591 16, nn 318202122823672 15, nn 3267741404743684 16, nn 2399808452365534 16, nn 1393448366027528 16, nn 304913361797223 16, nn 37098578780054 16, nn 9758428263558632 16, nn 970438132599861 15, nn 991272464375567 15, nn 976628464725659 15, nn 992240056497944 15, nn 965172381001142 15, nn 969536606645931 15, nn 835769860278703 15, nn 80609366562271 14, pn 604632868 10, pp 0 0, pp 0 0, pn 1524611487 10, pn 1524611487 10, pn 1524611487 10, pn 1895367132 10, pn 3707556452 11, pn 3707556452 11, pn 9753885132 11, pn 604632868 10, pn 604632868 10, pn 174302445 1, pp 15845517 0, pn 142607895 1, pn 155753745 1, pn 168899595 1, pn 182045445 1, pn 202241855 1, pp 19344514 0, pn 184648425 1, pp 18734985 0, pn 183000715 1, pp 17865158 0, pn 328473448184899 16, pn 12449541630512 16, pp 0 0, pn 891516683390278 16, pn 17464103009754 16, pn 259406395626184 15, pn 110873914395127 15, pn 638052278938277 16, pp 75 3, pn 4950555763251 16, pn 202845378286739 14, pn 44109415927829 16, pp 17536 0, pp 1 0, pn 11317933489029 15, pn 19751573771399 16, pn 19751573771399 16, pn 19751573771399 16, pn 19751573771399 16, pn 175435425176481 14, pn 174687909534561 14, pn 132526710333623 14, pn 10894157867869 13, pn 128551540746042 14, pn 307586679183569 14, pn 411949723149241 14, pn 413001697107147 14, pn 373151259279135 14, pn 364494469935826 14, pn 367627345316203 14, pn 339438837233562 14, pn 296932453030631 14, pn 317154040234602 14, pn 351852666556997 14, pn 393109760974266 14, pn 452235855792299 14, pn 461793755125513 14, pn 441603255458607 14, pn 439978921580841 14, pn 438220531963644 14, pn 411845183381513 14, pn 395832540327996 14, pn 354770612592589 14, pn 341803660501108 14, pn 321197570317955 14, pn 316748399344889 14, pn 319474156198058 14, pn 346213013606221 14, pn 367188893855819 14, pn 349188069322977 14, pn 327363154790049 14, pn 308501789801726 14, pn 308379775952604 14, pn 287518849303107 14, pn 290088447251308 14, pn 269181648948018 14, pn 26680129851077 13, pn 259031644491008 14, pn 256088426967214 14, pn 269627574299937 14, pn 289092995161537 14, pn 280097323272331 14, pn 269837585523674 14, pn 249126191151516 14, pn 229206925463001 14, pn 23079073150992 13, pn 248857075959849 14, pn 255334859813408 14, pn 254146098040422 14, pn 232682190444455 14, pn 200538842205611 14, pn 20412851903952 13, pn 217108941741431 14, pn 221572766356145 14, pn 219718973936091 14, pn 192358462437988 14, pn 177795081819962 14, pn 196707082953172 14, pn 235094953689013 14, pn 248289211470693 14, pn 244611467822232 14, pn 203589403144879 14, pn 171552813720964 14, pn 171573129831579 14, pn 195742945535128 14, pn 211076216813198 14, pn 209764242946365 14, pn 193525287729021 14, pn 174835234696924 14, pn 184200138375307 14, pn 198728599785949 14, pn 242239712924235 14, pn 237794656833356 14, pn 192975688145191 14, pn 145044931027268 14, pn 144724928633821 14, pn 178901634680745 14, pn 225286382340578 14, pn 224369136180392 14, pn 195833706936713 14, pn 177174200828644 14, pn 183793335843467 14, pn 216031001800275 14, pn 243040512459709 14, pn 217367424274253 14, pn 16820003650444 13, pn 136242151907685 14, pn 137244104560406 14, pn 189544875656872 14, pn 239949654610283 14, pn 234797576473278 14, pn 21157738842697 13, pn 200284549480744 14, pn 205274380434133 14, pn 22941331015885 13, pn 249820951924197 14, pn 220583839959753 14, pn 184653273756604 14, pn 184625357144848 14, pn 175677871255755 14, pn 220391522300563 14, pn 269163164429181 14, pn 264123847045561 14, pn 246766054662045 14, pn 224144413592101 14, pn 236570465099245 14, pn 256996014850562 14, pn 279789150975588 14, pn 265288714690626 14, pn 205539887033517 14, pn 179700223612738 14, pn 178257449823275 14, pn 230092271225776 14, pn 307609931233833 14, pn 349287166624032 14, pn 311141515628867 14, pn 259955677117142 14, pn 247591379120906 14, pn 272667468091998 14, pn 796 3, pn 34180002 5, pp 0 0, pn 10541999 7]⟩

def row58 : Row := ⟨"IRQ", "Iraq", [pp 40222503 0, pp 1151 1, pp 169 1, pp 723 1, pn 111532794783296 16, pp 397 3, pp 156549 0, pp 0 0, pp 33258 0, pp 78534 3, pp 8076254 0, pp 2794258 0, pp 41458 1, pp 128 4, pp 37 4, pp 0 0, pp 161 4, pp 8 4, pp 22 4, pn 8115614142914606 9, pn 2176731240889604 10, pn 10755880155126904 10, nn 9881587172717372 16, nn 6815066542119783 16, nn 6814870879970241 16, pn 74707395587456 16, pn 210424873509496 16, nn 2833510821847171 16, nn 2908935665098204 16, nn 2571379950916229 16, nn 179648049402317 15, nn 559768694361459 16, pn 171503473544916 16, nn 953534695519946 15, nn 9414481421622308 16, nn 931937386771235 15, nn 981446995778498 15, nn 946480288851892 15, nn 988310946443567 15, nn 992948698885843 15, nn 769990807417593 15, nn 7739840421533709 16, pn 6262467797 12, pp 0 0, pp 0 0, pp 0 0, pp 0 0, pp 0 0, pn 2437375322 10, pn 2437375322 10, pn 2437375322 10, pn 25 2, pn 6262467797 12, pn 6262467797 12, pn 33504521666666702 10, pn 29749013333333298 10, pn 25993505 1, pn 222379966666667 8, pn 184824883333333 8, pp 1472698 0, pn 219557716666667 8, pn 291845633333333 8, pn 36413355 1, pn 439243716666667 8, pn 404510883333333 8, pn 36977805 1, pn 515916008873755 16, pp 0 0, pp 0 0, pn 266949625823746 16, pn 17464103009754 16, pn 23548992410265 14, pn 988243304216012 16, pn 565456668435686 16, pp 0 0, pp 0 0, pn 649033018339174 15, pn 14113443253485 16, pp 525 1, pp 1 0, pn 33884096040945 16, pp 0 0, pp 0 0, pp 0 0, pp 0 0, pp 0 0, pp 0 0, pp 0 0, pp 0 0, pp 0 0, pp 0 0, pp 0 0, pp 0 0, pp 0 0, pp 0 0, pp 0 0, pp 0 0, pp 0 0, pp 0 0, pp 0 0, pp 0 0, pp 0 0, pp 0 0, pp 0 0, pp 0 0, pp 0 0, pp 0 0, pp 0 0, pp 0 0, pp 0 0, pp 0 0, pp 0 0, pp 0 0, pp 0 0, pp 0 0, pp 0 0, pp 0 0, pp 0 0, pp 0 0, pp 0 0, pp 0 0, pp 0 0, pp 0 0, pp 0 0, pp 0 0, pp 0 0, pp 0 0, pp 0 0, pp 0 0, pp 0 0, pp 0 0, pp 0 0, pp 0 0, pp 0 0, pp 0 0, pp 0 0, pp 0 0, pp 0 0, pp 0 0, pp 0 0, pp 0 0, pp 0 0, pp 0 0, pp 0 0, pp 0 0, pp 0 0, pp 0 0, pp 0 0, pp 0 0, pp 0 0, pp 0 0, pp 0 0, pp 0 0, pp 0 0, pp 0 0, pp 0 0, pp 0 0, pp 0 0, pp 0 0, pp 0 0, pp 0 0, pp 0 0, pp 0 0, pp 0 0, pp 0 0, pp 0 0, pp 0 0, pp 0 0, pp 0 0, pp 0 0, pp 0 0, pp 0 0, pp 0 0, pp 0 0, pp 0 0, pp 0 0, pp 0 0, pp 0 0, pp 0 0, pp 0 0, pp 0 0, pp 0 0, pp 0 0, pp 0 0, pp 0 0, pp 0 0, pp 0 0, pp 0 0, pp 0 0, pp 0 0, pp 0 0, pp 0 0, pp 0 0, pp 0 0, pp 0 0, pp 0 0, pp 0 0, pp 0 0, pp 0 0, pp 0 0, pp 0 0, pp 0 0, pp 0 0, pp 0 0, pp 0 0, pn 796 3, pn 759 1, pp 0 0, pn 13442999 7]⟩

def row59 : Row := ⟨"ISR", "Israel", [pp 92169 2, pp 328 1, pp 54 1, pp 195 1, pn 1500238447961 11, pp 1584 3, pp 578164 0, pp 15054 0, pp 145797 0, pp 5529 4, pp 800101 0, pp 575088 0, pp 123079 0, pp 5 5, pp 6 4, pp 3 4, pp 284 4, pp 12 4, pp 48 4, pn 6176496504679557 10, pn 54335252255873245 12, pn 6255496873513603 11, nn 9051511267544432 16, nn 8143672052194103 16, nn 8143672052194103 16, nn 6851920730849852 16, nn 6869364272618186 16, nn 2830994487747354 16, pn 295176446629649 16, nn 565918397344207 16, pn 741499161884073 16, nn 5262586882192 16, pn 130506052808564 14, nn 145616071602943 15, nn 703833238664177 15, nn 776294900453577 15, nn 8111897508425829 16, nn 639317590958645 15, nn 984343739407761 15, nn 998095481116022 15, nn 938187659187999 15, nn 9138159854134348 16, pn 262017535 10, pp 0 0, pp 0 0, pp 0 0, pp 0 0, pp 0 0, pn 2237982465 10, pn 2237982465 10, pn 2237982465 10, pn 25 2, pn 262017535 10, pn 262017535 10, pn 796243416666667 9, pn 787147333333333 9, pn 77805125 2, pn 768955166666667 9, pn 7598590833333329 10, pp 750763 0, pn 766095166666667 9, pn 781427333333333 9, pn 7967595 1, pn 814951666666667 9, pn 808715583333333 9, pn 8024795 1, pn 284381053002289 16, pn 83295812696983 16, pp 0 0, pn 62794348508634 16, pn 17464103009754 16, pn 398592048539537 15, pn 190907484506059 15, pn 114227573732619 15, pp 0 0, pp 0 0, pn 148841283414133 14, pn 32366042217956 16, pp 478 0, pp 1 0, pn 3085066268108 16, pn 2209909688357 16, pn 2209909688357 16, pn 2209909688357 16, pn 5 4, pn 125307230730804 14, pn 125367846568973 14, pn 116446966839296 14, pn 103527954468509 14, pn 961512922389098 15, pn 932072750118132 15, pn 804617605532861 15, pn 780306824251848 15, pn 820221624164208 15, pn 823418956292081 15, pn 775359495051149 15, pn 637903450301987 15, pn 588870255322997 15, pn 625494423262561 15, pn 699798427051329 15, pn 756385592285336 15, pn 77247750350272 14, pn 690685779521733 15, pn 623627098494677 15, pn 633497019919744 15, pn 654585219628031 15, pn 678221661285326 15, pn 642235920927908 15, pn 558452461567825 15, pn 550726354911298 15, pn 533241914274222 15, pn 559077587932166 15, pn 571602426565577 15, pn 585972414384307 15, pn 507581060856766 15, pn 476498579339626 15, pn 460375197883433 15, pn 495445346912131 15, pn 555511373771659 15, pn 535378583926726 15, pn 522042355245346 15, pn 509751643933992 15, pn 505917636988734 15, pn 503919661751173 15, pn 513327853544145 15, pn 514175353449103 15, pn 470236486652447 15, pn 433099151096754 15, pn 417731034252111 15, pn 4589048904543 13, pn 511477485927674 15, pn 521946469376341 15, pn 540108889789081 15, pn 539886903447276 15, pn 545419791111906 15, pn 546698827321603 15, pn 533937100159938 15, pn 532207116287776 15, pn 472239303610618 15, pn 395591548892984 15, pn 381781037642599 15, pn 433423576206002 15, pn 492862261945019 15, pn 537514092314661 15, pn 559213168164554 15, pn 587997598217513 15, pn 627624656363427 15, pn 632472485464784 15, pn 582125310182791 15, pn 531199123198026 15, pn 470782512469459 15, pn 410639172226025 15, pn 403227449169194 15, pn 453669790475513 15, pn 525221394490141 15, pn 571830375386405 15, pn 580750441197102 15, pn 635296453090261 15, pn 701827805097738 15, pn 671723616673777 15, pn 60179402313819 14, pn 521390490430414 15, pn 469530619023012 15, pn 427651558855648 15, pn 42963081978582 14, pn 46603564184307 14, pn 542606388967509 15, pn 59108300019918 14, pn 624642198498689 15, pn 69867140533179 14, pn 779970043657163 15, pn 753118024156137 15, pn 640722574308407 15, pn 571390153768085 15, pn 520382505764622 15, pn 489644817171928 15, pn 461562953165597 15, pn 530046869432579 15, pn 577838810697034 15, pn 641354741404765 15, pn 706086788708845 15, pn 843711957844599 15, pn 913032033112738 15, pn 861700119798149 15, pn 770884355522217 15, pn 661651634721807 15, pn 618783982018184 15, pn 582799506486546 15, pn 517420687334327 15, pn 556261710999006 15, pn 599625826339062 15, pn 691953757070279 15, pn 869444160023993 15, pn 101924075948968 14, pn 107132482822279 14, pn 102067889731294 14, pn 846024469766208 15, pn 756059933939122 15, pn 66355912632032 14, pn 627535784479301 15, pn 600794739829099 15, pn 594746238383821 15, pn 648169213504355 15, pn 767347509266252 15, pn 906179412169381 15, pn 796 3, pn 35359001 4, pn 819 1, pn 10921999 7]⟩

def row60 : Row := ⟨"JAM", "Jamaica", [pp 2961161 0, pp 279 1, pp 41 1, pp 19 2, pn 950927928134059 15, pp 202 3, pp 123636 0, pp 7986 0, pp 7124 0, pp 14187 3, pp 792031 0, pp 197009 0, pp 5523 0, pp 2 5, pp 2 4, pp 0 0, pp 3 5, pp 1 4, pp 4 4, pn 2192899706660212 10, pn 21357818161850955 12, pn 14523732794564952 12, pn 4507125221999999 16, nn 1701537889 10, pn 1636293177 10, pn 6259661840619889 16, pn 6259661841 10, pn 133716577008763 14, pn 208641332289731 14, pn 24335727333937696 16, pn 192267372117337 14, pn 678974678284241 15, pn 266786509189938 14, pn 7715091478213439 16, nn 622171063980916 16, nn 120798869127503 15, pn 406976075090994 16, pn 37897451220438 14, pn 959477345498158 15, pn 225622577873425 14, pn 427773357925276 14, pn 20149451004897 13, pn 5403220297 12, pp 0 0, pp 0 0, pp 0 0, pn 2445967797 10, pn 2445967797 10, pn 2445967797 10, pn 2445967797 10, pp 0 0, pn 5403220297 12, pn 5403220297 12, pn 5403220297 12, pn 519561666666667 10, pn 428084583333333 10, pn 3366075 2, pn 245130416666667 10, pn 422153333333333 10, pn 59917625 3, pn 776199166666667 10, pn 953222083333334 10, pn 861745 1, pn 776199166666667 10, pn 690653333333333 10, pn 6051075 2, pn 724763406940063 16, pp 0 0, pp 0 0, pn 47984644913627 16, pn 17464103009754 16, pn 223277699967351 15, pn 928387671540792 16, pn 529703083997096 16, pp 0 0, pp 0 0, pn 736749733246533 16, pn 1602087298856 16, pp 215 0, pp 1 0, pn 1387634409295 16, pn 8272995243594 16, pn 8272995243594 16, pn 8272995243594 16, pn 8272995243594 16, pn 225563619622158 14, pn 224007972500148 14, pn 148606453827951 14, pn 114355202888872 14, pn 160951789253174 14, pn 521966083355326 14, pn 743437685745195 14, pn 747972711789109 14, pn 664280356141849 14, pn 646647044242444 14, pn 65771874112729 13, pn 615087329436925 14, pn 534977880528962 14, pn 571758638142947 14, pn 633725490408862 14, pn 710580962719998 14, pn 827223961234327 14, pn 854518932298853 14, pn 820843801067746 14, pn 816608141169708 14, pn 810982541964485 14, pn 755868200634493 14, pn 727441488563201 14, pn 653695979028396 14, pn 628534685511087 14, pn 589070949208488 14, pn 577589039896562 14, pn 581788069739559 14, pn 633828785774011 14, pn 683619681625962 14, pn 650726280711991 14, pn 608688789791755 14, pn 567459044912239 14, pn 561208414528042 14, pn 521499840213542 14, pn 527972658978082 14, pn 487388133502636 14, pn 483010833322668 14, pn 4676713228069 12, pn 460844068580014 14, pn 487837613254963 14, pn 531162341657829 14, pn 516884731434986 14, pn 497902067622137 14, pn 452361893257602 14, pn 407266102333234 14, pn 409386816082206 14, pn 443703262940789 14, pn 456681029282089 14, pn 453750216969654 14, pn 41069449815675 13, pn 347683974395228 14, pn 355036326450263 14, pn 3869939531218 12, pn 403586377822991 14, pn 401259844107923 14, pn 341374567255376 14, pn 306303937445421 14, pn 339662756674879 14, pn 414268590561571 14, pn 437778663119636 14, pn 426460470008121 14, pn 343931557743281 14, pn 284893096423649 14, pn 290026347343356 14, pn 344407639823311 14, pn 381088516403793 14, pn 37920574097581 13, pn 34168359641049 13, pn 297148329944834 14, pn 311217239211973 14, pn 339382155452187 14, pn 420949780539445 14, pn 405406533156939 14, pn 318779014623005 14, pn 229910459740717 14, pn 2373108082246 12, pn 31085020745919 13, pn 407807608795591 14, pn 405775190382202 14, pn 345063849689118 14, pn 300087762760537 14, pn 308478371667017 14, pn 369597783750681 14, pn 416213884386239 14, pn 35673784418279 13, pn 261088270593267 14, pn 20841204638453 13, pn 217349193744004 14, pn 327051500737282 14, pn 430934827503372 14, pn 423438857629996 14, pn 370150089910681 14, pn 342785217891785 14, pn 346413286727789 14, pn 388217941446816 14, pn 415270708063935 14, pn 349864476608232 14, pn 283136535533392 14, pn 292162278737474 14, pn 285190579039329 14, pn 378904646399308 14, pn 480046378209707 14, pn 476505625357688 14, pn 437905938224189 14, pn 388326244550295 14, pn 403945554491463 14, pn 427047613698725 14, pn 457654226002208 14, pn 423444946558973 14, pn 30901188433574 13, pn 274798000248855 14, pn 280908906252639 14, pn 393828629819519 14, pn 552466284019736 14, pn 638494859265154 14, pn 562808407419351 14, pn 455094432883848 14, pn 418448007315187 14, pn 454716994967059 14, pn 796 3, pn 3756 1, pp 61 0, pn 16636 4]⟩

def row61 : Row := ⟨"JPN", "Japan", [pp 126 6, pp 67194 1, pp 1072 2, pp 39644 1, pn 52614043279158096 15, pp 7316 3, pp 2347667 0, pp 1305792 0, pp 477463 0, pp 319653 3, pp 9155853 0, pp 3920763 0, pp 8389 2, pp 434 4, pp 12 5, pp 9 4, pp 1749 4, pp 7 5, pp 375 4, pn 12403973228061683 9, pn 15165952965404262 11, pn 11404499191028292 10, nn 9933568123179382 16, nn 9994976296087223 16, nn 9994976296087223 16, nn 9985933629044228 16, nn 996804083931855 15, nn 9927325669258104 16, nn 980423948599794 15, nn 888617278952091 15, nn 9277166959719172 16, nn 1330863182546169 16, nn 381061141904934 15, nn 883187556981308 15, nn 8890041074747189 16, nn 980906938824888 15, nn 9772098353525992 16, nn 971359780660227 15, nn 988036837494061 15, nn 986276306957637 15, nn 986191006505007 15, nn 99062974125398 14, pn 2064765374 10, pn 1948198775 10, pp 0 0, pp 0 0, pn 2201963169 11, pn 2201963169 11, pn 4352346257 11, pn 4352346257 11, pn 2150383089 11, pn 3316049085 11, pn 2064765374 10, pn 2064765374 10, pn 996020633333333 8, pn 10958893375 3, pn 102124004166667 7, pn 946590745833334 8, pn 89166645 1, pn 8367421541666671 9, pn 801080808333334 8, pn 7654194625 3, pn 7100331166666671 9, pn 6650887083333329 9, pn 77539935 1, pn 885709991666667 8, pn 158252845325902 16, pn 22506681671121 16, pn 217391304347826 16, pp 0 0, pn 17464103009754 16, pn 399160791558319 15, pn 191274136009811 15, pn 114467791151972 15, pp 7151 3, pn 47201899017349 15, pn 49509 3, pn 107659000743114 15, pp 4397 0, pp 1 0, pn 28378737198483 16, pn 240831586587256 16, pn 240831586587256 16, pn 240831586587256 16, pn 240831586587256 16, pn 158726027027922 14, pn 158247888546031 14, pn 127166795835514 14, pn 107137037275297 14, pn 117751457910331 14, pn 236126877792984 14, pn 301453735617256 14, pn 301344692213159 14, pn 276108226991563 14, pn 27044361183362 13, pn 270930213379173 14, pn 247556006499107 14, pn 217583977197854 14, pn 23228584093182 13, pn 257895058606376 14, pn 287286027059022 14, pn 327239820644957 14, pn 3308853627344 12, pn 31518974025556 13, pn 314435848384552 14, pn 313966528630031 14, pn 297170844297186 14, pn 285296224249594 14, pn 255128823780654 14, pn 246226652164449 14, pn 231906444021111 14, pn 229801519160998 14, pn 232036185017558 14, pn 250341089550291 14, pn 261711964599105 14, pn 248675332193305 14, pn 233587943122814 14, pn 222182704764888 14, pn 224103563094125 14, pn 209525185666296 14, pn 21079371000905 13, pn 196446154096478 14, pn 194731453573471 14, pn 189485085052378 14, pn 187836546429614 14, pn 196890894648261 14, pn 208403212996106 14, pn 201168187218112 14, pn 193816091490853 14, pn 181380957116154 14, pn 169853866506256 14, pn 171258703319158 14, pn 183908346966202 14, pn 188219469990515 14, pn 187611391730678 14, pn 173344754540357 14, pn 151490464809072 14, pn 153825916569273 14, pn 160480604614641 14, pn 160901562533863 14, pn 159205350545481 14, pn 142686427498859 14, pn 134958796611475 14, pn 149055191712604 14, pn 175370408064827 14, pn 185126060921046 14, pn 183995133760269 14, pn 156808684945412 14, pn 133772719486736 14, pn 13208872399432 13, pn 146188047439068 14, pn 154405450282999 14, pn 153283743603216 14, pn 144139184835197 14, pn 134064202947621 14, pn 141861104763085 14, pn 151844081230536 14, pn 182669690385832 14, pn 181924031392162 14, pn 15104124598592 13, pn 116756421456118 14, pn 113862968770228 14, pn 134918777087931 14, pn 16444597352224 13, pn 163900451446455 14, pn 146090326019244 14, pn 136203013518013 14, pn 142231657235618 14, pn 164842074483473 14, pn 185316055150866 14, pn 170910617638074 14, pn 137237291808165 14, pn 112185520415404 14, pn 110542408165874 14, pn 143709333963402 14, pn 176287930312586 14, pn 171917149421038 14, pn 158719821265732 14, pn 152784326677064 14, pn 158228078336247 14, pn 176478433062862 14, pn 194671033210952 14, pn 17749029441026 13, pn 151825519831007 14, pn 148779716613972 14, pn 139173635327897 14, pn 167553814267648 14, pn 198868759835672 14, pn 193329920941518 14, pn 18305276014133 13, pn 169417136606036 14, pn 180778768635173 14, pn 200312148567841 14, pn 220500792633382 14, pn 21256997073451 13, pn 171049221266109 14, pn 148000964734032 14, pn 144040297680154 14, pn 175513485027861 14, pn 225991146971865 14, pn 252884602410324 14, pn 227252551698705 14, pn 194909425194906 14, pn 190639169722812 14, pn 211984292466978 14, pn 796 3, pn 89392 1, pn 783 1, pn 28813 4]⟩

def row62 : Row := ⟨"JOR", "Jordan", [pp 1020314 1, pp 31 1, pp 5 1, pp 19 1, pn 548727857060087 15, pp 457 3, pp 200034 0, pp 0 0, pp 30733 0, pp 29018 3, pp 3631064 0, pp 101756 0, pp 44834 0, pp 8 4, pp 3 4, pp 0 0, pp 134 4, pp 5 4, pp 17 4, pn 3078403829362167 10, pn 3728745561641483 11, pn 3217030998581594 11, nn 9697386928216556 16, nn 9069577719591204 16, nn 9069577719591204 16, nn 7881708497515898 16, nn 6677625365879549 16, nn 476970046314308 15, nn 673294424755087 16, nn 2075870753432806 16, pn 533629379808411 16, nn 1457466072674415 16, pn 9317373629379868 16, nn 8204040911081449 16, nn 9379267751601772 16, nn 77361342738287 14, nn 865792296593626 15, nn 821263329229954 15, nn 982789469747959 15, nn 8442433291894319 16, nn 6410979474202511 16, pn 494484927389333 15, pn 4558625169 11, pp 0 0, pp 0 0, pp 0 0, pp 0 0, pp 0 0, pn 2044137483 10, pn 2044137483 10, pn 2044137483 10, pn 25 2, pn 4558625169 11, pn 4558625169 11, pn 942280791666667 9, pn 938110583333333 9, pn 933940375 3, pn 929770166666667 9, pn 925599958333333 9, pn 92142975 2, pn 927488916666667 9, pn 9335480833333328 10, pn 93960725 2, pn 947947666666667 9, pn 946058708333333 9, pn 94416975 2, pn 387084540997372 16, pp 0 0, pp 0 0, pn 436517249471955 16, pn 17464103009754 16, pn 227995801910548 15, pn 951381640713245 16, pn 543414085632272 16, pp 0 0, pp 0 0, pn 17708489683262 14, pn 3850771180936 16, pp 288 0, pp 1 0, pn 1858784697103 16, pp 0 0, pp 0 0, pp 0 0, pp 0 0, pp 0 0, pp 0 0, pp 0 0, pp 0 0, pp 0 0, pp 0 0, pp 0 0, pp 0 0, pp 0 0, pp 0 0, pp 0 0, pp 0 0, pp 0 0, pp 0 0, pp 0 0, pp 0 0, pp 0 0, pp 0 0, pp 0 0, pp 0 0, pp 0 0, pp 0 0, pp 0 0, pp 0 0, pp 0 0, pp 0 0, pp 0 0, pp 0 0, pp 0 0, pp 0 0, pp 0 0, pp 0 0, pp 0 0, pp 0 0, pp 0 0, pp 0 0, pp 0 0, pp 0 0, pp 0 0, pp 0 0, pp 0 0, pp 0 0, pp 0 0, pp 0 0, pp 0 0, pp 0 0, pp 0 0, pp 0 0, pp 0 0, pp 0 0, pp 0 0, pp 0 0, pp 0 0, pp 0 0, pp 0 0, pp 0 0, pp 0 0, pp 0 0, pp 0 0, pp 0 0, pp 0 0, pp 0 0, pp 0 0, pp 0 0, pp 0 0, pp 0 0, pp 0 0, pp 0 0, pp 0 0, pp 0 0, pp 0 0, pp 0 0, pp 0 0, pp 0 0, pp 0 0, pp 0 0, pp 0 0, pp 0 0, pp 0 0, pp 0 0, pp 0 0, pp 0 0, pp 0 0, pp 0 0, pp 0 0, pp 0 0, pp 0 0, pp 0 0, pp 0 0, pp 0 0, pp 0 0, pp 0 0, pp 0 0, pp 0 0, pp 0 0, pp 0 0, pp 0 0, pp 0 0, pp 0 0, pp 0 0, pp 0 0, pp 0 0, pp 0 0, pp 0 0, pp 0 0, pp 0 0, pp 0 0, pp 0 0, pp 0 0, pp 0 0, pp 0 0, pp 0 0, pp 0 0, pp 0 0, pp 0 0, pp 0 0, pp 0 0, pp 0 0, pp 0 0, pp 0 0, pn 796 3, pn 1473 1, pp 0 0, pn 93299997 8]⟩

end Allfed.Gen.CountryTable
