-- GENERATED on every check run by harness/translators/tr_country.py (run): rows 21..41 of the combined country table
-- REGENERATED in the scratch copy by re-running the import scripts of scripts/run_all_imports.sh.  Do not edit.
import AllfedModel.Model.CountryTable
namespace Allfed.Gen.CountryTable
open Allfed.CountryTable


def row21 : Row := ⟨"BDI", "Burundi", [pp 11890781 0, pp 352 1, pn 51000000000000006 14, pp 222 1, pn 112933899537734 14, pp 108 3, pp 6653 0, pp 10061 0, pp 10514 0, pp 3122 3, pp 4959781 0, pp 628022 0, pp 135113 0, pp 0 0, pp 0 0, pp 0 0, pp 0 0, pp 0 0, pp 0 0, pn 2227312884953769 9, pn 7070268867576768 11, pn 21552109374398 8, nn 1023409121779503 16, nn 732571686924095 15, nn 6893728395200189 16, nn 7446206701051971 16, nn 10000000000000002 16, nn 5270774874606111 16, nn 5866699384654838 16, nn 779444009321582 15, nn 6206287636331861 16, nn 5890676290921578 16, pn 123988448837326 15, nn 83685239177043 14, nn 8276642649935969 16, nn 622863708691687 15, nn 8060578965648909 16, nn 839760652844409 15, nn 864697343668813 15, nn 8866564591470021 16, nn 89358341446573 14, nn 8832823111549559 16, pn 2274675948 10, pn 2274675948 10, pn 2274675948 10, pn 2274675948 10, pn 2253240516 11, pn 2253240516 11, pn 2253240516 11, pn 2253240516 11, pp 0 0, pp 0 0, pp 0 0, pp 0 0, pp 0 0, pn 22150625 3, pn 525352083333333 10, pn 829197916666666 10, pn 701025 1, pn 572852083333333 10, pn 444679166666666 10, pn 31650625 3, pn 140833333333333 10, pp 0 0, pp 0 0, pn 933333333333333 11, pn 41539939170802 15, pp 0 0, pp 0 0, pn 821192052980132 16, pn 17464103009754 16, pp 0 0, pp 0 0, pp 0 0, pp 0 0, pp 0 0, pn 78995019238059 16, pn 171777350276768 19, pp 155 1, pp 1 0, pn 10003875973993 16, pp 0 0, pp 0 0, pp 0 0, pp 0 0, pp 0 0, pp 0 0, pp 0 0, pp 0 0, pp 0 0, pp 0 0, pp 0 0, pp 0 0, pp 0 0, pp 0 0, pp 0 0, pp 0 0, pp 0 0, pp 0 0, pp 0 0, pp 0 0, pp 0 0, pp 0 0, pp 0 0, pp 0 0, pp 0 0, pp 0 0, pp 0 0, pp 0 0, pp 0 0, pp 0 0, pp 0 0, pp 0 0, pp 0 0, pp 0 0, pp 0 0, pp 0 0, pp 0 0, pp 0 0, pp 0 0, pp 0 0, pp 0 0, pp 0 0, pp 0 0, pp 0 0, pp 0 0, pp 0 0, pp 0 0, pp 0 0, pp 0 0, pp 0 0, pp 0 0, pp 0 0, pp 0 0, pp 0 0, pp 0 0, pp 0 0, pp 0 0, pp 0 0, pp 0 0, pp 0 0, pp 0 0, pp 0 0, pp 0 0, pp 0 0, pp 0 0, pp 0 0, pp 0 0, pp 0 0, pp 0 0, pp 0 0, pp 0 0, pp 0 0, pp 0 0, pp 0 0, pp 0 0, pp 0 0, pp 0 0, pp 0 0, pp 0 0, pp 0 0, pp 0 0, pp 0 0, pp 0 0, pp 0 0, pp 0 0, pp 0 0, pp 0 0, pp 0 0, pp 0 0, pp 0 0, pp 0 0, pp 0 0, pp 0 0, pp 0 0, pp 0 0, pp 0 0, pp 0 0, pp 0 0, pp 0 0, pp 0 0, pp 0 0, pp 0 0, pp 0 0, pp 0 0, pp 0 0, pp 0 0, pp 0 0, pp 0 0, pp 0 0, pp 0 0, pp 0 0, pp 0 0, pp 0 0, pp 0 0, pp 0 0, pp 0 0, pp 0 0, pp 0 0, pp 0 0, pp 0 0, pp 0 0, pp 0 0, pp 0 0, pp 0 0, pn 796 3, pn 1416 1, pp 71 0, pn 101 2]⟩

def row22 : Row := ⟨"CPV", "Cabo Verde", [pp 555988 0, pp 384 1, pp 65 1, pp 223 1, pn 773348156541041 16, pp 9 3, pp 756 0, pp 2457 0, pp 695 0, pp 1 6, pp 220711 0, pp 47986 0, pp 6747 0, pp 3 4, pp 0 0, pp 0 0, pp 1 4, pp 0 0, pp 0 0, pn 15432299215834277 12, pn 1402904757015984 12, pn 2114206778900784 12, np 1 0, np 1 0, np 1 0, np 1 0, np 1 0, np 1 0, np 1 0, np 1 0, np 1 0, np 1 0, np 1 0, np 1 0, np 1 0, np 1 0, np 1 0, np 1 0, np 1 0, np 1 0, np 1 0, np 1 0, pn 25 2, pp 0 0, pp 0 0, pp 0 0, pp 0 0, pp 0 0, pp 0 0, pp 0 0, pp 0 0, pn 25 2, pn 25 2, pn 25 2, pp 359 1, pn 331625 2, pn 30425 1, pn 276875 2, pp 2495 0, pn 222125 2, pn 19475 1, pn 167375 2, pp 14 2, pn 19475 1, pp 2495 0, pn 30425 1, pn 309218203033839 16, pp 0 0, pp 0 0, pp 0 0, pn 17464103009754 16, pn 170311393270877 15, pn 681023500138359 16, pn 38406899112797 15, pp 0 0, pp 0 0, pp 0 0, pp 0 0, pp 54 0, pp 1 0, pn 348522130706868 19, pp 0 0, pp 0 0, pp 0 0, pp 0 0, pp 0 0, pp 0 0, pp 0 0, pp 0 0, pp 0 0, pp 0 0, pp 0 0, pp 0 0, pp 0 0, pp 0 0, pp 0 0, pp 0 0, pp 0 0, pp 0 0, pp 0 0, pp 0 0, pp 0 0, pp 0 0, pp 0 0, pp 0 0, pp 0 0, pp 0 0, pp 0 0, pp 0 0, pp 0 0, pp 0 0, pp 0 0, pp 0 0, pp 0 0, pp 0 0, pp 0 0, pp 0 0, pp 0 0, pp 0 0, pp 0 0, pp 0 0, pp 0 0, pp 0 0, pp 0 0, pp 0 0, pp 0 0, pp 0 0, pp 0 0, pp 0 0, pp 0 0, pp 0 0, pp 0 0, pp 0 0, pp 0 0, pp 0 0, pp 0 0, pp 0 0, pp 0 0, pp 0 0, pp 0 0, pp 0 0, pp 0 0, pp 0 0, pp 0 0, pp 0 0, pp 0 0, pp 0 0, pp 0 0, pp 0 0, pp 0 0, pp 0 0, pp 0 0, pp 0 0, pp 0 0, pp 0 0, pp 0 0, pp 0 0, pp 0 0, pp 0 0, pp 0 0, pp 0 0, pp 0 0, pp 0 0, pp 0 0, pp 0 0, pp 0 0, pp 0 0, pp 0 0, pp 0 0, pp 0 0, pp 0 0, pp 0 0, pp 0 0, pp 0 0, pp 0 0, pp 0 0, pp 0 0, pp 0 0, pp 0 0, pp 0 0, pp 0 0, pp 0 0, pp 0 0, pp 0 0, pp 0 0, pp 0 0, pp 0 0, pp 0 0, pp 0 0, pp 0 0, pp 0 0, pp 0 0, pp 0 0, pp 0 0, pp 0 0, pp 0 0, pp 0 0, pp 0 0, pp 0 0, pp 0 0, pp 0 0, pp 0 0, pp 0 0, pp 0 0, pp 0 0, pn 796 3, pn 85700005 6, pp 5 1, pn 12832 4]⟩

def row23 : Row := ⟨"KHM", "Cambodia", [pp 16718971 0, pp 14406 1, pp 2051 1, pp 9236 1, pp 0 0, pp 24 3, pp 16863 0, pp 93196 0, pp 54327 0, pp 2135 4, pp 1901967 0, pp 3475195 0, pp 120592 0, pn 4030000000000001 9, pp 3 4, pp 24 4, pp 114 4, pp 14 4, pp 16 4, pn 1356891025985373 8, pn 207972244399366 9, pn 10080821360416058 10, pn 5204811253073592 16, nn 968157327289437 15, nn 995086826232528 15, nn 9693361327521364 16, nn 9400347188144056 16, nn 6574070170341884 16, nn 4479827705343153 16, pn 214713023622425 15, pn 5601012357596586 16, pn 67138734762141 15, nn 138086611108646 15, nn 508738563113865 15, nn 7137816385161839 16, nn 8034924850077969 16, nn 83274623635287 14, nn 8186513612566481 16, nn 735746813147785 15, nn 6566738344276141 16, nn 506856531185961 15, nn 3382064639077359 16, pn 2071448174 10, pn 2071448174 10, pn 2071448174 10, pn 2071448174 10, pn 8087071689 12, pn 8087071689 12, pn 4285518264 11, pn 4285518264 11, pn 3476811095 11, pn 3476811095 11, pp 0 0, pp 0 0, pn 609494791666667 9, pn 130991833333333 8, pn 2010341875 3, pn 271076541666667 8, pn 22850839583333298 10, pn 18594025 1, pn 163041041666667 8, pn 140141833333333 8, pn 112667625 2, pn 851934166666666 9, pn 380502708333333 9, pn 108092625 2, pn 6299894762578 14, pp 0 0, pp 0 0, pn 546448087431694 16, pn 17464103009754 16, pn 697777156791982 16, pn 260105518791395 16, pn 143855477219153 16, pp 0 0, pp 0 0, pn 100489856702198 15, pn 2185186038372 16, pp 4066 0, pp 1 0, pn 2624242561952 15, pn 3586043926528 16, pn 3586043926528 16, pn 3586043926528 16, pn 5 4, pn 125307230730804 14, pn 125367846568973 14, pn 116446966839296 14, pn 103527954468509 14, pn 961512922389098 15, pn 932072750118132 15, pn 804617605532861 15, pn 780306824251848 15, pn 820221624164208 15, pn 823418956292081 15, pn 775359495051149 15, pn 637903450301987 15, pn 588870255322997 15, pn 625494423262561 15, pn 699798427051329 15, pn 756385592285336 15, pn 77247750350272 14, pn 690685779521733 15, pn 623627098494677 15, pn 633497019919744 15, pn 654585219628031 15, pn 678221661285326 15, pn 642235920927908 15, pn 558452461567825 15, pn 550726354911298 15, pn 533241914274222 15, pn 559077587932166 15, pn 571602426565577 15, pn 585972414384307 15, pn 507581060856766 15, pn 476498579339626 15, pn 460375197883433 15, pn 495445346912131 15, pn 555511373771659 15, pn 535378583926726 15, pn 522042355245346 15, pn 509751643933992 15, pn 505917636988734 15, pn 503919661751173 15, pn 513327853544145 15, pn 514175353449103 15, pn 470236486652447 15, pn 433099151096754 15, pn 417731034252111 15, pn 4589048904543 13, pn 511477485927674 15, pn 521946469376341 15, pn 540108889789081 15, pn 539886903447276 15, pn 545419791111906 15, pn 546698827321603 15, pn 533937100159938 15, pn 532207116287776 15, pn 472239303610618 15, pn 395591548892984 15, pn 381781037642599 15, pn 433423576206002 15, pn 492862261945019 15, pn 537514092314661 15, pn 559213168164554 15, pn 587997598217513 15, pn 627624656363427 15, pn 632472485464784 15, pn 582125310182791 15, pn 531199123198026 15, pn 470782512469459 15, pn 410639172226025 15, pn 403227449169194 15, pn 453669790475513 15, pn 525221394490141 15, pn 571830375386405 15, pn 580750441197102 15, pn 635296453090261 15, pn 701827805097738 15, pn 671723616673777 15, pn 60179402313819 14, pn 521390490430414 15, pn 469530619023012 15, pn 427651558855648 15, pn 42963081978582 14, pn 46603564184307 14, pn 542606388967509 15, pn 59108300019918 14, pn 624642198498689 15, pn 69867140533179 14, pn 779970043657163 15, pn 753118024156137 15, pn 640722574308407 15, pn 571390153768085 15, pn 520382505764622 15, pn 489644817171928 15, pn 461562953165597 15, pn 530046869432579 15, pn 577838810697034 15, pn 641354741404765 15, pn 706086788708845 15, pn 843711957844599 15, pn 913032033112738 15, pn 861700119798149 15, pn 770884355522217 15, pn 661651634721807 15, pn 618783982018184 15, pn 582799506486546 15, pn 517420687334327 15, pn 556261710999006 15, pn 599625826339062 15, pn 691953757070279 15, pn 869444160023993 15, pn 101924075948968 14, pn 107132482822279 14, pn 102067889731294 14, pn 846024469766208 15, pn 756059933939122 15, pn 66355912632032 14, pn 627535784479301 15, pn 600794739829099 15, pn 594746238383821 15, pn 648169213504355 15, pn 767347509266252 15, pn 906179412169381 15, pn 796 3, pp 201 0, pp 5 1, pp 1 0]⟩

def row24 : Row := ⟨"CMR", "Cameroon", [pp 26545864 0, pp 4272 1, pp 701 1, pp 2515 1, pn 121765646850524 15, pp 252 3, pp 85298 0, pp 32773 0, pp 80779 0, pp 55473 3, pp 11119275 0, pp 6113099 0, pp 301807 0, pp 69 4, pp 18 4, pp 2 4, pp 159 4, pp 6 4, pp 24 4, pn 9186215254569922 9, pn 8505802302713736 10, pn 7830949970142916 10, nn 429487970288346 15, nn 9081003512767192 16, nn 9335183581846116 16, nn 8999716643595752 16, nn 8191748709140099 16, nn 7993113587582126 16, nn 6496156622604073 16, nn 4422185790711962 16, nn 3141161344033866 16, pn 20440033371222 16, nn 814729849222741 16, nn 629120535681997 15, nn 6477206426186229 16, nn 6206400568624271 16, nn 6712522852031 13, nn 784019229288599 15, nn 733806737571701 15, nn 740855301326386 15, nn 709901395265349 15, nn 664867602938627 15, pn 2393525682 10, pp 0 0, pp 0 0, pp 0 0, pn 1064743182 11, pn 1064743182 11, pn 1064743182 11, pn 1064743182 11, pp 0 0, pn 2393525682 10, pn 2393525682 10, pn 2393525682 10, pn 191065916666667 8, pn 172673375 2, pn 154280833333333 8, pn 135888291666667 8, pn 11984575 1, pn 103803208333333 8, pn 877606666666667 9, pn 71718125 2, pn 533255833333333 9, pn 877606666666667 9, pn 12219575 1, pn 156630833333333 8, pn 16033085789686 14, pp 0 0, pp 0 0, pn 79073188672306 15, pn 17464103009754 16, pn 24921996417418 15, pn 90172656489872 16, pn 49485542453811 16, pp 0 0, pp 0 0, pn 150228323686624 15, pn 3266765883256 16, pp 775 1, pp 1 0, pn 50019379869967 16, pn 325415272791 15, pn 325415272791 15, pn 325415272791 15, pn 5 4, pn 186369495894583 13, pn 19230633295645 12, pn 193004570775394 13, pn 189840909369419 13, pn 180491222000615 13, pn 177072397970501 13, pn 166710140311675 13, pn 161110174947128 13, pn 158790174539699 13, pn 151711620793582 13, pn 152076064891313 13, pn 151793766436456 13, pn 148690802418985 13, pn 154913047839089 13, pn 155969877900451 13, pn 153356098689498 13, pn 151298419931978 13, pn 139940274652291 13, pn 136848281625098 13, pn 136236255634884 13, pn 141164566606523 13, pn 135928718004235 13, pn 13022892865041 12, pn 119954419750984 13, pn 12730555294675 12, pn 130061262399793 13, pn 125557020264054 13, pn 129724803801154 13, pn 122783393582093 13, pn 121969275037538 13, pn 110579572787715 13, pn 10765854314478 12, pn 110161173038261 13, pn 106173121515639 13, pn 10342472545935 12, pn 107150900465126 13, pn 104893640948309 13, pn 106806052455875 13, pn 110145141110928 13, pn 11156244143799 12, pn 109372454395969 13, pn 106282331514974 13, pn 104856288535686 13, pn 972789112330163 14, pn 983109939257281 14, pn 10122374129901 12, pn 100395199360519 13, pn 971468835308313 14, pn 10204634239882 12, pn 105086803792246 13, pn 103098249506226 13, pn 962371132462578 14, pn 955860180495887 14, pn 904782284722003 14, pn 894344657231925 14, pn 898101497210098 14, pn 89832611204268 13, pn 903344336099124 14, pn 901600630632902 14, pn 964639222022327 14, pn 976483447548225 14, pn 102194626505076 13, pn 100491602790247 13, pn 926699507685926 14, pn 854183916426821 14, pn 876824795744291 14, pn 888238818314827 14, pn 856311816090725 14, pn 812290830449226 14, pn 823550084458574 14, pn 82924165288493 13, pn 898162345136324 14, pn 965368469436141 14, pn 943440953214795 14, pn 88164229404793 13, pn 795717880092976 14, pn 767877052707183 14, pn 758337837508872 14, pn 825950933279227 14, pn 873345384039342 14, pn 878995543538322 14, pn 864746179930209 14, pn 854485867422512 14, pn 929998913809707 14, pn 99848069686524 13, pn 986273600947323 14, pn 970679472371784 14, pn 910438159346403 14, pn 943513971971349 14, pn 100573973152069 13, pn 105013041709028 13, pn 110061177956654 13, pn 111014912131257 13, pn 112003089738289 13, pn 115689692922233 13, pn 123806533419793 13, pn 127010843250874 13, pn 126659793401634 13, pn 126140593324468 13, pn 124153465808166 13, pn 124166196671813 13, pn 127899198251527 13, pn 129413052192916 13, pn 134073024150202 13, pn 135860463565081 13, pn 140924216189053 13, pn 142569896884813 13, pn 151231219187176 13, pn 163001961321482 13, pn 167444627744265 13, pn 165791979527156 13, pn 157555976953637 13, pn 149782872237527 13, pn 146728829205601 13, pn 149076038103442 13, pn 14980749379069 12, pn 151782494726354 13, pn 155585738188005 13, pn 160357685121355 13, pn 171662602732229 13, pn 796 3, pn 111200005 6, pp 3 1, pn 79999995 8]⟩

def row25 : Row := ⟨"CAN", "Canada", [pp 38005238 0, pp 15435 1, pp 2085 1, pp 9666 1, pn 38544990364272095 15, pp 921 4, pp 1304676 0, pp 2299446 0, pp 138194 1, pp 179246 3, pp 14795922 0, pp 11668251 0, pp 9807 2, pp 101 5, pp 6 5, pp 93 4, pp 2818 4, pp 1 6, pp 665 4, pn 9414885406519026 8, pn 12281417113515368 9, pn 1579189540757115 8, np 1 0, np 1 0, np 1 0, np 1 0, nn 9996895053941052 16, nn 989338608088754 15, nn 818934966404037 15, nn 8114859451734175 16, nn 7640771866366148 16, nn 4903867406314913 16, nn 73679395146041 14, nn 995959966727088 15, nn 998515133474854 15, nn 9974062493777168 16, nn 981047008328748 15, nn 962422802907604 15, nn 938610526463749 15, nn 8963859746377161 16, nn 785989727665675 15, nn 6459627552068299 16, pp 0 0, pp 0 0, pp 0 0, pp 0 0, pn 5333519457 13, pn 5333519457 13, pn 5333519457 13, pn 1912163179 10, pn 2494666481 10, pn 2494666481 10, pn 2494666481 10, pn 5878368206 11, pn 50172078583333306 9, pn 458284801666667 7, pn 4148488175 2, pn 371412833333333 7, pn 328254849166667 7, pn 285096865 1, pn 142548853333333 7, pn 16814097166666698 9, pp 25473494 0, pn 341328908333333 7, pn 427922876666667 7, pn 4151268175 2, pn 499082339620969 16, pn 10282264751733 16, pn 453758999832561 16, pp 0 0, pn 17464103009754 16, pn 416168330399763 15, pn 202407926005291 15, pn 12180415106833 14, pp 8304 3, pn 54812553410721 15, pn 45815798069771 13, pn 99628007805446 16, pp 38815 0, pp 1 0, pn 25051641672939 15, pn 1635818863821479 16, pn 1635818863821479 16, pn 1635818863821479 16, pn 1635818863821479 16, pn 158726027027922 14, pn 158247888546031 14, pn 127166795835514 14, pn 107137037275297 14, pn 117751457910331 14, pn 236126877792984 14, pn 301453735617256 14, pn 301344692213159 14, pn 276108226991563 14, pn 27044361183362 13, pn 270930213379173 14, pn 247556006499107 14, pn 217583977197854 14, pn 23228584093182 13, pn 257895058606376 14, pn 287286027059022 14, pn 327239820644957 14, pn 3308853627344 12, pn 31518974025556 13, pn 314435848384552 14, pn 313966528630031 14, pn 297170844297186 14, pn 285296224249594 14, pn 255128823780654 14, pn 246226652164449 14, pn 231906444021111 14, pn 229801519160998 14, pn 232036185017558 14, pn 250341089550291 14, pn 261711964599105 14, pn 248675332193305 14, pn 233587943122814 14, pn 222182704764888 14, pn 224103563094125 14, pn 209525185666296 14, pn 21079371000905 13, pn 196446154096478 14, pn 194731453573471 14, pn 189485085052378 14, pn 187836546429614 14, pn 196890894648261 14, pn 208403212996106 14, pn 201168187218112 14, pn 193816091490853 14, pn 181380957116154 14, pn 169853866506256 14, pn 171258703319158 14, pn 183908346966202 14, pn 188219469990515 14, pn 187611391730678 14, pn 173344754540357 14, pn 151490464809072 14, pn 153825916569273 14, pn 160480604614641 14, pn 160901562533863 14, pn 159205350545481 14, pn 142686427498859 14, pn 134958796611475 14, pn 149055191712604 14, pn 175370408064827 14, pn 185126060921046 14, pn 183995133760269 14, pn 156808684945412 14, pn 133772719486736 14, pn 13208872399432 13, pn 146188047439068 14, pn 154405450282999 14, pn 153283743603216 14, pn 144139184835197 14, pn 134064202947621 14, pn 141861104763085 14, pn 151844081230536 14, pn 182669690385832 14, pn 181924031392162 14, pn 15104124598592 13, pn 116756421456118 14, pn 113862968770228 14, pn 134918777087931 14, pn 16444597352224 13, pn 163900451446455 14, pn 146090326019244 14, pn 136203013518013 14, pn 142231657235618 14, pn 164842074483473 14, pn 185316055150866 14, pn 170910617638074 14, pn 137237291808165 14, pn 112185520415404 14, pn 110542408165874 14, pn 143709333963402 14, pn 176287930312586 14, pn 171917149421038 14, pn 158719821265732 14, pn 152784326677064 14, pn 158228078336247 14, pn 176478433062862 14, pn 194671033210952 14, pn 17749029441026 13, pn 151825519831007 14, pn 148779716613972 14, pn 139173635327897 14, pn 167553814267648 14, pn 198868759835672 14, pn 193329920941518 14, pn 18305276014133 13, pn 169417136606036 14, pn 180778768635173 14, pn 200312148567841 14, pn 220500792633382 14, pn 21256997073451 13, pn 171049221266109 14, pn 148000964734032 14, pn 144040297680154 14, pn 175513485027861 14, pn 225991146971865 14, pn 252884602410324 14, pn 227252551698705 14, pn 194909425194906 14, pn 190639169722812 14, pn 211984292466978 14, pn 796 3, pn 96467 1, pn 1026 1, pn 17307999 7]⟩

def row26 : Row := ⟨"CAF", "Central African Republic", [pp 4829764 0, pp 503 1, pp 73 1, pp 318 1, pn 929920751889158 14, pp 81 3, pp 686 1, pp 19726 0, pp 99158 0, pp 7299 3, pp 817977 1, pp 4679444 0, pp 327246 0, pp 2 4, pp 1 4, pp 0 0, pp 3 4, pp 0 0, pp 1 4, pn 7659199635162803 10, pn 744211174173716 10, pn 749805893182575 10, nn 2830301051866348 16, nn 9021618998302876 16, nn 9344884290390992 16, nn 9879136763453934 16, nn 9823570434287844 16, nn 8861219192590783 16, nn 717449360045596 15, nn 5470465310501408 16, nn 4075232871362263 16, nn 1236923141863404 16, nn 723740115542747 16, nn 44453171201381 14, nn 7284622275105561 16, nn 6940236132687331 16, nn 656201955512008 15, nn 757707722690131 15, nn 774709547138105 15, nn 751170747773109 15, nn 670381247914236 15, nn 602266893130056 15, pn 2269691386 10, pp 0 0, pp 0 0, pp 0 0, pn 2303086135 11, pn 2303086135 11, pn 2303086135 11, pn 2303086135 11, pp 0 0, pn 2269691386 10, pn 2269691386 10, pn 2269691386 10, pp 5576 1, pn 485233333333333 10, pn 412866666666667 10, pp 3405 1, pn 288133333333333 10, pn 235766666666667 10, pp 1834 1, pn 131033333333333 10, pn 5866666666666671 12, pp 1834 1, pn 308133333333333 10, pn 432866666666667 10, pn 506936476478565 16, pn 255102040816327 16, pp 0 0, pn 806451612903226 16, pn 17464103009754 16, pp 0 0, pp 0 0, pp 0 0, pp 0 0, pp 0 0, pn 97511579024325 16, pn 212042237949505 19, pp 188 1, pp 1 0, pn 12133733439424 16, pp 0 0, pp 0 0, pp 0 0, pp 0 0, pp 0 0, pp 0 0, pp 0 0, pp 0 0, pp 0 0, pp 0 0, pp 0 0, pp 0 0, pp 0 0, pp 0 0, pp 0 0, pp 0 0, pp 0 0, pp 0 0, pp 0 0, pp 0 0, pp 0 0, pp 0 0, pp 0 0, pp 0 0, pp 0 0, pp 0 0, pp 0 0, pp 0 0, pp 0 0, pp 0 0, pp 0 0, pp 0 0, pp 0 0, pp 0 0, pp 0 0, pp 0 0, pp 0 0, pp 0 0, pp 0 0, pp 0 0, pp 0 0, pp 0 0, pp 0 0, pp 0 0, pp 0 0, pp 0 0, pp 0 0, pp 0 0, pp 0 0, pp 0 0, pp 0 0, pp 0 0, pp 0 0, pp 0 0, pp 0 0, pp 0 0, pp 0 0, pp 0 0, pp 0 0, pp 0 0, pp 0 0, pp 0 0, pp 0 0, pp 0 0, pp 0 0, pp 0 0, pp 0 0, pp 0 0, pp 0 0, pp 0 0, pp 0 0, pp 0 0, pp 0 0, pp 0 0, pp 0 0, pp 0 0, pp 0 0, pp 0 0, pp 0 0, pp 0 0, pp 0 0, pp 0 0, pp 0 0, pp 0 0, pp 0 0, pp 0 0, pp 0 0, pp 0 0, pp 0 0, pp 0 0, pp 0 0, pp 0 0, pp 0 0, pp 0 0, pp 0 0, pp 0 0, pp 0 0, pp 0 0, pp 0 0, pp 0 0, pp 0 0, pp 0 0, pp 0 0, pp 0 0, pp 0 0, pp 0 0, pp 0 0, pp 0 0, pp 0 0, pp 0 0, pp 0 0, pp 0 0, pp 0 0, pp 0 0, pp 0 0, pp 0 0, pp 0 0, pp 0 0, pp 0 0, pp 0 0, pp 0 0, pp 0 0, pp 0 0, pp 0 0, pn 796 3, pn 2483 1, pn 315 1, pn 89089996 8]⟩

def row27 : Row := ⟨"TCD", "Chad", [pp 16425859 0, pp 1855 1, pp 269 1, pp 1172 1, pn 382620953023464 13, pp 389 3, pp 6617 0, pp 2521 0, pp 472864 0, pp 6171 3, pp 80006884 0, pp 46241474 0, pp 859426 0, pp 0 0, pp 0 0, pp 0 0, pp 69 4, pp 14 4, pp 13 4, pn 40353806294093593 10, pn 4410238658186209 10, pn 4910723769617921 10, nn 23685580746408 14, nn 6827517527566523 16, nn 757783545207957 15, nn 8337691137811679 16, nn 743888270979137 15, nn 6469973765745158 16, nn 388083337813656 15, nn 819959742251138 16, pn 493236647369206 16, pn 2433202834113047 16, nn 148902870668664 15, nn 728027664895863 15, nn 767785106763082 15, nn 661421875770108 15, nn 6870107837689661 16, nn 655187624120642 15, nn 505482496590422 15, nn 4495017620837769 16, nn 186192431327301 15, nn 170229343746066 15, pn 2397616397 10, pp 0 0, pp 0 0, pp 0 0, pn 9606267898 12, pn 9606267898 12, pn 1023836033 11, pn 1023836033 11, pn 6320924277 13, pn 2403937321 10, pn 2397616397 10, pn 2397616397 10, pn 36302583333333296 11, pn 319651375 3, pn 276276916666667 9, pn 232902458333333 9, pp 194528 0, pn 156153541666667 9, pn 118108083333333 9, pn 80062625 3, pn 370171666666667 10, pn 118766083333333 9, pp 200186 0, pn 28160591666666704 11, pn 947470190138576 16, pp 0 0, pn 660547697863376 16, pn 925442413693066 16, pn 17464103009754 16, pp 0 0, pp 0 0, pp 0 0, pp 0 0, pp 0 0, pn 634269081037664 16, pn 1379239642625 16, pp 5238 0, pp 1 0, pn 33806646678566 16, pp 0 0, pp 0 0, pp 0 0, pp 0 0, pp 0 0, pp 0 0, pp 0 0, pp 0 0, pp 0 0, pp 0 0, pp 0 0, pp 0 0, pp 0 0, pp 0 0, pp 0 0, pp 0 0, pp 0 0, pp 0 0, pp 0 0, pp 0 0, pp 0 0, pp 0 0, pp 0 0, pp 0 0, pp 0 0, pp 0 0, pp 0 0, pp 0 0, pp 0 0, pp 0 0, pp 0 0, pp 0 0, pp 0 0, pp 0 0, pp 0 0, pp 0 0, pp 0 0, pp 0 0, pp 0 0, pp 0 0, pp 0 0, pp 0 0, pp 0 0, pp 0 0, pp 0 0, pp 0 0, pp 0 0, pp 0 0, pp 0 0, pp 0 0, pp 0 0, pp 0 0, pp 0 0, pp 0 0, pp 0 0, pp 0 0, pp 0 0, pp 0 0, pp 0 0, pp 0 0, pp 0 0, pp 0 0, pp 0 0, pp 0 0, pp 0 0, pp 0 0, pp 0 0, pp 0 0, pp 0 0, pp 0 0, pp 0 0, pp 0 0, pp 0 0, pp 0 0, pp 0 0, pp 0 0, pp 0 0, pp 0 0, pp 0 0, pp 0 0, pp 0 0, pp 0 0, pp 0 0, pp 0 0, pp 0 0, pp 0 0, pp 0 0, pp 0 0, pp 0 0, pp 0 0, pp 0 0, pp 0 0, pp 0 0, pp 0 0, pp 0 0, pp 0 0, pp 0 0, pp 0 0, pp 0 0, pp 0 0, pp 0 0, pp 0 0, pp 0 0, pp 0 0, pp 0 0, pp 0 0, pp 0 0, pp 0 0, pp 0 0, pp 0 0, pp 0 0, pp 0 0, pp 0 0, pp 0 0, pp 0 0, pp 0 0, pp 0 0, pp 0 0, pp 0 0, pp 0 0, pp 0 0, pp 0 0, pp 0 0, pp 0 0, pn 796 3, pn 1006 1, pn 299 1, pn 8145 4]⟩

def row28 : Row := ⟨"CHL", "Chile", [pp 19116209 0, pp 54992 1, pp 8367 1, pp 3321 2, pn 237841398580491 13, pp 2151 3, pp 695709 0, pp 574369 0, pp 22335 1, pp 146508 3, pp 49685 2, pp 3520062 0, pp 586779 0, pp 9 5, pp 3 5, pp 0 0, pp 423 4, pp 33 4, pp 84 4, pn 4281936793559331 9, pn 3043875070968925 10, pn 46776004026080144 11, nn 3977883251473817 16, nn 6238394719539978 16, nn 5808855705615809 16, nn 6416613056761571 16, nn 613491281653768 15, nn 4549237264485107 16, nn 4057483051932072 16, nn 417917520108874 15, nn 979367273772311 16, pn 2310208643429873 16, nn 990027924666705 16, nn 377684621025699 15, nn 7275506231417199 16, nn 7406281750267399 16, nn 738765363656753 15, nn 724991038137489 15, nn 705709443295563 15, nn 626341640065585 15, nn 480186972559404 15, nn 32380929734322 14, pn 1207150021 10, pn 1207150021 10, pn 2174505989 10, pn 1053107041 10, pn 1292849979 10, pn 1292849979 10, pn 3254940107 11, pn 2397429377 11, pp 0 0, pp 0 0, pp 0 0, pn 1207150021 10, pn 127390529166667 8, pn 137720491666667 8, pn 174782141666667 8, pn 180855316666667 8, pn 193553491666667 8, pn 20625166666666695 10, pn 192218154166667 8, pn 175815016666667 8, pn 152786879166667 8, pn 129758741666667 8, pn 140088704166667 8, pn 150418666666667 8, pn 269050912204439 16, pn 9928295642581 16, pp 0 0, pn 10933921085613 15, pn 17464103009754 16, pn 348804465306086 15, pn 160153317601636 15, pn 943851140957683 16, pp 4762 3, pn 314327287261384 16, pn 134991804164081 14, pn 29354425952483 16, pp 1656 0, pp 1 0, pn 10688012008344 16, pn 52090728368424 16, pn 52090728368424 16, pn 52090728368424 16, pn 52090728368424 16, pn 754898001248156 14, pn 773919737199735 14, pn 737059623971839 14, pn 707235291753917 14, pn 698138516668454 14, pn 8667589140813 12, pn 940829604003729 14, pn 924025386122511 14, pn 875111120272658 14, pn 842752574038031 14, pn 848702245118873 14, pn 824154610345017 14, pn 772939452583149 14, pn 812681052256148 14, pn 848425645323458 14, pn 879083903529748 14, pn 930814672115468 14, pn 905238477982426 14, pn 87697662425911 13, pn 872983206366464 14, pn 886949579997787 14, pn 842333521352785 14, pn 808521105131766 14, pn 736003596376941 14, pn 747797958493231 14, pn 73696038117479 13, pn 71663588062733 13, pn 732836754649721 14, pn 735958578400388 14, pn 756833775285721 14, pn 70190335930404 13, pn 670879125343202 14, pn 659190855032193 14, pn 643773135212344 14, pn 614421981370049 14, pn 629856703626884 14, pn 601835397311248 14, pn 605957552130728 14, pn 609384792802397 14, pn 610852303309043 14, pn 617063243838196 14, pn 627692883989703 14, pn 615181646688059 14, pn 580176255158658 14, pn 561532674555466 14, pn 549570146928779 14, pn 548043180399106 14, pn 554676391402984 14, pn 577493104361233 14, pn 586254784310845 14, pn 558119727887822 14, pn 503531316354472 14, pn 505008341995223 14, pn 502961726528411 14, pn 50650126713702 13, pn 506360105084704 14, pn 477353047245348 14, pn 462481118454836 14, pn 479323490086984 14, pn 53800092209097 13, pn 554183774046185 14, pn 564339400960371 14, pn 517478996263543 14, pn 46104847261018 13, pn 438594464533919 14, pn 472325127034243 14, pn 493467850510606 14, pn 4817606000043 12, pn 449166571529579 14, pn 431844549700111 14, pn 441553010157403 14, pn 47875770012482 13, pn 54285265429994 13, pn 528880714401697 14, pn 464465665605375 14, pn 39022442362032 13, pn 383304263188535 14, pn 416029893216269 14, pn 486348308138465 14, pn 501163236867312 14, pn 473297700054718 14, pn 447336047839797 14, pn 448919191644332 14, pn 505209233120221 14, pn 552578364570396 14, pn 520126289801456 14, pn 46665592648983 13, pn 418364119212873 14, pn 432702423425253 14, pn 507445369304947 14, pn 573671633067977 14, pn 586282737889938 14, pn 563958866550073 14, pn 554366888251807 14, pn 56952819879475 13, pn 618565528601198 14, pn 645066697498958 14, pn 612348750194775 14, pn 576398580844891 14, pn 572774097987995 14, pn 567510139004406 14, pn 626096050405047 14, pn 681113354856017 14, pn 693786571301755 14, pn 681092209512349 14, pn 673904273344307 14, pn 688738329479613 14, pn 732118606807016 14, pn 789154330064204 14, pn 787726646230749 14, pn 72415718888027 13, pn 67668599779932 13, pn 652331692817061 14, pn 697069731033767 14, pn 783612198762664 14, pn 828618987932027 14, pn 79725829010392 13, pn 756969163960348 14, pn 756538745883214 14, pn 814670163460448 14, pn 796 3, pp 2684 0, pn 106200005 6, pn 23325999 7]⟩

def row29 : Row := ⟨"CHN", "China", [pp 14 8, pp 901586 1, pp 117198 1, pp 573247 1, pn 271389125981977 14, pp 3635 4, pp 15823712 0, pp 42102311 0, pp 6048629 0, pp 5975507 3, pp 718851563 0, pp 95384281 0, pp 12176566 0, pp 12896 4, pp 3031 4, pp 785 4, pp 38745 4, pp 1897 4, pp 7933 4, pn 7027065454895822 7, pn 3500932442095508 8, pn 8296440854513693 8, nn 975076313598488 15, nn 9971669716737848 16, nn 9970414336333868 16, nn 989900071205584 15, nn 961537116961417 15, nn 931499845812767 15, nn 8991230672714876 16, nn 8259776603421917 16, nn 612520154943911 15, nn 3396468446777395 16, nn 373612765837817 15, nn 977264660505907 15, nn 980940570686308 15, nn 953527404759726 15, nn 932749364210494 15, nn 869519476701542 15, nn 825529455602843 15, nn 787241815219556 15, nn 735408374457375 15, nn 656219230543812 15, pn 1308889387 10, pp 0 0, pp 0 0, pp 0 0, pp 0 0, pp 0 0, pn 1191110613 10, pn 1191110613 10, pn 1191110613 10, pn 25 2, pn 1308889387 10, pn 1308889387 10, pn 679628083375 3, pp 6376536 2, pn 595679116625 3, pn 55370463325 2, pn 511730149875 3, pn 4697556665 1, pn 48777668625 2, pp 505797706 0, pn 52381872575 2, pn 6077676925 1, pn 631721156125 3, pn 65567461975 2, pn 358307966862628 16, pn 14441544298253 16, pp 0 0, pn 463409831971917 16, pn 17464103009754 16, pn 295591935989866 15, pn 12997642568295 14, pn 754867508697809 16, pp 10475201 0, pn 691440889090243 16, pn 109461898471886 12, pn 238028613159777 15, pp 135675 0, pp 1 0, pn 875661853401006 16, pn 117376155608726 16, pn 117376155608726 16, pn 117376155608726 16, pn 117376155608726 16, pn 175435425176481 14, pn 174687909534561 14, pn 132526710333623 14, pn 10894157867869 13, pn 128551540746042 14, pn 307586679183569 14, pn 411949723149241 14, pn 413001697107147 14, pn 373151259279135 14, pn 364494469935826 14, pn 367627345316203 14, pn 339438837233562 14, pn 296932453030631 14, pn 317154040234602 14, pn 351852666556997 14, pn 393109760974266 14, pn 452235855792299 14, pn 461793755125513 14, pn 441603255458607 14, pn 439978921580841 14, pn 438220531963644 14, pn 411845183381513 14, pn 395832540327996 14, pn 354770612592589 14, pn 341803660501108 14, pn 321197570317955 14, pn 316748399344889 14, pn 319474156198058 14, pn 346213013606221 14, pn 367188893855819 14, pn 349188069322977 14, pn 327363154790049 14, pn 308501789801726 14, pn 308379775952604 14, pn 287518849303107 14, pn 290088447251308 14, pn 269181648948018 14, pn 26680129851077 13, pn 259031644491008 14, pn 256088426967214 14, pn 269627574299937 14, pn 289092995161537 14, pn 280097323272331 14, pn 269837585523674 14, pn 249126191151516 14, pn 229206925463001 14, pn 23079073150992 13, pn 248857075959849 14, pn 255334859813408 14, pn 254146098040422 14, pn 232682190444455 14, pn 200538842205611 14, pn 20412851903952 13, pn 217108941741431 14, pn 221572766356145 14, pn 219718973936091 14, pn 192358462437988 14, pn 177795081819962 14, pn 196707082953172 14, pn 235094953689013 14, pn 248289211470693 14, pn 244611467822232 14, pn 203589403144879 14, pn 171552813720964 14, pn 171573129831579 14, pn 195742945535128 14, pn 211076216813198 14, pn 209764242946365 14, pn 193525287729021 14, pn 174835234696924 14, pn 184200138375307 14, pn 198728599785949 14, pn 242239712924235 14, pn 237794656833356 14, pn 192975688145191 14, pn 145044931027268 14, pn 144724928633821 14, pn 178901634680745 14, pn 225286382340578 14, pn 224369136180392 14, pn 195833706936713 14, pn 177174200828644 14, pn 183793335843467 14, pn 216031001800275 14, pn 243040512459709 14, pn 217367424274253 14, pn 16820003650444 13, pn 136242151907685 14, pn 137244104560406 14, pn 189544875656872 14, pn 239949654610283 14, pn 234797576473278 14, pn 21157738842697 13, pn 200284549480744 14, pn 205274380434133 14, pn 22941331015885 13, pn 249820951924197 14, pn 220583839959753 14, pn 184653273756604 14, pn 184625357144848 14, pn 175677871255755 14, pn 220391522300563 14, pn 269163164429181 14, pn 264123847045561 14, pn 246766054662045 14, pn 224144413592101 14, pn 236570465099245 14, pn 256996014850562 14, pn 279789150975588 14, pn 265288714690626 14, pn 205539887033517 14, pn 179700223612738 14, pn 178257449823275 14, pn 230092271225776 14, pn 307609931233833 14, pn 349287166624032 14, pn 311141515628867 14, pn 259955677117142 14, pn 247591379120906 14, pn 272667468091998 14, pn 796 3, pn 6244 1, pn 883 1, pn 13253 4]⟩

def row30 : Row := ⟨"COL", "Colombia", [pp 50882884 0, pp 3386 1, pp 519 1, pp 2084 1, pn 7872762136676789 14, pp 6825 3, pp 1619784 0, pp 439682 0, pp 743901 0, pp 202145 3, pp 9428048 0, pp 30468092 0, pp 3496794 0, pp 312 4, pp 103 4, pp 1 4, pp 702 4, pp 43 4, pp 128 4, pn 12122155070421075 9, pn 12463498208920036 10, pn 7473398280777169 10, nn 2460708118953224 16, nn 8477242394045931 16, nn 9344525668111874 16, nn 92171969288074 14, nn 898956223784084 15, nn 797153709755629 15, nn 7235211795197459 16, nn 5395479184635584 16, nn 353852488207961 15, nn 1076921485208297 16, nn 675063162935949 16, nn 465415339635802 15, nn 674353247959238 15, nn 770770303155937 15, nn 829954291110927 15, nn 853373424902903 15, nn 8512400463044639 16, nn 8152093213641549 16, nn 749218215960196 15, nn 6698992945985439 16, pn 1820120564 10, pp 0 0, pp 0 0, pn 6765801366 11, pn 6765801366 11, pn 6765801366 11, pn 6798794358 11, pn 3299299195 13, pn 3299299195 13, pn 1823419863 10, pn 1820120564 10, pn 1820120564 10, pn 515863804166667 8, pn 473275845833333 8, pn 4306878875 3, pn 4226769291666671 9, pn 414665970833333 8, pn 4066550125 3, pn 39881266666666702 10, pn 356393320833333 8, pn 313973975 2, pn 36457289166666702 10, pn 415003195833333 8, pp 4654335 0, pn 203103918773678 16, pn 82326425843611 16, pn 6065890738143 15, pn 814633613031951 16, pn 17464103009754 16, pn 286103311387198 15, pn 124861768114767 15, pn 723380180804959 16, pp 118 3, pn 7788874400849 16, pn 159084266949462 14, pn 34593413750489 16, pp 9872 0, pp 1 0, pn 6371500878404 15, pn 2596846256502 15, pn 2596846256502 15, pn 2596846256502 15, pn 2596846256502 15, pn 553189887486893 14, pn 563819043913018 14, pn 504894304613149 14, pn 471165981049935 14, pn 489743875403768 14, pn 771717662625262 14, pn 928170429219506 14, pn 920598519325542 14, pn 849004633992877 14, pn 82074087698112 13, pn 830327122684458 14, pn 795657396422453 14, pn 72536390926114 13, pn 767233006192536 14, pn 818920148127992 14, pn 875176967554995 14, pn 964376008851417 14, pn 963495695143665 14, pn 930371604104392 14, pn 925759024205535 14, pn 931115166784634 14, pn 876551996516064 14, pn 842411048151381 14, pn 762865622724684 14, pn 757438854302369 14, pn 731379284166376 14, pn 713185272445357 14, pn 724880063393956 14, pn 752629815783395 14, pn 790834295375846 14, pn 741740170145023 14, pn 702268118122964 14, pn 674289582006314 14, pn 661312974653711 14, pn 624049323089533 14, pn 636679928112718 14, pn 599697788698727 14, pn 600020771569883 14, pn 594427340467376 14, pn 591800137739992 14, pn 609014999395908 14, pn 637494536356212 14, pn 623220362219361 14, pn 592879476563743 14, pn 558511502457538 14, pn 528260364464608 14, pn 528299851586803 14, pn 549256377414294 14, pn 569437508223311 14, pn 573173781160215 14, pn 534752097537852 14, pn 470621406008698 14, pn 475201097259388 14, pn 49055161944184 13, pn 501738033704778 14, pn 500628174728358 14, pn 452764876212837 14, pn 425712017176162 14, pn 452050331466483 14, pn 524342716853722 14, pn 545519620005354 14, pn 545557629016649 14, pn 476128451775118 14, pn 413254378676104 14, pn 402857861160049 14, pn 450891071007507 14, pn 482518576786 11, pn 474626955998793 14, pn 435805043218237 14, pn 402428680847582 14, pn 414822121946564 14, pn 451138193389015 14, pn 529833518318784 14, pn 51301341716851 13, pn 43135167050799 13, pn 343071943811169 14, pn 343424057121117 14, pn 400347733469126 14, pn 491436273692318 14, pn 49928922911363 13, pn 451850188458959 14, pn 413019446194471 14, pn 417679870818116 14, pn 481678009762486 14, pn 532667246882039 14, pn 482644995535697 14, pn 40300651094897 13, pn 348817268976905 14, pn 362582149389473 14, pn 462789146893963 14, pn 554773945420753 14, pn 558873442017305 14, pn 518149896191058 14, pn 498234353790006 14, pn 508510015226697 14, pn 558187419997038 14, pn 586238252952896 14, pn 533211168089854 14, pn 478790415075649 14, pn 482036754606312 14, pn 47648485657509 13, pn 558922113622501 14, pn 642863206953598 14, pn 649350548586554 14, pn 622045677709514 14, pn 592509428018341 14, pn 608296237362796 14, pn 644100529333332 14, pn 69212730344473 13, pn 673645212735708 14, pn 578793466522903 14, pn 534950354106358 14, pn 524292869477165 14, pn 608520562266816 14, pn 740125103422674 14, pn 810410874993502 14, pn 753811715388189 14, pn 675247022683089 14, pn 655473776094859 14, pn 707098801438104 14, pn 796 3, pn 19041 1, pn 886 1, pn 15553 4]⟩

def row31 : Row := ⟨"COD", "Democratic Republic of the Congo", [pp 89561404 0, pp 4161 1, pp 611 1, pp 2616 1, pn 366616913770726 15, pp 8 3, pp 10406 0, pp 25633 0, pp 21015 0, pp 18668 3, pp 6024979 0, pp 1267642 0, pp 9093 0, pp 0 0, pp 0 0, pp 0 0, pp 6 4, pp 0 0, pp 2 4, pn 17705535669709582 9, pn 6501272935632834 10, pn 9205758421920248 10, nn 891062798318832 16, nn 7858377019934961 16, nn 96551563775879 14, nn 939754392869585 15, nn 992591082780062 15, nn 8759583182222854 16, nn 8005254038338049 16, nn 6468285678918216 16, nn 4882788579553743 16, nn 3135257795673662 16, nn 384657501029216 16, nn 506423618729626 15, nn 640194299922519 15, nn 600079103570818 15, nn 699423427076238 15, nn 747988840121309 15, nn 8051635742204329 16, nn 742214663579835 15, nn 663580775993715 15, nn 636803855651817 15, pp 0 0, pp 0 0, pp 0 0, pp 0 0, pn 322196528 10, pn 322196528 10, pn 25 2, pn 25 2, pn 2177803472 10, pn 2177803472 10, pp 0 0, pp 0 0, pn 120448645833333 8, pn 102043083333333 8, pn 836375208333333 9, pn 6523195833333329 10, pn 539426458333333 9, pn 42653333333333296 11, pn 794644583333333 9, pn 116275583333333 8, pn 145970458333333 8, pn 175665333333333 8, pn 157259770833333 8, pn 138854208333333 8, pn 285959675918347 16, pp 0 0, pp 0 0, pn 460829493087558 16, pn 17464103009754 16, pp 0 0, pp 0 0, pp 0 0, pp 0 0, pp 0 0, pn 235036037682409 15, pn 5110938406251 16, pp 133 2, pp 1 0, pn 85839709970395 16, pn 2995115694843366 20, pn 2995115694843366 20, pn 2995115694843366 20, pn 5 4, pn 225563619622158 14, pn 224007972500148 14, pn 148606453827951 14, pn 114355202888872 14, pn 160951789253174 14, pn 521966083355326 14, pn 743437685745195 14, pn 747972711789109 14, pn 664280356141849 14, pn 646647044242444 14, pn 65771874112729 13, pn 615087329436925 14, pn 534977880528962 14, pn 571758638142947 14, pn 633725490408862 14, pn 710580962719998 14, pn 827223961234327 14, pn 854518932298853 14, pn 820843801067746 14, pn 816608141169708 14, pn 810982541964485 14, pn 755868200634493 14, pn 727441488563201 14, pn 653695979028396 14, pn 628534685511087 14, pn 589070949208488 14, pn 577589039896562 14, pn 581788069739559 14, pn 633828785774011 14, pn 683619681625962 14, pn 650726280711991 14, pn 608688789791755 14, pn 567459044912239 14, pn 561208414528042 14, pn 521499840213542 14, pn 527972658978082 14, pn 487388133502636 14, pn 483010833322668 14, pn 4676713228069 12, pn 460844068580014 14, pn 487837613254963 14, pn 531162341657829 14, pn 516884731434986 14, pn 497902067622137 14, pn 452361893257602 14, pn 407266102333234 14, pn 409386816082206 14, pn 443703262940789 14, pn 456681029282089 14, pn 453750216969654 14, pn 41069449815675 13, pn 347683974395228 14, pn 355036326450263 14, pn 3869939531218 12, pn 403586377822991 14, pn 401259844107923 14, pn 341374567255376 14, pn 306303937445421 14, pn 339662756674879 14, pn 414268590561571 14, pn 437778663119636 14, pn 426460470008121 14, pn 343931557743281 14, pn 284893096423649 14, pn 290026347343356 14, pn 344407639823311 14, pn 381088516403793 14, pn 37920574097581 13, pn 34168359641049 13, pn 297148329944834 14, pn 311217239211973 14, pn 339382155452187 14, pn 420949780539445 14, pn 405406533156939 14, pn 318779014623005 14, pn 229910459740717 14, pn 2373108082246 12, pn 31085020745919 13, pn 407807608795591 14, pn 405775190382202 14, pn 345063849689118 14, pn 300087762760537 14, pn 308478371667017 14, pn 369597783750681 14, pn 416213884386239 14, pn 35673784418279 13, pn 261088270593267 14, pn 20841204638453 13, pn 217349193744004 14, pn 327051500737282 14, pn 430934827503372 14, pn 423438857629996 14, pn 370150089910681 14, pn 342785217891785 14, pn 346413286727789 14, pn 388217941446816 14, pn 415270708063935 14, pn 349864476608232 14, pn 283136535533392 14, pn 292162278737474 14, pn 285190579039329 14, pn 378904646399308 14, pn 480046378209707 14, pn 476505625357688 14, pn 437905938224189 14, pn 388326244550295 14, pn 403945554491463 14, pn 427047613698725 14, pn 457654226002208 14, pn 423444946558973 14, pn 30901188433574 13, pn 274798000248855 14, pn 280908906252639 14, pn 393828629819519 14, pn 552466284019736 14, pn 638494859265154 14, pn 562808407419351 14, pn 455094432883848 14, pn 418448007315187 14, pn 454716994967059 14, pn 796 3, pn 8965 1, pn 517 1, pn 63 2]⟩

def row32 : Row := ⟨"COG", "Republic of the Congo", [pp 5518092 0, pp 1727 1, pp 285 1, pp 1033 1, pn 195184080475443 14, pp 4 3, pp 6821 0, pp 1779 0, pp 5833 0, pp 2977 3, pp 561939 0, pp 35207 1, pp 297 1, pp 13 4, pp 5 4, pp 0 0, pp 4 4, pp 0 0, pp 0 0, pn 6872480663018522 10, pn 394796929061927 10, pn 35394072206928104 12, nn 524170994203057 16, nn 7988318452454639 16, nn 9231436394063192 16, nn 9290923799244308 16, nn 9647278822271288 16, nn 8164816110615948 16, nn 724307087499765 15, nn 5030455917988571 16, nn 4153010091935031 16, nn 1896814374973782 16, nn 793093520756428 16, nn 420710565999291 15, nn 634726931249985 15, nn 680245345764887 15, nn 681674288987597 15, nn 708942186732096 15, nn 748676103668995 15, nn 723809885353324 15, nn 6717845987929301 16, nn 6363220807652921 16, pn 362604612 10, pp 0 0, pp 0 0, pp 0 0, pn 2137395388 10, pn 2137395388 10, pn 2137395388 10, pn 2137395388 10, pp 0 0, pn 362604612 10, pn 362604612 10, pn 362604612 10, pn 601175 1, pn 531970833333333 10, pn 462766666666667 10, pn 3935625 2, pn 501858333333333 10, pn 6101541666666669 11, pp 71845 0, pn 826745833333333 10, pn 757541666666667 10, pp 71845 0, pn 679358333333333 10, pn 640266666666667 10, pn 504092677908485 16, pp 0 0, pp 0 0, pp 0 0, pn 17464103009754 16, pn 382522419578609 16, pn 139622230578673 16, pn 76795712531427 16, pp 0 0, pp 0 0, pn 156453960004636 15, pn 3402144457856 16, pp 628 0, pp 1 0, pn 405318329785 15, pn 1368039330887 16, pn 1368039330887 16, pn 1368039330887 16, pn 5 4, pn 225563619622158 14, pn 224007972500148 14, pn 148606453827951 14, pn 114355202888872 14, pn 160951789253174 14, pn 521966083355326 14, pn 743437685745195 14, pn 747972711789109 14, pn 664280356141849 14, pn 646647044242444 14, pn 65771874112729 13, pn 615087329436925 14, pn 534977880528962 14, pn 571758638142947 14, pn 633725490408862 14, pn 710580962719998 14, pn 827223961234327 14, pn 854518932298853 14, pn 820843801067746 14, pn 816608141169708 14, pn 810982541964485 14, pn 755868200634493 14, pn 727441488563201 14, pn 653695979028396 14, pn 628534685511087 14, pn 589070949208488 14, pn 577589039896562 14, pn 581788069739559 14, pn 633828785774011 14, pn 683619681625962 14, pn 650726280711991 14, pn 608688789791755 14, pn 567459044912239 14, pn 561208414528042 14, pn 521499840213542 14, pn 527972658978082 14, pn 487388133502636 14, pn 483010833322668 14, pn 4676713228069 12, pn 460844068580014 14, pn 487837613254963 14, pn 531162341657829 14, pn 516884731434986 14, pn 497902067622137 14, pn 452361893257602 14, pn 407266102333234 14, pn 409386816082206 14, pn 443703262940789 14, pn 456681029282089 14, pn 453750216969654 14, pn 41069449815675 13, pn 347683974395228 14, pn 355036326450263 14, pn 3869939531218 12, pn 403586377822991 14, pn 401259844107923 14, pn 341374567255376 14, pn 306303937445421 14, pn 339662756674879 14, pn 414268590561571 14, pn 437778663119636 14, pn 426460470008121 14, pn 343931557743281 14, pn 284893096423649 14, pn 290026347343356 14, pn 344407639823311 14, pn 381088516403793 14, pn 37920574097581 13, pn 34168359641049 13, pn 297148329944834 14, pn 311217239211973 14, pn 339382155452187 14, pn 420949780539445 14, pn 405406533156939 14, pn 318779014623005 14, pn 229910459740717 14, pn 2373108082246 12, pn 31085020745919 13, pn 407807608795591 14, pn 405775190382202 14, pn 345063849689118 14, pn 300087762760537 14, pn 308478371667017 14, pn 369597783750681 14, pn 416213884386239 14, pn 35673784418279 13, pn 261088270593267 14, pn 20841204638453 13, pn 217349193744004 14, pn 327051500737282 14, pn 430934827503372 14, pn 423438857629996 14, pn 370150089910681 14, pn 342785217891785 14, pn 346413286727789 14, pn 388217941446816 14, pn 415270708063935 14, pn 349864476608232 14, pn 283136535533392 14, pn 292162278737474 14, pn 285190579039329 14, pn 378904646399308 14, pn 480046378209707 14, pn 476505625357688 14, pn 437905938224189 14, pn 388326244550295 14, pn 403945554491463 14, pn 427047613698725 14, pn 457654226002208 14, pn 423444946558973 14, pn 30901188433574 13, pn 274798000248855 14, pn 280908906252639 14, pn 393828629819519 14, pn 552466284019736 14, pn 638494859265154 14, pn 562808407419351 14, pn 455094432883848 14, pn 418448007315187 14, pn 454716994967059 14, pn 796 3, pn 13686 1, pn 454 1, pp 1 0]⟩

def row33 : Row := ⟨"CRI", "Costa Rica", [pp 5094114 0, pp 611 1, pp 89 1, pp 384 1, pn 915678107315546 14, pp 1189 3, pp 1375 2, pp 67607 0, pp 89744 0, pp 24492 3, pp 404144 0, pp 1569822 0, pp 838333 0, pp 35 4, pp 13 4, pp 0 0, pp 106 4, pp 6 4, pp 22 4, pn 16447800906731198 10, pn 1774340376795822 10, pn 6423031031743187 11, pn 10901932283029965 16, pn 9524084214039042 16, pn 11170028655980608 16, pn 2160631319585588 16, pn 8057457957461751 16, pn 47354698859362 14, pn 3198788956586231 15, pn 1986672536362492 15, pn 10636568000613529 16, nn 3008211088636812 16, nn 180540955887571 15, nn 3672047220816399 16, nn 638139348007539 15, nn 711356420753757 15, nn 702821057819141 15, nn 6340723843828929 16, nn 5487551935357969 16, nn 366217907078433 15, nn 4504483921900249 16, nn 382643476559819 15, pn 25 2, pp 0 0, pp 0 0, pp 0 0, pp 0 0, pp 0 0, pp 0 0, pp 0 0, pp 0 0, pn 25 2, pn 25 2, pn 25 2, pn 8730781666666671 10, pn 8260167083333329 10, pn 77895525 2, pn 731893791666667 9, pn 6848323333333341 10, pn 637770875 3, pn 590709416666667 9, pn 543647958333333 9, pn 4965865 1, pn 590709416666667 9, pn 6848323333333341 10, pn 77895525 2, pn 244592242665341 16, pp 0 0, pp 0 0, pn 683235867446394 16, pn 17464103009754 16, pn 32844083743108 14, pn 148295252097115 15, pn 86892832459386 15, pp 0 0, pp 0 0, pn 260247738087695 15, pn 5659175387944 16, pp 576 0, pp 1 0, pn 3717569394206 16, pn 10442430395534 16, pn 10442430395534 16, pn 10442430395534 16, pn 10442430395534 16, pn 131765117917127 13, pn 135671154387638 13, pn 133623262311194 13, pn 130372446342575 13, pn 125692540975515 13, pn 135447134758845 13, pn 135921349732623 13, pn 132339207024389 13, pn 128002794897861 13, pn 122695982003803 13, pn 123308001298452 13, pn 121698755272202 13, pn 116959797630289 13, pn 122333986497491 13, pn 12510410161393 12, pn 125923431216999 13, pn 128439745329129 13, pn 121777480844823 13, pn 118593647785657 13, pn 11804444179558 12, pn 121142462469832 13, pn 115814752023973 13, pn 111067335385713 13, pn 101759479134936 13, pn 105821524814869 13, pn 106343206573478 13, pn 102957648172588 13, pn 105876138192088 13, pn 102983221913863 13, pn 104100172745891 13, pn 954105912155431 14, pn 92061988422912 13, pn 923560835225823 14, pn 894890281613605 14, pn 863331449800178 14, pn 890330222760202 14, pn 861753650822939 14, pn 873043960813386 14, pn 890191381675154 14, pn 897364299113273 14, pn 89176223372478 13, pn 885602990652438 14, pn 871336834049569 14, pn 814493430760821 14, pn 806193923924054 14, pn 810580309437812 14, pn 80576360109753 13, pn 795546977852472 14, pn 832535959086163 14, pn 851828764271525 14, pn 82421982942709 13, pn 757475413106795 14, pn 755585562480679 14, pn 732186174188602 14, pn 730758564095614 14, pn 732487612842706 14, pn 712675597113578 14, pn 704330869881224 14, pn 714288005980228 14, pn 781182344868742 14, pn 796915186072029 14, pn 823451000036548 14, pn 784587871182739 14, pn 712764037265167 14, pn 666131393399 11, pn 699352410437298 14, pn 719188717677815 14, pn 697276457719086 14, pn 655421752436314 14, pn 648082832953994 14, pn 656566848327278 14, pn 711902281908279 14, pn 783895573137242 14, pn 764096146528843 14, pn 694021200906288 14, pn 607115406642223 14, pn 591021637879655 14, pn 609175294158978 14, pn 686569825118015 14, pn 717488652820295 14, pn 701018312255254 14, pn 676526707540319 14, pn 672483368837347 14, pn 743198537123365 14, pn 80439175937224 13, pn 776428348692479 14, pn 734149071778945 14, pn 676429455025779 14, pn 701459045895567 14, pn 779510321259551 14, pn 843731887227975 14, pn 87488747225436 13, pn 863482777511938 14, pn 860949004219189 14, pn 886735715057483 14, pn 954782869947557 14, pn 985162524360473 14, pn 961020114880305 14, pn 935316134007582 14, pn 925077198300266 14, pn 922838170825199 14, pn 978962870476616 14, pn 102276914068934 13, pn 105265536945391 13, pn 105170506984194 13, pn 106893685611045 13, pn 108511449739591 13, pn 115055733248075 13, pn 123923115081061 13, pn 125744583381476 13, pn 120828382495962 13, pn 11419725131072 12, pn 109218878366773 13, pn 110946840464384 13, pn 117799568202953 13, pn 121154824502632 13, pn 119948610064881 13, pn 118893639888132 13, pn 120853390324743 13, pn 129598968320388 13, pn 796 3, pn 13485 1, pn 756 1, pn 1821 3]⟩

def row34 : Row := ⟨"CIV", "Cote d'Ivoire", [pp 26378275 0, pp 14 3, pp 216 1, pp 909 1, pp 0 0, pp 34 3, pp 72832 0, pp 11938 0, pp 34109 0, pp 84375 3, pp 6359543 0, pp 1756473 0, pp 3188 2, pp 33 4, pp 12 4, pp 1 4, pp 13 5, pp 4 4, pp 12 4, pn 10874322628501654 9, pn 14853113384107798 10, pn 6182533648810093 10, nn 316730203193692 15, nn 916695826751968 15, nn 9318415685361388 16, nn 9363149743851352 16, nn 8311193740020193 16, nn 8479114727644012 16, nn 6928955066777734 16, nn 5424246910283383 16, nn 4432839703863915 16, nn 1952160206342957 16, pn 133202655334437 15, nn 567805895704948 15, nn 61039587120823 14, nn 745152005241779 15, nn 7510041346863041 16, nn 7084821192882249 16, nn 6592110082042519 16, nn 600726752367454 15, nn 5143698249384611 16, nn 35576743861505 14, pn 2285355254 10, pp 0 0, pp 0 0, pp 0 0, pn 2146447463 11, pn 2146447463 11, pn 2146447463 11, pn 2146447463 11, pp 0 0, pn 2285355254 10, pn 2285355254 10, pn 2285355254 10, pn 23748276666666702 10, pn 218653204166667 8, pn 199823641666667 8, pn 180994079166667 8, pn 167014516666667 8, pn 153034954166667 8, pn 139055391666667 8, pn 125075829166667 8, pn 106246266666667 8, pn 139055391666667 8, pn 171864516666667 8, pn 20467364166666705 10, pn 597055918533347 16, pp 0 0, pp 0 0, pn 837988826815642 16, pn 17464103009754 16, pn 107650009454769 15, pn 411795361044724 16, pn 229346332079261 16, pp 0 0, pp 0 0, pn 264692630030052 15, pn 5755831071744 16, pp 8 3, pp 1 0, pn 51632908252869 16, pp 0 0, pp 0 0, pp 0 0, pp 0 0, pp 0 0, pp 0 0, pp 0 0, pp 0 0, pp 0 0, pp 0 0, pp 0 0, pp 0 0, pp 0 0, pp 0 0, pp 0 0, pp 0 0, pp 0 0, pp 0 0, pp 0 0, pp 0 0, pp 0 0, pp 0 0, pp 0 0, pp 0 0, pp 0 0, pp 0 0, pp 0 0, pp 0 0, pp 0 0, pp 0 0, pp 0 0, pp 0 0, pp 0 0, pp 0 0, pp 0 0, pp 0 0, pp 0 0, pp 0 0, pp 0 0, pp 0 0, pp 0 0, pp 0 0, pp 0 0, pp 0 0, pp 0 0, pp 0 0, pp 0 0, pp 0 0, pp 0 0, pp 0 0, pp 0 0, pp 0 0, pp 0 0, pp 0 0, pp 0 0, pp 0 0, pp 0 0, pp 0 0, pp 0 0, pp 0 0, pp 0 0, pp 0 0, pp 0 0, pp 0 0, pp 0 0, pp 0 0, pp 0 0, pp 0 0, pp 0 0, pp 0 0, pp 0 0, pp 0 0, pp 0 0, pp 0 0, pp 0 0, pp 0 0, pp 0 0, pp 0 0, pp 0 0, pp 0 0, pp 0 0, pp 0 0, pp 0 0, pp 0 0, pp 0 0, pp 0 0, pp 0 0, pp 0 0, pp 0 0, pp 0 0, pp 0 0, pp 0 0, pp 0 0, pp 0 0, pp 0 0, pp 0 0, pp 0 0, pp 0 0, pp 0 0, pp 0 0, pp 0 0, pp 0 0, pp 0 0, pp 0 0, pp 0 0, pp 0 0, pp 0 0, pp 0 0, pp 0 0, pp 0 0, pp 0 0, pp 0 0, pp 0 0, pp 0 0, pp 0 0, pp 0 0, pp 0 0, pp 0 0, pp 0 0, pp 0 0, pp 0 0, pp 0 0, pp 0 0, pp 0 0, pn 796 3, pn 101700005 6, pn 432 1, pn 10411 4]⟩

def row35 : Row := ⟨"CUB", "Cuba", [pp 11326616 0, pp 856 1, pp 116 1, pp 552 1, pn 398601486809928 15, pp 517 3, pp 164 2, pp 128377 0, pp 66501 0, pp 30245 3, pp 3292799 0, pp 47126 2, pp 3114 2, pp 12 4, pp 4 4, pp 0 0, pp 17 5, pp 7 4, pp 34 4, pn 2224294793040434 9, pn 32070449549118868 12, pn 12865112920189455 11, nn 3141128498843666 16, nn 6927150593973177 16, nn 8493417575421363 16, nn 791762294861134 15, nn 783786482054482 15, nn 6233682585035065 16, nn 3044797410519874 16, nn 672911548412901 16, pn 1689058892746657 16, pn 1396018302597079 16, pn 549687136760428 15, nn 453522770968252 15, nn 731559616621423 15, nn 790838246662785 15, nn 7859228873560911 16, nn 725895813159565 15, nn 561730072462675 15, nn 193788990380285 15, pn 155579825801221 15, pn 2775099521221429 16, pn 2193266642 10, pp 0 0, pp 0 0, pp 0 0, pp 0 0, pp 0 0, pn 3067333577 11, pn 3067333577 11, pn 3067333577 11, pn 25 2, pn 2193266642 10, pn 2193266642 10, pn 1682602625 3, pn 149585825 2, pn 1309113875 3, pn 11223695 1, pn 935625125 3, pn 74888075 2, pn 63087325 2, pn 51286575 2, pn 39485825 2, pp 768347 0, pn 1073098875 3, pn 137785075 2, pn 423604107074949 16, pn 1616553507921 16, pp 0 0, pn 463611859838275 16, pn 17464103009754 16, pp 0 0, pp 0 0, pp 0 0, pp 0 0, pp 0 0, pn 184132162046968 15, pn 4004016354732 16, pp 3663 0, pp 1 0, pn 23641417866282 16, pn 30234478703351 16, pn 30234478703351 16, pn 30234478703351 16, pn 30234478703351 16, pn 225563619622158 14, pn 224007972500148 14, pn 148606453827951 14, pn 114355202888872 14, pn 160951789253174 14, pn 521966083355326 14, pn 743437685745195 14, pn 747972711789109 14, pn 664280356141849 14, pn 646647044242444 14, pn 65771874112729 13, pn 615087329436925 14, pn 534977880528962 14, pn 571758638142947 14, pn 633725490408862 14, pn 710580962719998 14, pn 827223961234327 14, pn 854518932298853 14, pn 820843801067746 14, pn 816608141169708 14, pn 810982541964485 14, pn 755868200634493 14, pn 727441488563201 14, pn 653695979028396 14, pn 628534685511087 14, pn 589070949208488 14, pn 577589039896562 14, pn 581788069739559 14, pn 633828785774011 14, pn 683619681625962 14, pn 650726280711991 14, pn 608688789791755 14, pn 567459044912239 14, pn 561208414528042 14, pn 521499840213542 14, pn 527972658978082 14, pn 487388133502636 14, pn 483010833322668 14, pn 4676713228069 12, pn 460844068580014 14, pn 487837613254963 14, pn 531162341657829 14, pn 516884731434986 14, pn 497902067622137 14, pn 452361893257602 14, pn 407266102333234 14, pn 409386816082206 14, pn 443703262940789 14, pn 456681029282089 14, pn 453750216969654 14, pn 41069449815675 13, pn 347683974395228 14, pn 355036326450263 14, pn 3869939531218 12, pn 403586377822991 14, pn 401259844107923 14, pn 341374567255376 14, pn 306303937445421 14, pn 339662756674879 14, pn 414268590561571 14, pn 437778663119636 14, pn 426460470008121 14, pn 343931557743281 14, pn 284893096423649 14, pn 290026347343356 14, pn 344407639823311 14, pn 381088516403793 14, pn 37920574097581 13, pn 34168359641049 13, pn 297148329944834 14, pn 311217239211973 14, pn 339382155452187 14, pn 420949780539445 14, pn 405406533156939 14, pn 318779014623005 14, pn 229910459740717 14, pn 2373108082246 12, pn 31085020745919 13, pn 407807608795591 14, pn 405775190382202 14, pn 345063849689118 14, pn 300087762760537 14, pn 308478371667017 14, pn 369597783750681 14, pn 416213884386239 14, pn 35673784418279 13, pn 261088270593267 14, pn 20841204638453 13, pn 217349193744004 14, pn 327051500737282 14, pn 430934827503372 14, pn 423438857629996 14, pn 370150089910681 14, pn 342785217891785 14, pn 346413286727789 14, pn 388217941446816 14, pn 415270708063935 14, pn 349864476608232 14, pn 283136535533392 14, pn 292162278737474 14, pn 285190579039329 14, pn 378904646399308 14, pn 480046378209707 14, pn 476505625357688 14, pn 437905938224189 14, pn 388326244550295 14, pn 403945554491463 14, pn 427047613698725 14, pn 457654226002208 14, pn 423444946558973 14, pn 30901188433574 13, pn 274798000248855 14, pn 280908906252639 14, pn 393828629819519 14, pn 552466284019736 14, pn 638494859265154 14, pn 562808407419351 14, pn 455094432883848 14, pn 418448007315187 14, pn 454716994967059 14, pn 796 3, pp 1155 0, pn 59100002 6, pn 13395 4]⟩

def row36 : Row := ⟨"DJI", "Djibouti", [pp 988002 0, pp 39 1, pp 7 1, pp 22 1, pp 0 0, pp 15 3, pp 0 0, pp 0 0, pp 6074 0, pp 0 0, pp 987093 0, pp 380041 0, pp 25302 0, pp 98 4, pp 42 4, pp 0 0, pp 1 5, pp 0 0, pp 1 4, pn 4597584248741611 12, pn 21593645639404767 14, pn 10774504567757112 13, nn 8714366949304142 16, nn 9283961092160772 16, nn 7716251046788541 16, nn 7031843961695989 16, pn 6789901150390699 16, nn 9178771885128896 16, nn 5904341187067562 16, nn 6995340122152126 16, nn 6594093722731441 16, nn 3042079544560035 16, nn 125287114085122 15, nn 545022999810815 15, nn 7556360217244109 16, nn 848563867335145 15, nn 891834875743945 15, nn 904003489465643 15, nn 891864862774564 15, nn 827983418984379 15, nn 671536341988805 15, nn 366213999678558 15, pn 1175496689 10, pp 0 0, pp 0 0, pp 0 0, pn 1324503311 10, pn 1324503311 10, pn 1324503311 10, pn 1324503311 10, pp 0 0, pn 1175496689 10, pn 1175496689 10, pn 1175496689 10, pp 41 3, pp 41 3, pp 41 3, pp 41 3, pp 41 3, pp 41 3, pp 41 3, pp 41 3, pp 41 3, pp 41 3, pp 41 3, pp 41 3, pn 5155968032998 16, pp 0 0, pp 0 0, pn 383141762452107 16, pn 17464103009754 16, pn 120140676193357 15, pn 463582867148096 16, pn 258808330091346 16, pp 0 0, pp 0 0, pn 164565972764679 16, pn 357854292838955 19, pp 2 0, pp 1 0, pn 129082270632173 20, pn 2541800886975 16, pn 2541800886975 16, pn 2541800886975 16, pn 5 4, pn 225563619622158 14, pn 224007972500148 14, pn 148606453827951 14, pn 114355202888872 14, pn 160951789253174 14, pn 521966083355326 14, pn 743437685745195 14, pn 747972711789109 14, pn 664280356141849 14, pn 646647044242444 14, pn 65771874112729 13, pn 615087329436925 14, pn 534977880528962 14, pn 571758638142947 14, pn 633725490408862 14, pn 710580962719998 14, pn 827223961234327 14, pn 854518932298853 14, pn 820843801067746 14, pn 816608141169708 14, pn 810982541964485 14, pn 755868200634493 14, pn 727441488563201 14, pn 653695979028396 14, pn 628534685511087 14, pn 589070949208488 14, pn 577589039896562 14, pn 581788069739559 14, pn 633828785774011 14, pn 683619681625962 14, pn 650726280711991 14, pn 608688789791755 14, pn 567459044912239 14, pn 561208414528042 14, pn 521499840213542 14, pn 527972658978082 14, pn 487388133502636 14, pn 483010833322668 14, pn 4676713228069 12, pn 460844068580014 14, pn 487837613254963 14, pn 531162341657829 14, pn 516884731434986 14, pn 497902067622137 14, pn 452361893257602 14, pn 407266102333234 14, pn 409386816082206 14, pn 443703262940789 14, pn 456681029282089 14, pn 453750216969654 14, pn 41069449815675 13, pn 347683974395228 14, pn 355036326450263 14, pn 3869939531218 12, pn 403586377822991 14, pn 401259844107923 14, pn 341374567255376 14, pn 306303937445421 14, pn 339662756674879 14, pn 414268590561571 14, pn 437778663119636 14, pn 426460470008121 14, pn 343931557743281 14, pn 284893096423649 14, pn 290026347343356 14, pn 344407639823311 14, pn 381088516403793 14, pn 37920574097581 13, pn 34168359641049 13, pn 297148329944834 14, pn 311217239211973 14, pn 339382155452187 14, pn 420949780539445 14, pn 405406533156939 14, pn 318779014623005 14, pn 229910459740717 14, pn 2373108082246 12, pn 31085020745919 13, pn 407807608795591 14, pn 405775190382202 14, pn 345063849689118 14, pn 300087762760537 14, pn 308478371667017 14, pn 369597783750681 14, pn 416213884386239 14, pn 35673784418279 13, pn 261088270593267 14, pn 20841204638453 13, pn 217349193744004 14, pn 327051500737282 14, pn 430934827503372 14, pn 423438857629996 14, pn 370150089910681 14, pn 342785217891785 14, pn 346413286727789 14, pn 388217941446816 14, pn 415270708063935 14, pn 349864476608232 14, pn 283136535533392 14, pn 292162278737474 14, pn 285190579039329 14, pn 378904646399308 14, pn 480046378209707 14, pn 476505625357688 14, pn 437905938224189 14, pn 388326244550295 14, pn 403945554491463 14, pn 427047613698725 14, pn 457654226002208 14, pn 423444946558973 14, pn 30901188433574 13, pn 274798000248855 14, pn 280908906252639 14, pn 393828629819519 14, pn 552466284019736 14, pn 638494859265154 14, pn 562808407419351 14, pn 455094432883848 14, pn 418448007315187 14, pn 454716994967059 14, pn 796 3, pp 267 0, pp 0 0, pp 0 0]⟩

def row37 : Row := ⟨"DOM", "Dominican Republic", [pp 10847904 0, pp 293 1, pp 44 1, pp 184 1, pn 72849741527355 13, pp 917 3, pp 31275 1, pp 61167 0, pp 6645 1, pp 179694 3, pp 1004856 0, pp 3720007 0, pp 56 4, pp 25 4, pp 11 4, pp 0 0, pp 177 4, pp 9 4, pp 22 4, pn 2671043308977297 9, pn 2442917304535276 10, pn 16152173432500707 11, pn 1705879050635692 16, nn 2976006617188921 16, nn 5991998412159173 16, nn 8072623055784944 16, nn 5837311000932623 16, nn 396776244052203 15, nn 1423549182528945 16, pn 2625489846444395 16, nn 625837017822966 16, pn 614302154539943 16, pn 379154038114116 14, pn 16519241540963698 16, pn 282609987246869 15, pn 248815839602366 15, pn 481655164080185 15, pn 900188616897096 15, pn 203685204744307 14, pn 464885197372319 14, pn 9090485328379 12, pn 886128777599874 14, pn 1301379309 10, pp 0 0, pp 0 0, pp 0 0, pp 0 0, pp 0 0, pn 1198620691 10, pn 1198620691 10, pn 1198620691 10, pn 25 2, pn 1301379309 10, pn 1301379309 10, pn 109824195833333 8, pn 100911216666667 8, pn 919982375 3, pn 830852583333333 9, pn 741722791666667 9, pp 652593 0, pn 691662583333333 9, pn 730732166666667 9, pn 76980175 2, pn 948061333333333 9, pn 998121541666667 9, pn 104818175 2, pn 35588056063376 15, pn 405057363615078 16, pp 0 0, pn 530519790176443 16, pn 17464103009754 16, pn 312885772508627 15, pn 139499681513577 15, pn 813910888920331 16, pp 0 0, pp 0 0, pn 416622633796782 15, pn 9059600565861 16, pp 1232 0, pp 1 0, pn 7951467870941 16, pn 10426240580968 16, pn 10426240580968 16, pn 10426240580968 16, pn 10426240580968 16, pn 225563619622158 14, pn 224007972500148 14, pn 148606453827951 14, pn 114355202888872 14, pn 160951789253174 14, pn 521966083355326 14, pn 743437685745195 14, pn 747972711789109 14, pn 664280356141849 14, pn 646647044242444 14, pn 65771874112729 13, pn 615087329436925 14, pn 534977880528962 14, pn 571758638142947 14, pn 633725490408862 14, pn 710580962719998 14, pn 827223961234327 14, pn 854518932298853 14, pn 820843801067746 14, pn 816608141169708 14, pn 810982541964485 14, pn 755868200634493 14, pn 727441488563201 14, pn 653695979028396 14, pn 628534685511087 14, pn 589070949208488 14, pn 577589039896562 14, pn 581788069739559 14, pn 633828785774011 14, pn 683619681625962 14, pn 650726280711991 14, pn 608688789791755 14, pn 567459044912239 14, pn 561208414528042 14, pn 521499840213542 14, pn 527972658978082 14, pn 487388133502636 14, pn 483010833322668 14, pn 4676713228069 12, pn 460844068580014 14, pn 487837613254963 14, pn 531162341657829 14, pn 516884731434986 14, pn 497902067622137 14, pn 452361893257602 14, pn 407266102333234 14, pn 409386816082206 14, pn 443703262940789 14, pn 456681029282089 14, pn 453750216969654 14, pn 41069449815675 13, pn 347683974395228 14, pn 355036326450263 14, pn 3869939531218 12, pn 403586377822991 14, pn 401259844107923 14, pn 341374567255376 14, pn 306303937445421 14, pn 339662756674879 14, pn 414268590561571 14, pn 437778663119636 14, pn 426460470008121 14, pn 343931557743281 14, pn 284893096423649 14, pn 290026347343356 14, pn 344407639823311 14, pn 381088516403793 14, pn 37920574097581 13, pn 34168359641049 13, pn 297148329944834 14, pn 311217239211973 14, pn 339382155452187 14, pn 420949780539445 14, pn 405406533156939 14, pn 318779014623005 14, pn 229910459740717 14, pn 2373108082246 12, pn 31085020745919 13, pn 407807608795591 14, pn 405775190382202 14, pn 345063849689118 14, pn 300087762760537 14, pn 308478371667017 14, pn 369597783750681 14, pn 416213884386239 14, pn 35673784418279 13, pn 261088270593267 14, pn 20841204638453 13, pn 217349193744004 14, pn 327051500737282 14, pn 430934827503372 14, pn 423438857629996 14, pn 370150089910681 14, pn 342785217891785 14, pn 346413286727789 14, pn 388217941446816 14, pn 415270708063935 14, pn 349864476608232 14, pn 283136535533392 14, pn 292162278737474 14, pn 285190579039329 14, pn 378904646399308 14, pn 480046378209707 14, pn 476505625357688 14, pn 437905938224189 14, pn 388326244550295 14, pn 403945554491463 14, pn 427047613698725 14, pn 457654226002208 14, pn 423444946558973 14, pn 30901188433574 13, pn 274798000248855 14, pn 280908906252639 14, pn 393828629819519 14, pn 552466284019736 14, pn 638494859265154 14, pn 562808407419351 14, pn 455094432883848 14, pn 418448007315187 14, pn 454716994967059 14, pn 796 3, pn 15204 1, pp 68 0, pn 16329 4]⟩

def row38 : Row := ⟨"ECU", "Ecuador", [pp 1764306 1, pp 19616 1, pp 2563 1, pp 12665 1, pn 24294717341572 12, pp 1858 3, pp 331001 0, pp 226148 0, pp 233425 0, pp 160691 3, pp 1570469 0, pp 4607437 0, pp 96252 1, pp 83 4, pp 15 4, pp 1 4, pp 93 4, pp 6 4, pp 19 4, pn 5853034984139129 9, pn 5584198663757462 10, pn 3462020685332087 10, nn 468588148133398 16, nn 7555744438862665 16, nn 9662666325303264 16, nn 9867815718201745 16, nn 8525147021452493 16, nn 8627798033362337 16, nn 725724424172922 15, nn 5623817369758826 16, nn 3579764406986854 16, nn 2137250619161418 16, nn 394641041190204 16, nn 3412281290640609 16, nn 605080381546651 15, nn 7646367510522271 16, nn 844409114521932 15, nn 8837265300877309 16, nn 8896681410706729 16, nn 8738929867143921 16, nn 8313323228735889 16, nn 766012492759246 15, pp 0 0, pp 0 0, pp 0 0, pn 7267481517 11, pn 2450185188 10, pn 2484008947 10, pn 25 2, pn 1773251848 10, pn 4981481162 12, pn 1599105309 12, pp 0 0, pp 0 0, pn 161726608333333 8, pn 138513758333333 8, pn 115300908333333 8, pn 112331933333333 8, pn 157370020833333 8, pn 20335028333333295 10, pn 249775983333333 8, pn 27595780833333298 10, pn 25413257083333298 10, pn 231365158333333 8, pn 20815230833333295 10, pn 184939458333333 8, pn 26304673805149 15, pp 0 0, pp 0 0, pn 192171824219302 16, pn 17464103009754 16, pn 246711196113454 15, pn 104422874741922 15, pn 59908286925009 15, pp 0 0, pp 0 0, pn 610008491237942 15, pn 13264841667472 16, pp 2429 0, pp 1 0, pn 15677041768277 16, pn 18108307592877 16, pn 18108307592877 16, pn 18108307592877 16, pn 18108307592877 16, pn 186369495894583 13, pn 19230633295645 12, pn 193004570775394 13, pn 189840909369419 13, pn 180491222000615 13, pn 177072397970501 13, pn 166710140311675 13, pn 161110174947128 13, pn 158790174539699 13, pn 151711620793582 13, pn 152076064891313 13, pn 151793766436456 13, pn 148690802418985 13, pn 154913047839089 13, pn 155969877900451 13, pn 153356098689498 13, pn 151298419931978 13, pn 139940274652291 13, pn 136848281625098 13, pn 136236255634884 13, pn 141164566606523 13, pn 135928718004235 13, pn 13022892865041 12, pn 119954419750984 13, pn 12730555294675 12, pn 130061262399793 13, pn 125557020264054 13, pn 129724803801154 13, pn 122783393582093 13, pn 121969275037538 13, pn 110579572787715 13, pn 10765854314478 12, pn 110161173038261 13, pn 106173121515639 13, pn 10342472545935 12, pn 107150900465126 13, pn 104893640948309 13, pn 106806052455875 13, pn 110145141110928 13, pn 11156244143799 12, pn 109372454395969 13, pn 106282331514974 13, pn 104856288535686 13, pn 972789112330163 14, pn 983109939257281 14, pn 10122374129901 12, pn 100395199360519 13, pn 971468835308313 14, pn 10204634239882 12, pn 105086803792246 13, pn 103098249506226 13, pn 962371132462578 14, pn 955860180495887 14, pn 904782284722003 14, pn 894344657231925 14, pn 898101497210098 14, pn 89832611204268 13, pn 903344336099124 14, pn 901600630632902 14, pn 964639222022327 14, pn 976483447548225 14, pn 102194626505076 13, pn 100491602790247 13, pn 926699507685926 14, pn 854183916426821 14, pn 876824795744291 14, pn 888238818314827 14, pn 856311816090725 14, pn 812290830449226 14, pn 823550084458574 14, pn 82924165288493 13, pn 898162345136324 14, pn 965368469436141 14, pn 943440953214795 14, pn 88164229404793 13, pn 795717880092976 14, pn 767877052707182 14, pn 758337837508872 14, pn 825950933279227 14, pn 873345384039342 14, pn 878995543538322 14, pn 864746179930209 14, pn 854485867422512 14, pn 929998913809707 14, pn 99848069686524 13, pn 986273600947323 14, pn 970679472371784 14, pn 910438159346403 14, pn 943513971971349 14, pn 100573973152069 13, pn 105013041709028 13, pn 110061177956654 13, pn 111014912131257 13, pn 112003089738289 13, pn 115689692922233 13, pn 123806533419793 13, pn 127010843250874 13, pn 126659793401634 13, pn 126140593324468 13, pn 124153465808166 13, pn 124166196671813 13, pn 127899198251527 13, pn 129413052192916 13, pn 134073024150202 13, pn 135860463565081 13, pn 140924216189053 13, pn 142569896884813 13, pn 151231219187176 13, pn 163001961321482 13, pn 167444627744265 13, pn 165791979527156 13, pn 157555976953637 13, pn 149782872237527 13, pn 146728829205601 13, pn 149076038103442 13, pn 14980749379069 12, pn 151782494726354 13, pn 155585738188005 13, pn 160357685121355 13, pn 171662602732229 13, pn 796 3, pn 18238 1, pn 1091 1, pn 21 1]⟩

def row39 : Row := ⟨"EGY", "Egypt", [pp 102 6, pp 31365 1, pp 4975 1, pp 18968 1, pn 181327775392942 14, pp 5251 3, pp 1339068 0, pp 628 0, pp 310645 0, pp 191449 3, pp 4050085 0, pp 5439525 0, pp 1418355 0, pp 502 4, pp 143 4, pp 12 4, pp 1498 4, pp 76 4, pp 347 4, pn 27726952689281028 9, pn 9498804093315628 10, pn 2929921956367598 9, nn 7153272499854613 16, nn 7458796472471511 16, nn 7448702851369697 16, nn 6740725350704078 16, nn 6211989382169905 16, nn 3551182159253078 16, nn 1669078690113157 16, nn 805550587056274 16, nn 347694225146458 16, nn 316751998815606 16, nn 827479051730523 15, nn 914218286352045 15, nn 930033624803616 15, nn 928576676608631 15, nn 894298420779636 15, nn 802918503298705 15, nn 837477713723075 15, nn 8169225370908709 16, nn 77203563794348 14, nn 749981625040654 15, pn 1574889013 10, pn 1274287644 12, pn 1274287644 12, pn 1274287644 12, pp 0 0, pp 0 0, pn 9251109867 11, pn 9251109867 11, pn 9251109867 11, pn 2487257124 10, pn 1562146137 10, pn 1562146137 10, pn 181471726666667 7, pn 166369573333333 7, pp 15126742 0, pn 136165266666667 7, pn 120828593333333 7, pp 10549192 0, pn 107180996666667 7, pn 108870073333333 7, pp 11055915 0, pn 140997976666667 7, pn 154411053333333 7, pp 16805865 0, pn 786350981489633 16, pp 0 0, pp 0 0, pn 653107695492418 16, pn 17464103009754 16, pn 251786321672548 15, pn 106986684926517 15, pn 614541630069845 16, pp 41 3, pn 2706303817244 16, pn 121212526622043 14, pn 26358075286669 16, pp 3836 0, pp 1 0, pn 2475797950725 15, pn 19832522844233 16, pn 19832522844233 16, pn 19832522844233 16, pn 19832522844233 16, pn 125307230730804 14, pn 125367846568973 14, pn 116446966839296 14, pn 103527954468509 14, pn 961512922389098 15, pn 932072750118132 15, pn 804617605532861 15, pn 780306824251848 15, pn 820221624164208 15, pn 823418956292081 15, pn 775359495051149 15, pn 637903450301987 15, pn 588870255322997 15, pn 625494423262561 15, pn 699798427051329 15, pn 756385592285336 15, pn 77247750350272 14, pn 690685779521733 15, pn 623627098494677 15, pn 633497019919744 15, pn 654585219628031 15, pn 678221661285326 15, pn 642235920927908 15, pn 558452461567825 15, pn 550726354911298 15, pn 533241914274222 15, pn 559077587932166 15, pn 571602426565577 15, pn 585972414384307 15, pn 507581060856766 15, pn 476498579339626 15, pn 460375197883433 15, pn 495445346912131 15, pn 555511373771659 15, pn 535378583926726 15, pn 522042355245346 15, pn 509751643933992 15, pn 505917636988734 15, pn 503919661751173 15, pn 513327853544145 15, pn 514175353449103 15, pn 470236486652447 15, pn 433099151096754 15, pn 417731034252111 15, pn 4589048904543 13, pn 511477485927674 15, pn 521946469376341 15, pn 540108889789081 15, pn 539886903447276 15, pn 545419791111906 15, pn 546698827321603 15, pn 533937100159938 15, pn 532207116287776 15, pn 472239303610618 15, pn 395591548892984 15, pn 381781037642599 15, pn 433423576206002 15, pn 492862261945019 15, pn 537514092314661 15, pn 559213168164554 15, pn 587997598217513 15, pn 627624656363427 15, pn 632472485464784 15, pn 582125310182791 15, pn 531199123198026 15, pn 470782512469459 15, pn 410639172226025 15, pn 403227449169194 15, pn 453669790475513 15, pn 525221394490141 15, pn 571830375386405 15, pn 580750441197102 15, pn 635296453090261 15, pn 701827805097738 15, pn 671723616673777 15, pn 60179402313819 14, pn 521390490430414 15, pn 469530619023012 15, pn 427651558855648 15, pn 42963081978582 14, pn 46603564184307 14, pn 542606388967509 15, pn 59108300019918 14, pn 624642198498689 15, pn 69867140533179 14, pn 779970043657163 15, pn 753118024156137 15, pn 640722574308407 15, pn 571390153768085 15, pn 520382505764622 15, pn 489644817171928 15, pn 461562953165597 15, pn 530046869432579 15, pn 577838810697034 15, pn 641354741404765 15, pn 706086788708845 15, pn 843711957844599 15, pn 913032033112738 15, pn 861700119798149 15, pn 770884355522217 15, pn 661651634721807 15, pn 618783982018184 15, pn 582799506486546 15, pn 517420687334327 15, pn 556261710999006 15, pn 599625826339062 15, pn 691953757070279 15, pn 869444160023993 15, pn 101924075948968 14, pn 107132482822279 14, pn 102067889731294 14, pn 846024469766208 15, pn 756059933939122 15, pn 66355912632032 14, pn 627535784479301 15, pn 600794739829099 15, pn 594746238383821 15, pn 648169213504355 15, pn 767347509266252 15, pn 906179412169381 15, pn 796 3, pp 1138 0, pn 251 1, pn 13866 4]⟩

def row40 : Row := ⟨"SLV", "El Salvador", [pp 6486201 0, pp 1171 1, pp 188 1, pp 707 1, pn 651908141173146 15, pp 357 3, pp 151719 0, pp 7 3, pp 16896 0, pp 17522 3, pp 269945 0, pp 818669 0, pp 179858 0, pp 31 4, pp 11 4, pp 0 0, pp 89 4, pp 5 4, pp 1 5, pn 16927857153809166 10, pn 667852482308478 10, pn 1463934042840617 10, nn 3395709802237152 16, nn 8184239213874194 16, nn 8594017865176363 16, nn 8083244414838819 16, nn 7922338494119537 16, nn 4665661320456256 16, pn 642970608451984 16, pn 1803133942370618 16, pn 496856091645503 15, pn 4542482927743924 16, pn 670217019408903 15, nn 162452690847898 15, nn 6618498288836081 16, nn 7424706445073831 16, nn 7400070487213299 16, nn 6800976446362109 16, nn 491162920008353 15, nn 101518597042315 15, pn 647156401982609 15, pn 254622466686493 14, pn 25 2, pp 0 0, pp 0 0, pp 0 0, pp 0 0, pp 0 0, pp 0 0, pp 0 0, pp 0 0, pn 25 2, pn 25 2, pn 25 2, pn 135967783333333 8, pn 123335804166667 8, pn 110703825 2, pn 980718458333334 9, pn 854398666666667 9, pn 728078875 3, pn 6017590833333341 10, pn 475439291666667 9, pn 3491195 1, pn 6017590833333329 10, pn 854398666666667 9, pn 110703825 2, pn 283322335862752 16, pp 0 0, pp 0 0, pn 382505773672055 16, pn 17464103009754 16, pn 205982541319913 15, pn 845476267776578 16, pn 480510992611153 16, pp 0 0, pp 0 0, pn 895518272334397 16, pn 194733487541 15, pp 881 0, pp 1 0, pn 5686074021347 16, pn 2485136535991 16, pn 2485136535991 16, pn 2485136535991 16, pn 5 4, pn 186369495894583 13, pn 19230633295645 12, pn 193004570775394 13, pn 189840909369419 13, pn 180491222000615 13, pn 177072397970501 13, pn 166710140311675 13, pn 161110174947128 13, pn 158790174539699 13, pn 151711620793582 13, pn 152076064891313 13, pn 151793766436456 13, pn 148690802418985 13, pn 154913047839089 13, pn 155969877900451 13, pn 153356098689498 13, pn 151298419931978 13, pn 139940274652291 13, pn 136848281625098 13, pn 136236255634884 13, pn 141164566606523 13, pn 135928718004235 13, pn 13022892865041 12, pn 119954419750984 13, pn 12730555294675 12, pn 130061262399793 13, pn 125557020264054 13, pn 129724803801154 13, pn 122783393582093 13, pn 121969275037538 13, pn 110579572787715 13, pn 10765854314478 12, pn 110161173038261 13, pn 106173121515639 13, pn 10342472545935 12, pn 107150900465126 13, pn 104893640948309 13, pn 106806052455875 13, pn 110145141110928 13, pn 11156244143799 12, pn 109372454395969 13, pn 106282331514974 13, pn 104856288535686 13, pn 972789112330163 14, pn 983109939257281 14, pn 10122374129901 12, pn 100395199360519 13, pn 971468835308313 14, pn 10204634239882 12, pn 105086803792246 13, pn 103098249506226 13, pn 962371132462578 14, pn 955860180495887 14, pn 904782284722003 14, pn 894344657231925 14, pn 898101497210098 14, pn 89832611204268 13, pn 903344336099124 14, pn 901600630632902 14, pn 964639222022327 14, pn 976483447548225 14, pn 102194626505076 13, pn 100491602790247 13, pn 926699507685926 14, pn 854183916426821 14, pn 876824795744291 14, pn 888238818314827 14, pn 856311816090725 14, pn 812290830449226 14, pn 823550084458574 14, pn 82924165288493 13, pn 898162345136324 14, pn 965368469436141 14, pn 943440953214795 14, pn 88164229404793 13, pn 795717880092976 14, pn 767877052707183 14, pn 758337837508872 14, pn 825950933279227 14, pn 873345384039342 14, pn 878995543538322 14, pn 864746179930209 14, pn 854485867422512 14, pn 929998913809707 14, pn 99848069686524 13, pn 986273600947323 14, pn 970679472371784 14, pn 910438159346403 14, pn 943513971971349 14, pn 100573973152069 13, pn 105013041709028 13, pn 110061177956654 13, pn 111014912131257 13, pn 112003089738289 13, pn 115689692922233 13, pn 123806533419793 13, pn 127010843250874 13, pn 126659793401634 13, pn 126140593324468 13, pn 124153465808166 13, pn 124166196671813 13, pn 127899198251527 13, pn 129413052192916 13, pn 134073024150202 13, pn 135860463565081 13, pn 140924216189053 13, pn 142569896884813 13, pn 151231219187176 13, pn 163001961321482 13, pn 167444627744265 13, pn 165791979527156 13, pn 157555976953637 13, pn 149782872237527 13, pn 146728829205601 13, pn 149076038103442 13, pn 14980749379069 12, pn 151782494726354 13, pn 155585738188005 13, pn 160357685121355 13, pn 171662602732229 13, pn 796 3, pp 1174 0, pn 457 1, pn 11119 4]⟩

def row41 : Row := ⟨"ERI", "Eritrea", [pp 36 5, pp 0 0, pp 0 0, pp 0 0, pn 234667358874178 14, pp 146 3, pp 1241 0, pp 0 0, pp 23068 0, pp 1184 3, pp 4227297 0, pp 2520778 0, pp 72 4, pp 0 0, pp 0 0, pp 0 0, pp 0 0, pp 0 0, pp 0 0, pn 3278630518310205 10, pn 17497374846949944 12, pn 4371079685935106 11, nn 1164911164198463 16, nn 5501622951149067 16, nn 5836686084934357 16, nn 6088678856062727 16, nn 4661350426898967 16, nn 4926931938574904 16, nn 2482205924240414 16, pn 649952194571322 16, pn 159684627554018 16, pn 805308811509213 16, nn 270410092170967 15, nn 6820321218263059 16, nn 8008599860513751 16, nn 78634163192709 14, nn 797432095501797 15, nn 763307513611356 15, nn 657157748002593 15, nn 446909197491517 15, nn 644794006051192 16, pn 959051485090404 15, pn 194581217 9, pp 0 0, pp 0 0, pp 0 0, pp 0 0, pp 0 0, pn 5541878304 11, pn 5541878304 11, pn 5541878304 11, pn 25 2, pn 194581217 9, pn 194581217 9, pn 589670833333333 10, pn 509279166666667 10, pn 4288875 2, pn 348495833333333 10, pn 268104166666667 10, pn 1877125 2, pn 160783333333333 10, pn 133854166666667 10, pn 106925 1, pn 267708333333333 10, pn 375029166666667 10, pp 48235 0, pn 451000913432071 16, pn 11014039445705 16, pn 37776501041637 16, pn 297483136625652 16, pn 17464103009754 16, pp 0 0, pp 0 0, pp 0 0, pp 0 0, pp 0 0, pp 0 0, pp 0 0, pp 692 0, pp 1 0, pn 4466246563873 16, pn 18084022871027 16, pn 18084022871027 16, pn 18084022871027 16, pn 18084022871027 16, pn 125307230730804 14, pn 125367846568973 14, pn 116446966839296 14, pn 103527954468509 14, pn 961512922389098 15, pn 932072750118132 15, pn 804617605532861 15, pn 780306824251848 15, pn 820221624164208 15, pn 823418956292081 15, pn 775359495051149 15, pn 637903450301987 15, pn 588870255322997 15, pn 625494423262561 15, pn 699798427051329 15, pn 756385592285336 15, pn 77247750350272 14, pn 690685779521733 15, pn 623627098494677 15, pn 633497019919744 15, pn 654585219628031 15, pn 678221661285326 15, pn 642235920927908 15, pn 558452461567825 15, pn 550726354911298 15, pn 533241914274222 15, pn 559077587932166 15, pn 571602426565577 15, pn 585972414384307 15, pn 507581060856766 15, pn 476498579339626 15, pn 460375197883433 15, pn 495445346912131 15, pn 555511373771659 15, pn 535378583926726 15, pn 522042355245346 15, pn 509751643933992 15, pn 505917636988734 15, pn 503919661751173 15, pn 513327853544145 15, pn 514175353449103 15, pn 470236486652447 15, pn 433099151096754 15, pn 417731034252111 15, pn 4589048904543 13, pn 511477485927674 15, pn 521946469376341 15, pn 540108889789081 15, pn 539886903447276 15, pn 545419791111906 15, pn 546698827321603 15, pn 533937100159938 15, pn 532207116287776 15, pn 472239303610618 15, pn 395591548892984 15, pn 381781037642599 15, pn 433423576206002 15, pn 492862261945019 15, pn 537514092314661 15, pn 559213168164554 15, pn 587997598217513 15, pn 627624656363427 15, pn 632472485464784 15, pn 582125310182791 15, pn 531199123198026 15, pn 470782512469459 15, pn 410639172226025 15, pn 403227449169194 15, pn 453669790475513 15, pn 525221394490141 15, pn 571830375386405 15, pn 580750441197102 15, pn 635296453090261 15, pn 701827805097738 15, pn 671723616673777 15, pn 60179402313819 14, pn 521390490430414 15, pn 469530619023012 15, pn 427651558855648 15, pn 42963081978582 14, pn 46603564184307 14, pn 542606388967509 15, pn 59108300019918 14, pn 624642198498689 15, pn 69867140533179 14, pn 779970043657163 15, pn 753118024156137 15, pn 640722574308407 15, pn 571390153768085 15, pn 520382505764622 15, pn 489644817171928 15, pn 461562953165597 15, pn 530046869432579 15, pn 577838810697034 15, pn 641354741404765 15, pn 706086788708845 15, pn 843711957844599 15, pn 913032033112738 15, pn 861700119798149 15, pn 770884355522217 15, pn 661651634721807 15, pn 618783982018184 15, pn 582799506486546 15, pn 517420687334327 15, pn 556261710999006 15, pn 599625826339062 15, pn 691953757070279 15, pn 869444160023993 15, pn 101924075948968 14, pn 107132482822279 14, pn 102067889731294 14, pn 846024469766208 15, pn 756059933939122 15, pn 66355912632032 14, pn 627535784479301 15, pn 600794739829099 15, pn 594746238383821 15, pn 648169213504355 15, pn 767347509266252 15, pn 906179412169381 15, pn 796 3, pn 1215 1, pp 0 0, pn 7288 4]⟩

end Allfed.Gen.CountryTable
