-- GENERATED on every check run by harness/translators/tr_country.py (run): rows 105..125 of the combined country table
-- REGENERATED in the scratch copy by re-running the import scripts of scripts/run_all_imports.sh.  Do not edit.
import AllfedModel.Model.CountryTable
namespace Allfed.Gen.CountryTable
open Allfed.CountryTable


def row105 : Row := ⟨"SRB", "Serbia", [pp 6908224 0, pp 126 1, pp 18 1, pp 79 1, pp 0 0, pp 1597 3, pp 113978 0, pp 30353 1, pp 66926 0, pp 1517 4, pp 487004 1, pp 899218 0, pp 421748 0, pp 34 4, pp 5 4, pp 2 4, pp 506 4, pp 22 4, pp 86 4, pn 1201762831967026 8, pn 7792651666328855 10, pn 16264379259399916 10, np 1 0, np 1 0, np 1 0, nn 999441173354262 15, nn 9855337351766612 16, nn 7857619213625532 16, nn 6871975726194077 16, nn 7694783543501851 16, nn 3635350746460235 16, nn 7461962504543338 16, nn 226037297933125 15, nn 904923964148971 15, nn 999969937079086 15, nn 989528886220643 15, nn 999661754738114 15, nn 994993749307037 15, nn 973591133481391 15, nn 984450055092477 15, nn 946031979535795 15, nn 968644290739334 15, pn 1835198753 10, pp 0 0, pp 0 0, pp 0 0, pp 0 0, pp 0 0, pn 664801247 10, pn 664801247 10, pn 664801247 10, pn 25 2, pn 1835198753 10, pn 1835198753 10, pn 7103451333333329 9, pn 629941716666667 8, pp 5495383 0, pn 469134883333333 8, pn 388731466666667 8, pn 30832805 1, pn 292067383333333 8, pn 275806716666667 8, pn 25954605 1, pn 420352883333333 8, pn 517016966666667 8, pn 61368105 1, pn 456069675086121 16, pn 5045408678102 16, pp 0 0, pn 85178875638841 16, pn 17464103009754 16, pn 311162107415356 15, pn 138538602532796 15, pn 807927595004305 16, pp 0 0, pp 0 0, pn 171812444894196 15, pn 3736119924163 16, pp 2785 0, pp 1 0, pn 1797470618553 15, pp 0 0, pp 0 0, pp 0 0, pp 0 0, pp 0 0, pp 0 0, pp 0 0, pp 0 0, pp 0 0, pp 0 0, pp 0 0, pp 0 0, pp 0 0, pp 0 0, pp 0 0, pp 0 0, pp 0 0, pp 0 0, pp 0 0, pp 0 0, pp 0 0, pp 0 0, pp 0 0, pp 0 0, pp 0 0, pp 0 0, pp 0 0, pp 0 0, pp 0 0, pp 0 0, pp 0 0, pp 0 0, pp 0 0, pp 0 0, pp 0 0, pp 0 0, pp 0 0, pp 0 0, pp 0 0, pp 0 0, pp 0 0, pp 0 0, pp 0 0, pp 0 0, pp 0 0, pp 0 0, pp 0 0, pp 0 0, pp 0 0, pp 0 0, pp 0 0, pp 0 0, pp 0 0, pp 0 0, pp 0 0, pp 0 0, pp 0 0, pp 0 0, pp 0 0, pp 0 0, pp 0 0, pp 0 0, pp 0 0, pp 0 0, pp 0 0, pp 0 0, pp 0 0, pp 0 0, pp 0 0, pp 0 0, pp 0 0, pp 0 0, pp 0 0, pp 0 0, pp 0 0, pp 0 0, pp 0 0, pp 0 0, pp 0 0, pp 0 0, pp 0 0, pp 0 0, pp 0 0, pp 0 0, pp 0 0, pp 0 0, pp 0 0, pp 0 0, pp 0 0, pp 0 0, pp 0 0, pp 0 0, pp 0 0, pp 0 0, pp 0 0, pp 0 0, pp 0 0, pp 0 0, pp 0 0, pp 0 0, pp 0 0, pp 0 0, pp 0 0, pp 0 0, pp 0 0, pp 0 0, pp 0 0, pp 0 0, pp 0 0, pp 0 0, pp 0 0, pp 0 0, pp 0 0, pp 0 0, pp 0 0, pp 0 0, pp 0 0, pp 0 0, pp 0 0, pp 0 0, pp 0 0, pp 0 0, pp 0 0, pp 0 0, pn 796 3, pn 25782 1, pn 564 1, pn 17141 4]⟩

def row106 : Row := ⟨"SLE", "Sierra Leone", [pp 7976985 0, pp 3935 1, pp 694 1, pp 225 2, pn 108212527007427 14, pp 147 3, pp 19922 0, pp 1478 0, pp 9397 0, pp 27673 3, pp 2016955 0, pp 1044491 0, pp 108316 0, pp 7 4, pp 2 4, pp 0 0, pp 7 4, pp 1 4, pp 2 4, pn 2072628323859391 9, pn 14960998168245493 11, pn 1442517197518163 10, nn 286467131333368 16, nn 7970532401044329 16, nn 924611325102623 15, nn 9208697814062776 16, nn 8655077467355755 16, nn 7921465686985774 16, nn 5939699241318847 16, nn 4472819631561204 16, nn 3785543981859961 16, nn 173624513527801 15, nn 159276968461271 15, nn 463528257716901 15, nn 634858302728923 15, nn 7007916742392101 16, nn 7042813392319011 16, nn 674496206332482 15, nn 619063460283779 15, nn 552788965089545 15, nn 491282266315712 15, nn 485217865862292 15, pn 2474803784 10, pp 0 0, pp 0 0, pp 0 0, pn 2519621553 12, pn 2519621553 12, pn 2519621553 12, pn 2519621553 12, pp 0 0, pn 2474803784 10, pn 2474803784 10, pn 2474803784 10, pn 530446666666667 9, pn 464299166666667 9, pn 39815166666666704 11, pn 332004166666667 9, pn 26785666666666704 11, pn 203709166666667 9, pn 139561666666667 9, pn 754141666666668 10, pn 926666666666667 11, pn 139561666666667 9, pn 26985666666666704 11, pn 40015166666666704 11, pn 738663272555056 16, pp 0 0, pp 0 0, pn 81620669406929 15, pn 17464103009754 16, pp 0 0, pp 0 0, pp 0 0, pp 0 0, pp 0 0, pn 15884610129136 15, pn 345416238198454 19, pp 1749 0, pp 1 0, pn 11288244566783 16, pn 325415272791 15, pn 325415272791 15, pn 325415272791 15, pn 5 4, pn 225563619622158 14, pn 224007972500148 14, pn 148606453827951 14, pn 114355202888872 14, pn 160951789253174 14, pn 521966083355326 14, pn 743437685745195 14, pn 747972711789109 14, pn 664280356141849 14, pn 646647044242444 14, pn 65771874112729 13, pn 615087329436925 14, pn 534977880528962 14, pn 571758638142947 14, pn 633725490408862 14, pn 710580962719998 14, pn 827223961234327 14, pn 854518932298853 14, pn 820843801067746 14, pn 816608141169708 14, pn 810982541964485 14, pn 755868200634493 14, pn 727441488563201 14, pn 653695979028396 14, pn 628534685511087 14, pn 589070949208488 14, pn 577589039896562 14, pn 581788069739559 14, pn 633828785774011 14, pn 683619681625962 14, pn 650726280711991 14, pn 608688789791755 14, pn 567459044912239 14, pn 561208414528042 14, pn 521499840213542 14, pn 527972658978082 14, pn 487388133502636 14, pn 483010833322668 14, pn 4676713228069 12, pn 460844068580014 14, pn 487837613254963 14, pn 531162341657829 14, pn 516884731434986 14, pn 497902067622137 14, pn 452361893257602 14, pn 407266102333234 14, pn 409386816082206 14, pn 443703262940789 14, pn 456681029282089 14, pn 453750216969654 14, pn 41069449815675 13, pn 347683974395228 14, pn 355036326450263 14, pn 3869939531218 12, pn 403586377822991 14, pn 401259844107923 14, pn 341374567255376 14, pn 306303937445421 14, pn 339662756674879 14, pn 414268590561571 14, pn 437778663119636 14, pn 426460470008121 14, pn 343931557743281 14, pn 284893096423649 14, pn 290026347343356 14, pn 344407639823311 14, pn 381088516403793 14, pn 37920574097581 13, pn 34168359641049 13, pn 297148329944834 14, pn 311217239211973 14, pn 339382155452187 14, pn 420949780539445 14, pn 405406533156939 14, pn 318779014623005 14, pn 229910459740717 14, pn 2373108082246 12, pn 31085020745919 13, pn 407807608795591 14, pn 405775190382202 14, pn 345063849689118 14, pn 300087762760537 14, pn 308478371667017 14, pn 369597783750681 14, pn 416213884386239 14, pn 35673784418279 13, pn 261088270593267 14, pn 20841204638453 13, pn 217349193744004 14, pn 327051500737282 14, pn 430934827503372 14, pn 423438857629996 14, pn 370150089910681 14, pn 342785217891785 14, pn 346413286727789 14, pn 388217941446816 14, pn 415270708063935 14, pn 349864476608232 14, pn 283136535533392 14, pn 292162278737474 14, pn 285190579039329 14, pn 378904646399308 14, pn 480046378209707 14, pn 476505625357688 14, pn 437905938224189 14, pn 388326244550295 14, pn 403945554491463 14, pn 427047613698725 14, pn 457654226002208 14, pn 423444946558973 14, pn 30901188433574 13, pn 274798000248855 14, pn 280908906252639 14, pn 393828629819519 14, pn 552466284019736 14, pn 638494859265154 14, pn 562808407419351 14, pn 455094432883848 14, pn 418448007315187 14, pn 454716994967059 14, pn 796 3, pn 13887001 4, pn 549 1, pn 88019997 8]⟩

def row107 : Row := ⟨"SGP", "Singapore", [pp 5685807 0, pp 0 0, pp 0 0, pp 0 0, pp 0 0, pp 0 0, pp 95766 0, pp 27765 0, pp 35 0, pp 3912 3, pp 74 1, pp 174 0, pp 0 0, pp 0 0, pp 0 0, pp 0 0, pp 1 4, pp 0 0, pp 1 4, pn 14166092841565765 13, pn 7422583374321653 14, pn 3718374739117654 13, nn 1958036486107596 16, nn 7719649029190293 16, nn 8038932042322823 16, nn 7988612894827655 16, nn 6903116784690962 16, nn 5080105151766354 16, nn 4097407433968641 16, nn 2119645042368848 16, nn 160500256790314 16, pn 135815862053751 16, nn 364481499517498 16, nn 456085795776886 15, nn 709833181433053 15, nn 782404526049102 15, nn 798291103827478 15, nn 78891336163769 14, nn 760775295507507 15, nn 6823050307648449 16, nn 562561440466848 15, nn 431349473762493 15, pn 1297285269 10, pn 891188251 10, pn 891188251 10, pn 891188251 10, pn 4450378282 11, pn 4450378282 11, pn 1202714731 10, pn 1202714731 10, pn 7576769025 11, pn 1163773921 10, pn 4060970182 11, pn 4060970182 11, pn 1888155 1, pn 1888155 1, pn 1888155 1, pn 1888155 1, pn 1888155 1, pn 1888155 1, pn 1888155 1, pn 1888155 1, pn 1888155 1, pn 1888155 1, pn 1888155 1, pn 1888155 1, pn 451000913432071 16, pn 11014039445705 16, pn 37776501041637 16, pn 297483136625652 16, pn 17464103009754 16, pn 473664686361534 15, pn 242645827260648 15, pn 149012006121254 15, pp 0 0, pp 0 0, pn 199418154732827 14, pn 43364154534674 16, pp 0 0, pp 1 0, pp 0 0, pp 0 0, pp 0 0, pp 0 0, pp 0 0, pp 0 0, pp 0 0, pp 0 0, pp 0 0, pp 0 0, pp 0 0, pp 0 0, pp 0 0, pp 0 0, pp 0 0, pp 0 0, pp 0 0, pp 0 0, pp 0 0, pp 0 0, pp 0 0, pp 0 0, pp 0 0, pp 0 0, pp 0 0, pp 0 0, pp 0 0, pp 0 0, pp 0 0, pp 0 0, pp 0 0, pp 0 0, pp 0 0, pp 0 0, pp 0 0, pp 0 0, pp 0 0, pp 0 0, pp 0 0, pp 0 0, pp 0 0, pp 0 0, pp 0 0, pp 0 0, pp 0 0, pp 0 0, pp 0 0, pp 0 0, pp 0 0, pp 0 0, pp 0 0, pp 0 0, pp 0 0, pp 0 0, pp 0 0, pp 0 0, pp 0 0, pp 0 0, pp 0 0, pp 0 0, pp 0 0, pp 0 0, pp 0 0, pp 0 0, pp 0 0, pp 0 0, pp 0 0, pp 0 0, pp 0 0, pp 0 0, pp 0 0, pp 0 0, pp 0 0, pp 0 0, pp 0 0, pp 0 0, pp 0 0, pp 0 0, pp 0 0, pp 0 0, pp 0 0, pp 0 0, pp 0 0, pp 0 0, pp 0 0, pp 0 0, pp 0 0, pp 0 0, pp 0 0, pp 0 0, pp 0 0, pp 0 0, pp 0 0, pp 0 0, pp 0 0, pp 0 0, pp 0 0, pp 0 0, pp 0 0, pp 0 0, pp 0 0, pp 0 0, pp 0 0, pp 0 0, pp 0 0, pp 0 0, pp 0 0, pp 0 0, pp 0 0, pp 0 0, pp 0 0, pp 0 0, pp 0 0, pp 0 0, pp 0 0, pp 0 0, pp 0 0, pp 0 0, pp 0 0, pp 0 0, pp 0 0, pp 0 0, pp 0 0, pp 0 0, pp 0 0, pn 796 3, pn 11544 1, pn 645 1, pn 16832999 7]⟩

def row108 : Row := ⟨"SOM", "Somalia", [pp 15893219 0, pp 0 0, pp 0 0, pp 0 0, pn 827353948821448 14, pp 2206 3, pp 3886 0, pp 103 0, pp 55 3, pp 3771 3, pp 23654148 0, pp 12209401 0, pp 1186851 0, pp 0 0, pp 0 0, pp 0 0, pp 0 0, pp 0 0, pp 0 0, pn 3149828296597545 10, pn 29438388520042605 12, pn 3456309206600838 11, nn 102909191993724 15, pn 3649377353244997 16, pn 2113550360056172 16, nn 165116493205966 16, pn 1577638163726801 16, pn 101083072366134 16, pn 3582817116888556 16, pn 672399021767254 15, pn 5286997508699397 16, pn 15595295553031736 16, pn 21432726682987 14, nn 425463989249883 15, nn 407787202764457 15, nn 436121479850199 15, nn 569588233259145 15, nn 527088373184289 15, nn 2922170959295549 16, pn 228171390107737 15, pn 242859704076008 15, pn 743574821904851 15, pn 1992660012 10, pp 0 0, pp 0 0, pp 0 0, pn 5073399883 11, pn 5073399883 11, pn 5073399883 11, pn 5073399883 11, pp 0 0, pn 1992660012 10, pn 1992660012 10, pn 1992660012 10, pn 16595833333333302 11, pn 157088541666667 9, pn 14821875 2, pn 139348958333333 9, pn 135879166666667 9, pn 132409375 3, pn 128939583333333 9, pn 125469791666667 9, pp 1166 2, pn 128939583333333 9, pn 141279166666667 9, pn 15361875 2, pn 451000913432071 16, pn 11014039445705 16, pn 37776501041637 16, pn 297483136625652 16, pn 17464103009754 16, pp 0 0, pp 0 0, pp 0 0, pp 0 0, pp 0 0, pn 158681777874143 16, pn 345058911350885 19, pp 1125 0, pp 1 0, pn 7260877723059 16, pn 2698032597544 15, pn 2698032597544 15, pn 2698032597544 15, pn 2698032597544 15, pn 104462928928399 13, pn 107353565103232 13, pn 103932608079095 13, pn 100638214829153 13, pn 982932004629659 14, pn 114634503153017 13, pn 120526954443097 13, pn 117953723063019 13, pn 112609105076942 13, pn 108188162608913 13, pn 108923969502021 13, pn 106651249690074 13, pn 101094295235941 13, pn 106044455826692 13, pn 109671213470669 13, pn 112207097480749 13, pn 117010408027705 13, pn 112696083941088 13, pn 109466330865936 13, pn 108948534875927 13, pn 111131410401486 13, pn 105757769033842 13, pn 101486538753365 13, pn 926620088269116 14, pn 950795107489292 14, pn 944841786603207 14, pn 916579621268551 14, pn 939518053875552 14, pn 930831360797472 14, pn 951656216000671 14, pn 878261004294571 14, pn 842637110619779 14, pn 834535387647427 14, pn 811469814842215 14, pn 777873547403519 14, pn 799740831814672 14, pn 768162271492863 14, pn 775535678940707 14, pn 78456136695809 13, pn 788234241479958 14, pn 790781078607326 14, pn 796992828403785 14, pn 782723808395923 14, pn 73534558997615 13, pn 717735916257441 14, pn 709751757661668 14, pn 706669404843699 14, pn 707586049124551 14, pn 738572226635145 14, pn 752309127446057 14, pn 720838496609505 14, pn 655027553428903 14, pn 655448253473075 14, pn 645888118921901 14, pn 648965517527458 14, pn 64968067065901 13, pn 619850339649028 14, pn 604824136772273 14, pn 620631693653891 14, pn 689453906291949 14, pn 70713105533393 13, pn 724203367529441 14, pn 674423792822874 14, pn 605796302054787 14, pn 572105131885089 14, pn 610616217783801 14, pn 63466366735931 13, pn 617758778533267 14, pn 576987213429858 14, pn 560349207201704 14, pn 570229446048452 14, pn 618772250294256 14, pn 693159124987793 14, pn 674423743185867 14, pn 600210654335467 14, pn 512814169916847 14, pn 502593930465891 14, pn 534594022484031 14, pn 616879271037409 14, pn 639560287210772 14, pn 61202969661372 13, pn 582416971345373 14, pn 581482119544764 14, pn 649798348780194 14, pn 70734729062574 13, pn 671505722565057 14, pn 615883871482525 14, pn 559425102865466 14, pn 580431582857677 14, pn 666395616128984 14, pn 740532622296824 14, pn 762025318598269 14, pn 740149605611624 14, pn 731408057637338 14, pn 751655107975059 14, pn 813141637822371 14, pn 842689570286338 14, pn 808231205312287 14, pn 772271234389035 14, pn 766848468409568 14, pn 763426272878731 14, pn 828948314457289 14, pn 887088450069435 14, pn 908617933429853 14, pn 8982552869375 12, pn 898784203220411 14, pn 914822261669797 14, pn 969679902785242 14, pn 104383691960851 13, pn 104894561200081 13, pn 983465839803647 14, pn 925178884892611 14, pn 889368814313954 14, pn 930558460937762 14, pn 102161333252708 13, pn 106828489858603 13, pn 104031667734145 13, pn 100547590738195 13, pn 101101242926437 13, pn 108567151114467 13, pn 796 3, pn 1372 1, pn 484 1, pn 80539995 8]⟩

def row109 : Row := ⟨"ZAF", "South Africa", [pp 5930869 1, pp 10337 1, pp 1863 1, pp 5805 1, pn 101770291837597 12, pp 3873 3, pp 1873238 0, pp 30199 1, pp 1038688 0, pp 180125 3, pp 28131727 0, pp 12788706 0, pp 1001111 0, pp 142 4, pp 62 4, pp 3 4, pp 623 4, pp 29 4, pp 133 4, pn 20912237407090727 9, pn 1318798981749135 9, pn 25860916908672447 10, nn 446746952127609 16, nn 8896513437655216 16, nn 92615560491139 14, nn 9176363730545788 16, nn 919364780795036 15, nn 8809562388616803 16, nn 7510711046949378 16, nn 5778852966194523 16, nn 4079162735797097 16, nn 2111622368534891 16, pn 52592277956277 16, nn 534645666879858 15, nn 611663380955113 15, nn 832834349387606 15, nn 845281088782129 15, nn 904267096095986 15, nn 92207545818546 14, nn 909102421841722 15, nn 859289961127067 15, nn 782034576980659 15, pn 2627049841 11, pn 4669510531 12, pp 0 0, pp 0 0, pn 2036589209 10, pn 2237295016 10, pn 2237295016 10, pn 2237295016 10, pn 200705807 10, pn 2160098788 11, pn 2627049841 11, pn 2627049841 11, pn 846870108333333 8, pn 719525804166667 8, pp 5846223 0, pn 449718795833333 8, pn 644506916666667 8, pn 8717861375 3, pn 109906535833333 7, pn 132634457916667 7, pn 1223932175 2, pn 112399725833333 7, pn 103162154166667 7, pn 939245825 2, pn 400661245122901 16, pp 0 0, pp 0 0, pp 0 0, pn 17464103009754 16, pn 26048803619556 14, pn 111429407152769 15, pn 64141912566815 15, pp 7445 2, pn 49142516876543 16, pn 143022929250968 14, pn 31100821358767 16, pp 12413 0, pp 1 0, pn 80114911267858 16, pn 22649550578842 16, pn 22649550578842 16, pn 22649550578842 16, pn 22649550578842 16, pn 584968260007399 14, pn 599451748800648 14, pn 577886523815121 14, pn 55495505138002 13, pn 539541648434285 14, pn 619776153270989 14, pn 64286565249213 13, pn 628783956527689 14, pn 60405660659292 13, pn 582111760859171 14, pn 583387822262662 14, pn 565151420965472 14, pn 534914988945854 14, pn 561497000296588 14, pn 583345988705911 14, pn 598854767018012 14, pn 623675915313662 14, pn 598014708681528 14, pn 578513009254414 14, pn 576417525375625 14, pn 588386312988831 14, pn 562699928233477 14, pn 53954448981322 13, pn 491232667212949 14, pn 502933871490211 14, pn 499082989015315 14, pn 486243690030884 14, pn 498339148266055 14, pn 494714301117951 14, pn 501207161043174 14, pn 462955431114267 14, pn 444337315204061 14, pn 44203996116932 13, pn 43351047610969 13, pn 415705702898096 14, pn 425972533669603 14, pn 409568717943131 14, pn 41306372131979 13, pn 417476666566604 14, pn 419783513417186 14, pn 421099306976118 14, pn 422008238534515 14, pn 413016861752799 14, pn 388559346700681 14, pn 381813202651436 14, pn 380449753127218 14, pn 379432025890667 14, pn 38079846905173 13, pn 396280458489936 14, pn 403425553278624 14, pn 387754189670833 14, pn 354210631722449 14, pn 354334482550926 14, pn 346556024641482 14, pn 344262336208378 14, pn 343929387211635 14, pn 331596348634814 14, pn 327055181483387 14, pn 337191551442678 14, pn 372687611554202 14, pn 382965407577841 14, pn 393482916582892 14, pn 368835520684676 14, pn 332004416536533 14, pn 312612522102446 14, pn 328847234515373 14, pn 337863792290956 14, pn 329040761725093 14, pn 311177096238705 14, pn 306435673325359 14, pn 313706241793546 14, pn 338423647206983 14, pn 378344385148409 14, pn 37230326184782 13, pn 333691508001423 14, pn 286496786115333 14, pn 277366489754466 14, pn 290773542193166 14, pn 329822213461487 14, pn 341261684594677 14, pn 329316630399014 14, pn 318338805121062 14, pn 320295209782341 14, pn 356131284315032 14, pn 388607215579459 14, pn 374751363465387 14, pn 34559783694907 13, pn 311748680148154 14, pn 318785299117243 14, pn 359216933352723 14, pn 394748552007008 14, pn 404090806957414 14, pn 396577146277441 14, pn 394595969353521 14, pn 407895291057768 14, pn 441875158346628 14, pn 463530383035399 14, pn 44976720431178 13, pn 429220623184425 14, pn 421968451980895 14, pn 414795718175456 14, pn 445413356329554 14, pn 472684200359045 14, pn 480180001081643 14, pn 476940729018701 14, pn 479373392927158 14, pn 492008818688413 14, pn 528312159393821 14, pn 57288049777874 13, pn 578039047411545 14, pn 542766864767471 14, pn 504890665934616 14, pn 482487403853933 14, pn 498457186784897 14, pn 542183455487505 14, pn 564182186284468 14, pn 549895650589914 14, pn 535146414366193 14, pn 543873590095497 14, pn 588144726180806 14, pn 796 3, pn 38313 1, pn 888 1, pn 1916 3]⟩

def row110 : Row := ⟨"SSD", "South Sudan", [pp 11193729 0, pp 0 0, pp 0 0, pp 0 0, pn 17851845490262 12, pp 3086 3, pp 20294 0, pp 0 0, pp 144733 0, pp 15 6, pp 32549564 0, pp 14118829 0, pp 8432559 0, pp 0 0, pp 0 0, pp 0 0, pp 0 0, pp 0 0, pp 0 0, pn 1525752980017742 9, pn 18760871784624265 11, pn 1736166313685067 10, nn 4608994173736475 16, nn 9302666802526238 16, nn 9803240291433122 16, nn 9549167271296608 16, nn 8633399467742303 16, nn 8801318526473269 16, nn 670403668128971 15, nn 4593663443930292 16, nn 3193702042312404 16, nn 1071161639328187 16, nn 842234619884144 16, nn 730993787624864 15, nn 761655728431424 15, nn 6532807852754839 16, nn 635632588327786 15, nn 629341767749844 15, nn 611761707912437 15, nn 572934996993109 15, nn 469524012507571 15, nn 252261592424292 15, pn 25 2, pp 0 0, pp 0 0, pp 0 0, pp 0 0, pp 0 0, pp 0 0, pp 0 0, pp 0 0, pn 25 2, pn 25 2, pn 25 2, pn 848016666666667 10, pn 742014583333333 10, pn 6360125 2, pn 530010416666667 10, pn 424008333333333 10, pn 31800625 3, pn 212004166666667 10, pn 106002083333333 10, pp 0 0, pn 212004166666667 10, pn 424008333333333 10, pn 6360125 2, pn 451000913432071 16, pn 11014039445705 16, pn 37776501041637 16, pn 297483136625652 16, pn 17464103009754 16, pp 0 0, pp 0 0, pp 0 0, pp 0 0, pp 0 0, pn 162199645141159 16, pn 352708633112865 19, pp 2478 0, pp 1 0, pn 15993293331326 16, pp 0 0, pp 0 0, pp 0 0, pp 0 0, pp 0 0, pp 0 0, pp 0 0, pp 0 0, pp 0 0, pp 0 0, pp 0 0, pp 0 0, pp 0 0, pp 0 0, pp 0 0, pp 0 0, pp 0 0, pp 0 0, pp 0 0, pp 0 0, pp 0 0, pp 0 0, pp 0 0, pp 0 0, pp 0 0, pp 0 0, pp 0 0, pp 0 0, pp 0 0, pp 0 0, pp 0 0, pp 0 0, pp 0 0, pp 0 0, pp 0 0, pp 0 0, pp 0 0, pp 0 0, pp 0 0, pp 0 0, pp 0 0, pp 0 0, pp 0 0, pp 0 0, pp 0 0, pp 0 0, pp 0 0, pp 0 0, pp 0 0, pp 0 0, pp 0 0, pp 0 0, pp 0 0, pp 0 0, pp 0 0, pp 0 0, pp 0 0, pp 0 0, pp 0 0, pp 0 0, pp 0 0, pp 0 0, pp 0 0, pp 0 0, pp 0 0, pp 0 0, pp 0 0, pp 0 0, pp 0 0, pp 0 0, pp 0 0, pp 0 0, pp 0 0, pp 0 0, pp 0 0, pp 0 0, pp 0 0, pp 0 0, pp 0 0, pp 0 0, pp 0 0, pp 0 0, pp 0 0, pp 0 0, pp 0 0, pp 0 0, pp 0 0, pp 0 0, pp 0 0, pp 0 0, pp 0 0, pp 0 0, pp 0 0, pp 0 0, pp 0 0, pp 0 0, pp 0 0, pp 0 0, pp 0 0, pp 0 0, pp 0 0, pp 0 0, pp 0 0, pp 0 0, pp 0 0, pp 0 0, pp 0 0, pp 0 0, pp 0 0, pp 0 0, pp 0 0, pp 0 0, pp 0 0, pp 0 0, pp 0 0, pp 0 0, pp 0 0, pp 0 0, pp 0 0, pp 0 0, pp 0 0, pp 0 0, pp 0 0, pp 0 0, pn 796 3, pn 16990001 5, pp 0 0, pp 1 0]⟩

def row111 : Row := ⟨"LKA", "Sri Lanka", [pp 21919 3, pp 10117 1, pn 15980000000000002 12, pp 6148 1, pn 272163473262255 14, pp 463 3, pp 224466 0, pp 1546 0, pp 22182 0, pp 24292 3, pp 43836 1, pp 1427902 0, pp 33835 1, pp 76 4, pp 27 4, pp 2 4, pp 62 4, pp 5 4, pp 12 4, pn 6675668764778367 9, pn 4604523432388888 10, pn 49566556054490205 11, pn 1183358840839603 16, nn 1895758154722026 16, nn 6778433933165853 16, nn 8161280801111078 16, nn 4617334493576714 16, nn 2112727615258481 16, nn 1417268272877154 16, nn 544610114792315 16, pn 2227791691592476 16, pn 16788008685036 15, nn 120526683294459 15, nn 481834463681429 15, nn 610934336432017 15, nn 649117731207087 15, nn 64004654735837 14, nn 6110326602728621 16, nn 558701902496932 15, nn 509004347384411 15, nn 344122148320835 15, nn 257217544707044 15, pn 2231125085 10, pp 0 0, pp 0 0, pp 0 0, pn 2688749153 11, pn 2688749153 11, pn 2688749153 11, pn 2688749153 11, pp 0 0, pn 2231125085 10, pn 2231125085 10, pn 2231125085 10, pn 276697775 2, pn 254417045833333 8, pn 23213631666666702 10, pn 2098555875 3, pn 194763733333333 8, pn 179671879166667 8, pn 164580025 2, pn 149488170833333 8, pn 127207441666667 8, pn 164580025 2, pn 201952608333333 8, pn 239325191666667 8, pn 568943629034054 16, pp 0 0, pp 0 0, pn 732246476927328 16, pn 17464103009754 16, pn 267108828863356 15, pn 114849984518657 15, pn 662190709935349 16, pp 26 2, pn 1716192664593867 20, pn 527463280308735 15, pn 11469868041512 16, pp 2372 0, pp 1 0, pn 15309157296975 16, pn 10847175759703 16, pn 10847175759703 16, pn 10847175759703 16, pn 10847175759703 16, pn 225563619622158 14, pn 224007972500148 14, pn 148606453827951 14, pn 114355202888872 14, pn 160951789253174 14, pn 521966083355326 14, pn 743437685745195 14, pn 747972711789109 14, pn 664280356141849 14, pn 646647044242444 14, pn 65771874112729 13, pn 615087329436925 14, pn 534977880528962 14, pn 571758638142947 14, pn 633725490408862 14, pn 710580962719998 14, pn 827223961234327 14, pn 854518932298853 14, pn 820843801067746 14, pn 816608141169708 14, pn 810982541964485 14, pn 755868200634493 14, pn 727441488563201 14, pn 653695979028396 14, pn 628534685511087 14, pn 589070949208488 14, pn 577589039896562 14, pn 581788069739559 14, pn 633828785774011 14, pn 683619681625962 14, pn 650726280711991 14, pn 608688789791755 14, pn 567459044912239 14, pn 561208414528042 14, pn 521499840213542 14, pn 527972658978082 14, pn 487388133502636 14, pn 483010833322668 14, pn 4676713228069 12, pn 460844068580014 14, pn 487837613254963 14, pn 531162341657829 14, pn 516884731434986 14, pn 497902067622137 14, pn 452361893257602 14, pn 407266102333234 14, pn 409386816082206 14, pn 443703262940789 14, pn 456681029282089 14, pn 453750216969654 14, pn 41069449815675 13, pn 347683974395228 14, pn 355036326450263 14, pn 3869939531218 12, pn 403586377822991 14, pn 401259844107923 14, pn 341374567255376 14, pn 306303937445421 14, pn 339662756674879 14, pn 414268590561571 14, pn 437778663119636 14, pn 426460470008121 14, pn 343931557743281 14, pn 284893096423649 14, pn 290026347343356 14, pn 344407639823311 14, pn 381088516403793 14, pn 37920574097581 13, pn 34168359641049 13, pn 297148329944834 14, pn 311217239211973 14, pn 339382155452187 14, pn 420949780539445 14, pn 405406533156939 14, pn 318779014623005 14, pn 229910459740717 14, pn 2373108082246 12, pn 31085020745919 13, pn 407807608795591 14, pn 405775190382202 14, pn 345063849689118 14, pn 300087762760537 14, pn 308478371667017 14, pn 369597783750681 14, pn 416213884386239 14, pn 35673784418279 13, pn 261088270593267 14, pn 20841204638453 13, pn 217349193744004 14, pn 327051500737282 14, pn 430934827503372 14, pn 423438857629996 14, pn 370150089910681 14, pn 342785217891785 14, pn 346413286727789 14, pn 388217941446816 14, pn 415270708063935 14, pn 349864476608232 14, pn 283136535533392 14, pn 292162278737474 14, pn 285190579039329 14, pn 378904646399308 14, pn 480046378209707 14, pn 476505625357688 14, pn 437905938224189 14, pn 388326244550295 14, pn 403945554491463 14, pn 427047613698725 14, pn 457654226002208 14, pn 423444946558973 14, pn 30901188433574 13, pn 274798000248855 14, pn 280908906252639 14, pn 393828629819519 14, pn 552466284019736 14, pn 638494859265154 14, pn 562808407419351 14, pn 455094432883848 14, pn 418448007315187 14, pn 454716994967059 14, pn 796 3, pn 87260004 5, pn 724 1, pn 12753 4]⟩

def row112 : Row := ⟨"SDN", "Sudan", [pp 43849269 0, pp 814 1, pp 118 1, pp 518 1, pn 32117104244355 12, pp 4623 3, pp 80357 0, pp 0 0, pp 389367 0, pp 50747 3, pp 73174255 0, pp 45100965 0, pp 822649 1, pp 165 4, pp 35 4, pp 23 4, pp 15 5, pp 6 4, pp 25 4, pn 9680879288221208 9, pn 17720548192035635 10, pn 12831235394034062 10, nn 2692577988554624 16, nn 7801696951452424 16, nn 8252974799853373 16, nn 7421563804796447 16, nn 6339306502420464 16, nn 4344843528307344 16, nn 509642857522424 16, pn 2689540601276063 16, pn 6106559113063469 16, pn 5495862333232994 16, nn 497206937614938 15, nn 8511570656174711 16, nn 8209218690201671 16, nn 607295723641964 15, nn 676250365509236 15, nn 684637327967725 15, nn 638495414544424 15, nn 5292433253836389 16, nn 549529471841006 16, pn 202027524084302 15, pn 1451569934 10, pp 0 0, pp 0 0, pp 0 0, pp 0 0, pp 0 0, pn 1048430066 10, pn 1048430066 10, pn 1048430066 10, pn 25 2, pn 1451569934 10, pn 1451569934 10, pn 123766404166667 8, pn 114179083333333 8, pn 1045917625 3, pn 950044416666666 9, pn 854171208333333 9, pp 758298 0, pn 783044416666666 9, pn 807790833333333 9, pn 83253725 2, pn 102428366666667 8, pn 109541045833333 8, pn 116653725 2, pn 451896299273636 16, pp 0 0, pn 78266104756171 15, pn 786930510814542 16, pn 17464103009754 16, pn 587686194569096 16, pn 217453458796373 16, pn 120031158041229 16, pp 0 0, pp 0 0, pn 390866763365336 15, pn 8499530422268 16, pp 19991 0, pp 1 0, pn 129024183610389 16, pn 6904955912706 16, pn 6904955912706 16, pn 6904955912706 16, pn 6904955912706 16, pn 125307230730804 14, pn 125367846568973 14, pn 116446966839296 14, pn 103527954468509 14, pn 961512922389098 15, pn 932072750118132 15, pn 804617605532861 15, pn 780306824251848 15, pn 820221624164208 15, pn 823418956292081 15, pn 775359495051149 15, pn 637903450301987 15, pn 588870255322997 15, pn 625494423262561 15, pn 699798427051329 15, pn 756385592285336 15, pn 77247750350272 14, pn 690685779521733 15, pn 623627098494677 15, pn 633497019919744 15, pn 654585219628031 15, pn 678221661285326 15, pn 642235920927908 15, pn 558452461567825 15, pn 550726354911298 15, pn 533241914274222 15, pn 559077587932166 15, pn 571602426565577 15, pn 585972414384307 15, pn 507581060856766 15, pn 476498579339626 15, pn 460375197883433 15, pn 495445346912131 15, pn 555511373771659 15, pn 535378583926726 15, pn 522042355245346 15, pn 509751643933992 15, pn 505917636988734 15, pn 503919661751173 15, pn 513327853544145 15, pn 514175353449103 15, pn 470236486652447 15, pn 433099151096754 15, pn 417731034252111 15, pn 4589048904543 13, pn 511477485927674 15, pn 521946469376341 15, pn 540108889789081 15, pn 539886903447276 15, pn 545419791111906 15, pn 546698827321603 15, pn 533937100159938 15, pn 532207116287776 15, pn 472239303610618 15, pn 395591548892984 15, pn 381781037642599 15, pn 433423576206002 15, pn 492862261945019 15, pn 537514092314661 15, pn 559213168164554 15, pn 587997598217513 15, pn 627624656363427 15, pn 632472485464784 15, pn 582125310182791 15, pn 531199123198026 15, pn 470782512469459 15, pn 410639172226025 15, pn 403227449169194 15, pn 453669790475513 15, pn 525221394490141 15, pn 571830375386405 15, pn 580750441197102 15, pn 635296453090261 15, pn 701827805097738 15, pn 671723616673777 15, pn 60179402313819 14, pn 521390490430414 15, pn 469530619023012 15, pn 427651558855648 15, pn 42963081978582 14, pn 46603564184307 14, pn 542606388967509 15, pn 59108300019918 14, pn 624642198498689 15, pn 69867140533179 14, pn 779970043657163 15, pn 753118024156137 15, pn 640722574308407 15, pn 571390153768085 15, pn 520382505764622 15, pn 489644817171928 15, pn 461562953165597 15, pn 530046869432579 15, pn 577838810697034 15, pn 641354741404765 15, pn 706086788708845 15, pn 843711957844599 15, pn 913032033112738 15, pn 861700119798149 15, pn 770884355522217 15, pn 661651634721807 15, pn 618783982018184 15, pn 582799506486546 15, pn 517420687334327 15, pn 556261710999006 15, pn 599625826339062 15, pn 691953757070279 15, pn 869444160023993 15, pn 101924075948968 14, pn 107132482822279 14, pn 102067889731294 14, pn 846024469766208 15, pn 756059933939122 15, pn 66355912632032 14, pn 627535784479301 15, pn 600794739829099 15, pn 594746238383821 15, pn 648169213504355 15, pn 767347509266252 15, pn 906179412169381 15, pn 796 3, pn 895 1, pp 0 0, pn 24912 4]⟩

def row113 : Row := ⟨"SUR", "Suriname", [pp 586634 0, pp 763 1, pp 104 1, pp 527 1, pn 163974384442698 15, pp 3 3, pp 9687 0, pp 2245 0, pp 1724 0, pp 6552 3, pp 43442 0, pp 37763 0, pp 123 1, pp 6 4, pp 0 0, pp 0 0, pp 4 4, pp 0 0, pp 0 0, pn 2923028475045462 10, pn 3997266293940821 12, pn 20747908337179702 12, pn 3465024966433325 16, pn 4732321530502247 16, nn 635471460276476 16, nn 5588368549759294 16, nn 2474977288814385 16, pn 2827924499934842 16, pn 2470234560362026 16, pn 3587227021504571 16, pn 8356262572061788 16, nn 3376707464218598 16, nn 478496989984943 16, nn 760438014902125 15, nn 621253711871762 15, nn 668280376364687 15, nn 8050703935145 13, nn 848334862551037 15, nn 756447924164257 15, nn 528792746735023 15, nn 246089549597116 15, nn 153211506359694 15, pn 2487159527 10, pn 2487159527 10, pn 2487159527 10, pn 2487159527 10, pn 1284047317 12, pn 1284047317 12, pn 1284047317 12, pn 1284047317 12, pp 0 0, pp 0 0, pp 0 0, pp 0 0, pp 0 0, pn 154464583333333 10, pn 41206041666666606 12, pn 66965625 3, pn 541858333333333 10, pn 414060416666667 10, pn 2862625 2, pn 158464583333333 10, pn 286666666666666 11, pp 0 0, pp 0 0, pn 266666666666667 11, pn 975530179445351 16, pp 0 0, pp 0 0, pn 449438202247191 16, pn 17464103009754 16, pn 31703307220634 14, pn 141823113480768 15, pn 828398672775841 16, pp 0 0, pp 0 0, pp 0 0, pp 0 0, pp 68 0, pp 1 0, pn 43887972014939 18, pn 3124634211377 16, pn 3124634211377 16, pn 3124634211377 16, pn 5 4, pn 225563619622158 14, pn 224007972500148 14, pn 148606453827951 14, pn 114355202888872 14, pn 160951789253174 14, pn 521966083355326 14, pn 743437685745195 14, pn 747972711789109 14, pn 664280356141849 14, pn 646647044242444 14, pn 65771874112729 13, pn 615087329436925 14, pn 534977880528962 14, pn 571758638142947 14, pn 633725490408862 14, pn 710580962719998 14, pn 827223961234327 14, pn 854518932298853 14, pn 820843801067746 14, pn 816608141169708 14, pn 810982541964485 14, pn 755868200634493 14, pn 727441488563201 14, pn 653695979028396 14, pn 628534685511087 14, pn 589070949208488 14, pn 577589039896562 14, pn 581788069739559 14, pn 633828785774011 14, pn 683619681625962 14, pn 650726280711991 14, pn 608688789791755 14, pn 567459044912239 14, pn 561208414528042 14, pn 521499840213542 14, pn 527972658978082 14, pn 487388133502636 14, pn 483010833322668 14, pn 4676713228069 12, pn 460844068580014 14, pn 487837613254963 14, pn 531162341657829 14, pn 516884731434986 14, pn 497902067622137 14, pn 452361893257602 14, pn 407266102333234 14, pn 409386816082206 14, pn 443703262940789 14, pn 456681029282089 14, pn 453750216969654 14, pn 41069449815675 13, pn 347683974395228 14, pn 355036326450263 14, pn 3869939531218 12, pn 403586377822991 14, pn 401259844107923 14, pn 341374567255376 14, pn 306303937445421 14, pn 339662756674879 14, pn 414268590561571 14, pn 437778663119636 14, pn 426460470008121 14, pn 343931557743281 14, pn 284893096423649 14, pn 290026347343356 14, pn 344407639823311 14, pn 381088516403793 14, pn 37920574097581 13, pn 34168359641049 13, pn 297148329944834 14, pn 311217239211973 14, pn 339382155452187 14, pn 420949780539445 14, pn 405406533156939 14, pn 318779014623005 14, pn 229910459740717 14, pn 2373108082246 12, pn 31085020745919 13, pn 407807608795591 14, pn 405775190382202 14, pn 345063849689118 14, pn 300087762760537 14, pn 308478371667017 14, pn 369597783750681 14, pn 416213884386239 14, pn 35673784418279 13, pn 261088270593267 14, pn 20841204638453 13, pn 217349193744004 14, pn 327051500737282 14, pn 430934827503372 14, pn 423438857629996 14, pn 370150089910681 14, pn 342785217891785 14, pn 346413286727789 14, pn 388217941446816 14, pn 415270708063935 14, pn 349864476608232 14, pn 283136535533392 14, pn 292162278737474 14, pn 285190579039329 14, pn 378904646399308 14, pn 480046378209707 14, pn 476505625357688 14, pn 437905938224189 14, pn 388326244550295 14, pn 403945554491463 14, pn 427047613698725 14, pn 457654226002208 14, pn 423444946558973 14, pn 30901188433574 13, pn 274798000248855 14, pn 280908906252639 14, pn 393828629819519 14, pn 552466284019736 14, pn 638494859265154 14, pn 562808407419351 14, pn 455094432883848 14, pn 418448007315187 14, pn 454716994967059 14, pn 796 3, pn 21622 1, pp 69 0, pn 16035999 7]⟩

def row114 : Row := ⟨"CHE", "Switzerland", [pp 8636896 0, pp 63 1, pp 9 1, pp 4 2, pn 188138258220368 13, pp 3822 3, pp 103386 0, pp 223986 0, pp 143663 0, pp 12448 3, pp 1663388 0, pp 1595857 0, pp 544588 0, pp 31 4, pp 5 4, pp 0 0, pp 122 4, pp 8 4, pp 24 4, pn 13931703484174428 10, pn 7599084401442243 11, pn 17108270492780572 11, np 1 0, np 1 0, np 1 0, nn 9999999999999996 16, nn 9968240417483842 16, nn 9483026773447644 16, nn 6267733335889275 16, nn 4163370709238199 16, nn 3797769607953698 16, nn 1755582735217005 16, nn 133205680324672 15, nn 950268798474313 15, nn 948209775469475 15, nn 9940042967437708 16, nn 791849844424028 15, nn 8836418321988 13, nn 9169753092742252 16, nn 917827955431145 15, nn 911807981469545 15, nn 866994905520712 15, pn 8165905817 13, pp 0 0, pp 0 0, pp 0 0, pn 6786612309 11, pn 6786612309 11, pn 2491834094 10, pn 2491834094 10, pn 1813172863 10, pn 1821338769 10, pn 8165905817 13, pn 8165905817 13, pn 6833273333333329 10, pn 59798775 2, pn 51264816666666704 11, pn 42730858333333296 11, pp 411469 0, pn 39562941666666704 11, pn 565472333333333 9, pn 73531525 2, pn 835658166666667 9, pn 936837333333333 9, pp 852334 0, pn 767830666666667 9, pn 222108265760713 16, pp 0 0, pp 0 0, pp 0 0, pn 17464103009754 16, pn 447554266241313 15, pn 223853979276858 15, pn 136167901712865 15, pp 0 0, pp 0 0, pn 517605495843928 14, pn 112555071727769 16, pp 424 0, pp 1 0, pn 2736544137402 16, pp 0 0, pp 0 0, pp 0 0, pp 0 0, pp 0 0, pp 0 0, pp 0 0, pp 0 0, pp 0 0, pp 0 0, pp 0 0, pp 0 0, pp 0 0, pp 0 0, pp 0 0, pp 0 0, pp 0 0, pp 0 0, pp 0 0, pp 0 0, pp 0 0, pp 0 0, pp 0 0, pp 0 0, pp 0 0, pp 0 0, pp 0 0, pp 0 0, pp 0 0, pp 0 0, pp 0 0, pp 0 0, pp 0 0, pp 0 0, pp 0 0, pp 0 0, pp 0 0, pp 0 0, pp 0 0, pp 0 0, pp 0 0, pp 0 0, pp 0 0, pp 0 0, pp 0 0, pp 0 0, pp 0 0, pp 0 0, pp 0 0, pp 0 0, pp 0 0, pp 0 0, pp 0 0, pp 0 0, pp 0 0, pp 0 0, pp 0 0, pp 0 0, pp 0 0, pp 0 0, pp 0 0, pp 0 0, pp 0 0, pp 0 0, pp 0 0, pp 0 0, pp 0 0, pp 0 0, pp 0 0, pp 0 0, pp 0 0, pp 0 0, pp 0 0, pp 0 0, pp 0 0, pp 0 0, pp 0 0, pp 0 0, pp 0 0, pp 0 0, pp 0 0, pp 0 0, pp 0 0, pp 0 0, pp 0 0, pp 0 0, pp 0 0, pp 0 0, pp 0 0, pp 0 0, pp 0 0, pp 0 0, pp 0 0, pp 0 0, pp 0 0, pp 0 0, pp 0 0, pp 0 0, pp 0 0, pp 0 0, pp 0 0, pp 0 0, pp 0 0, pp 0 0, pp 0 0, pp 0 0, pp 0 0, pp 0 0, pp 0 0, pp 0 0, pp 0 0, pp 0 0, pp 0 0, pp 0 0, pp 0 0, pp 0 0, pp 0 0, pp 0 0, pp 0 0, pp 0 0, pp 0 0, pp 0 0, pp 0 0, pp 0 0, pn 796 3, pn 65268003 4, pn 903 1, pn 13 1]⟩

def row115 : Row := ⟨"SYR", "Syrian Arab Republic", [pp 17500657 0, pp 118 1, pp 18 1, pp 72 1, pn 8536335071365569 15, pp 1785 3, pp 124772 0, pp 0 0, pp 64392 0, pp 19069 3, pp 18069022 0, pp 1005246 0, pp 513543 0, pp 0 0, pp 0 0, pp 0 0, pp 0 0, pp 0 0, pp 0 0, pn 5637914799861457 9, pn 3366684876727605 10, pn 7641652775903344 10, nn 9560944933940994 16, nn 8969175062296247 16, nn 8969175062296247 16, nn 4378186219374897 16, nn 3619409554219765 16, nn 4016370884194109 16, nn 2818145076693878 16, nn 3026833637863786 16, nn 2149171261626902 16, nn 1476479539586495 16, pn 744193832946635 15, nn 833407844868796 15, nn 94290172189841 14, nn 95231041495254 14, nn 981017276888123 15, nn 981992246446832 15, nn 996095111858903 15, nn 991982605033718 15, nn 7498914489382039 16, nn 751835433777914 15, pn 1974685768 13, pn 1974685768 13, pn 1974685768 13, pn 1974685768 13, pn 6818421711 12, pn 6818421711 12, pn 2498025314 10, pn 2498025314 10, pn 2429841097 10, pn 2429841097 10, pp 0 0, pp 0 0, pn 273826716666667 8, pn 25035551666666702 10, pn 22688431666666702 10, pn 20341311666666705 10, pn 181811166666667 8, pn 160209216666667 8, pn 207207366666667 8, pn 25420551666666702 10, pn 29927866666666702 10, pn 344351816666667 8, pn 32082486666666702 10, pn 29735366666666702 10, pn 394988512511742 16, pp 0 0, pp 0 0, pp 0 0, pn 17464103009754 16, pp 0 0, pp 0 0, pp 0 0, pp 0 0, pp 0 0, pn 333342307820097 16, pn 724864161370965 19, pp 5733 0, pp 1 0, pn 37001432876712 16, pn 1562317105688 16, pn 1562317105688 16, pn 1562317105688 16, pn 5 4, pn 125307230730804 14, pn 125367846568973 14, pn 116446966839296 14, pn 103527954468509 14, pn 961512922389098 15, pn 932072750118132 15, pn 804617605532861 15, pn 780306824251848 15, pn 820221624164208 15, pn 823418956292081 15, pn 775359495051149 15, pn 637903450301987 15, pn 588870255322997 15, pn 625494423262561 15, pn 699798427051329 15, pn 756385592285336 15, pn 77247750350272 14, pn 690685779521733 15, pn 623627098494677 15, pn 633497019919744 15, pn 654585219628031 15, pn 678221661285326 15, pn 642235920927908 15, pn 558452461567825 15, pn 550726354911298 15, pn 533241914274222 15, pn 559077587932166 15, pn 571602426565577 15, pn 585972414384307 15, pn 507581060856766 15, pn 476498579339626 15, pn 460375197883433 15, pn 495445346912131 15, pn 555511373771659 15, pn 535378583926726 15, pn 522042355245346 15, pn 509751643933992 15, pn 505917636988734 15, pn 503919661751173 15, pn 513327853544145 15, pn 514175353449103 15, pn 470236486652447 15, pn 433099151096754 15, pn 417731034252111 15, pn 4589048904543 13, pn 511477485927674 15, pn 521946469376341 15, pn 540108889789081 15, pn 539886903447276 15, pn 545419791111906 15, pn 546698827321603 15, pn 533937100159938 15, pn 532207116287776 15, pn 472239303610618 15, pn 395591548892984 15, pn 381781037642599 15, pn 433423576206002 15, pn 492862261945019 15, pn 537514092314661 15, pn 559213168164554 15, pn 587997598217513 15, pn 627624656363427 15, pn 632472485464784 15, pn 582125310182791 15, pn 531199123198026 15, pn 470782512469459 15, pn 410639172226025 15, pn 403227449169194 15, pn 453669790475513 15, pn 525221394490141 15, pn 571830375386405 15, pn 580750441197102 15, pn 635296453090261 15, pn 701827805097738 15, pn 671723616673777 15, pn 60179402313819 14, pn 521390490430414 15, pn 469530619023012 15, pn 427651558855648 15, pn 42963081978582 14, pn 46603564184307 14, pn 542606388967509 15, pn 59108300019918 14, pn 624642198498689 15, pn 69867140533179 14, pn 779970043657163 15, pn 753118024156137 15, pn 640722574308407 15, pn 571390153768085 15, pn 520382505764622 15, pn 489644817171928 15, pn 461562953165597 15, pn 530046869432579 15, pn 577838810697034 15, pn 641354741404765 15, pn 706086788708845 15, pn 843711957844599 15, pn 913032033112738 15, pn 861700119798149 15, pn 770884355522217 15, pn 661651634721807 15, pn 618783982018184 15, pn 582799506486546 15, pn 517420687334327 15, pn 556261710999006 15, pn 599625826339062 15, pn 691953757070279 15, pn 869444160023993 15, pn 101924075948968 14, pn 107132482822279 14, pn 102067889731294 14, pn 846024469766208 15, pn 756059933939122 15, pn 66355912632032 14, pn 627535784479301 15, pn 600794739829099 15, pn 594746238383821 15, pn 648169213504355 15, pn 767347509266252 15, pn 906179412169381 15, pn 796 3, pn 1598 1, pp 0 0, pn 12814 4]⟩

def row116 : Row := ⟨"TWN", "Taiwan", [pp 23816 3, pp 0 0, pp 0 0, pp 0 0, pn 128597325966942 14, pp 445 3, pp 65693 1, pp 843856 0, pp 6959 0, pp 11122 4, pp 5643082 0, pp 154499 0, pp 62916 0, pp 7 5, pp 25 4, pp 1 4, pp 585 4, pp 27 4, pp 133 4, pn 2430863332170281 9, pn 5784435025437634 11, pn 20199796043345644 11, nn 975076313598488 15, nn 9971669716737848 16, nn 9970414336333868 16, nn 989900071205584 15, nn 961537116961417 15, nn 931499845812767 15, nn 8991230672714876 16, nn 8259776603421917 16, nn 612520154943911 15, nn 3396468446777395 16, nn 373612765837817 15, nn 977264660505907 15, nn 980940570686308 15, nn 953527404759726 15, nn 932749364210494 15, nn 869519476701542 15, nn 825529455602843 15, nn 787241815219556 15, nn 735408374457375 15, nn 656219230543812 15, pn 2421750343 10, pn 2276199872 10, pn 2276199872 10, pn 2276199872 10, pn 6809776967 12, pn 6809776967 12, pn 7824965749 12, pn 7824965749 12, pn 1015188782 12, pn 1557023583 11, pn 1455504704 11, pn 1455504704 11, pn 22134564583333298 10, pn 238296175 2, pn 25524670416666702 10, pn 27219723333333298 10, pn 2632073875 3, pn 254217541666667 8, pn 245346958333333 8, pn 236476375 2, pn 226805791666667 8, pn 218845108333333 8, pn 2107651625 3, pn 229425591666667 8, pn 451000913432071 16, pn 11014039445705 16, pn 37776501041637 16, pn 297483136625652 16, pn 17464103009754 16, pn 445448402517642 15, pn 222376992790969 15, pn 135168710190373 15, pp 370201 0, pn 24436009254819 16, pn 166475662245987 14, pn 36200697742735 16, pn 7902 1, pp 1 0, pn 5100040512677 16, pn 12679053277927 16, pn 12679053277927 16, pn 12679053277927 16, pn 12679053277927 16, pn 175435425176481 14, pn 174687909534561 14, pn 132526710333623 14, pn 10894157867869 13, pn 128551540746042 14, pn 307586679183569 14, pn 411949723149241 14, pn 413001697107147 14, pn 373151259279135 14, pn 364494469935826 14, pn 367627345316203 14, pn 339438837233562 14, pn 296932453030631 14, pn 317154040234602 14, pn 351852666556997 14, pn 393109760974266 14, pn 452235855792299 14, pn 461793755125513 14, pn 441603255458607 14, pn 439978921580841 14, pn 438220531963644 14, pn 411845183381513 14, pn 395832540327996 14, pn 354770612592589 14, pn 341803660501108 14, pn 321197570317955 14, pn 316748399344889 14, pn 319474156198058 14, pn 346213013606221 14, pn 367188893855819 14, pn 349188069322977 14, pn 327363154790049 14, pn 308501789801726 14, pn 308379775952604 14, pn 287518849303107 14, pn 290088447251308 14, pn 269181648948018 14, pn 26680129851077 13, pn 259031644491008 14, pn 256088426967214 14, pn 269627574299937 14, pn 289092995161537 14, pn 280097323272331 14, pn 269837585523674 14, pn 249126191151516 14, pn 229206925463001 14, pn 23079073150992 13, pn 248857075959849 14, pn 255334859813408 14, pn 254146098040422 14, pn 232682190444455 14, pn 200538842205611 14, pn 20412851903952 13, pn 217108941741431 14, pn 221572766356145 14, pn 219718973936091 14, pn 192358462437988 14, pn 177795081819962 14, pn 196707082953172 14, pn 235094953689013 14, pn 248289211470693 14, pn 244611467822232 14, pn 203589403144879 14, pn 171552813720964 14, pn 171573129831579 14, pn 195742945535128 14, pn 211076216813198 14, pn 209764242946365 14, pn 193525287729021 14, pn 174835234696924 14, pn 184200138375307 14, pn 198728599785949 14, pn 242239712924235 14, pn 237794656833356 14, pn 192975688145191 14, pn 145044931027268 14, pn 144724928633821 14, pn 178901634680745 14, pn 225286382340578 14, pn 224369136180392 14, pn 195833706936713 14, pn 177174200828644 14, pn 183793335843467 14, pn 216031001800275 14, pn 243040512459709 14, pn 217367424274253 14, pn 16820003650444 13, pn 136242151907685 14, pn 137244104560406 14, pn 189544875656872 14, pn 239949654610283 14, pn 234797576473278 14, pn 21157738842697 13, pn 200284549480744 14, pn 205274380434133 14, pn 22941331015885 13, pn 249820951924197 14, pn 220583839959753 14, pn 184653273756604 14, pn 184625357144848 14, pn 175677871255755 14, pn 220391522300563 14, pn 269163164429181 14, pn 264123847045561 14, pn 246766054662045 14, pn 224144413592101 14, pn 236570465099245 14, pn 256996014850562 14, pn 279789150975588 14, pn 265288714690626 14, pn 205539887033517 14, pn 179700223612738 14, pn 178257449823275 14, pn 230092271225776 14, pn 307609931233833 14, pn 349287166624032 14, pn 311141515628867 14, pn 259955677117142 14, pn 247591379120906 14, pn 272667468091998 14, pn 796 3, pn 45205 1, pn 102700005 6, pn 17289 4]⟩

def row117 : Row := ⟨"TJK", "Tajikistan", [pp 9537642 0, pp 27 1, pp 4 1, pp 17 1, pn 348502649250799 14, pp 1055 3, pp 3745 0, pp 913 0, pp 166323 0, pp 10257 3, pp 5769472 0, pp 2562618 0, pp 1057966 0, pp 2 4, pp 1 4, pp 0 0, pp 145 4, pp 8 4, pp 24 4, pn 16025899744398906 10, pn 5192084129425474 11, pn 20857587283849728 11, nn 9999403943297036 16, np 1 0, np 1 0, np 1 0, nn 9308960911638648 16, nn 5864360912156887 16, nn 3125569616628605 16, nn 1500960766816352 16, nn 1411767986016812 16, pn 484743603910901 16, nn 21063922296327 15, nn 999997423208011 15, nn 999995364243027 15, nn 96619157007554 14, nn 7952229030199941 16, nn 615265196053903 15, nn 517075394536293 15, nn 355519995219112 15, nn 1703955922497479 16, nn 170517976614652 15, pp 0 0, pp 0 0, pp 0 0, pp 0 0, pp 0 0, pp 0 0, pn 25 2, pn 25 2, pn 25 2, pn 25 2, pp 0 0, pp 0 0, pn 888946458333333 9, pn 809239666666666 9, pn 729532875 3, pn 649826083333333 9, pn 5701192916666659 10, pn 4904125 1, pn 649826083333333 9, pn 809239666666667 9, pn 96865325 2, pn 112806683333333 8, pn 104836004166667 8, pn 96865325 2, pn 329722339082878 16, pp 0 0, pn 712468193384224 16, pn 821973550356053 16, pn 17464103009754 16, pn 206536400840191 16, pn 74520727224894 16, pn 40866849684809 16, pp 0 0, pp 0 0, pn 752840563454165 16, pn 1637077355235 16, pp 853 0, pp 1 0, pn 5505358842462 16, pp 0 0, pp 0 0, pp 0 0, pp 0 0, pp 0 0, pp 0 0, pp 0 0, pp 0 0, pp 0 0, pp 0 0, pp 0 0, pp 0 0, pp 0 0, pp 0 0, pp 0 0, pp 0 0, pp 0 0, pp 0 0, pp 0 0, pp 0 0, pp 0 0, pp 0 0, pp 0 0, pp 0 0, pp 0 0, pp 0 0, pp 0 0, pp 0 0, pp 0 0, pp 0 0, pp 0 0, pp 0 0, pp 0 0, pp 0 0, pp 0 0, pp 0 0, pp 0 0, pp 0 0, pp 0 0, pp 0 0, pp 0 0, pp 0 0, pp 0 0, pp 0 0, pp 0 0, pp 0 0, pp 0 0, pp 0 0, pp 0 0, pp 0 0, pp 0 0, pp 0 0, pp 0 0, pp 0 0, pp 0 0, pp 0 0, pp 0 0, pp 0 0, pp 0 0, pp 0 0, pp 0 0, pp 0 0, pp 0 0, pp 0 0, pp 0 0, pp 0 0, pp 0 0, pp 0 0, pp 0 0, pp 0 0, pp 0 0, pp 0 0, pp 0 0, pp 0 0, pp 0 0, pp 0 0, pp 0 0, pp 0 0, pp 0 0, pp 0 0, pp 0 0, pp 0 0, pp 0 0, pp 0 0, pp 0 0, pp 0 0, pp 0 0, pp 0 0, pp 0 0, pp 0 0, pp 0 0, pp 0 0, pp 0 0, pp 0 0, pp 0 0, pp 0 0, pp 0 0, pp 0 0, pp 0 0, pp 0 0, pp 0 0, pp 0 0, pp 0 0, pp 0 0, pp 0 0, pp 0 0, pp 0 0, pp 0 0, pp 0 0, pp 0 0, pp 0 0, pp 0 0, pp 0 0, pp 0 0, pp 0 0, pp 0 0, pp 0 0, pp 0 0, pp 0 0, pp 0 0, pp 0 0, pp 0 0, pp 0 0, pp 0 0, pn 796 3, pn 85060004 5, pp 4 1, pn 20860999 7]⟩

def row118 : Row := ⟨"TZA", "United Republic of Tanzania", [pp 59734213 0, pp 7597 1, pp 1161 1, pp 4681 1, pn 396874179907585 13, pp 2888 3, pp 86626 0, pp 14977 0, pp 486736 0, pp 39358 3, pp 26994389 0, pp 28524071 0, pp 7116771 0, pp 73 4, pp 29 4, pp 4 4, pp 149 4, pp 8 4, pp 2 5, pn 1977378923111108 8, pn 1391477609710958 9, pn 20083864634096413 10, pn 171802959557311 16, nn 8458434395262713 16, nn 9352475065518714 16, nn 8994336377749096 16, nn 8555146387449624 16, nn 8392060127670679 16, nn 8017552061800387 16, nn 7403651114439066 16, nn 5507972466109716 16, nn 3623326279455885 16, nn 251233220597191 16, nn 379775747356486 15, nn 619960582198818 15, nn 7102763670440101 16, nn 7557150503140819 16, nn 771293397950175 15, nn 756613499371234 15, nn 695749856410616 15, nn 605591768149555 15, nn 478648497479458 15, pp 0 0, pp 0 0, pp 0 0, pp 0 0, pn 647970706 10, pn 647970706 10, pn 25 2, pn 25 2, pn 1852029294 10, pn 1852029294 10, pp 0 0, pp 0 0, pn 470858733333333 8, pn 404911741666667 8, pn 33896475 1, pn 27301775833333298 10, pn 258348829166667 8, pp 2436799 0, pn 37557388333333298 10, pn 507467866666667 8, pn 5880837875 3, pn 668699708333333 8, pn 602752716666666 8, pn 536805725 2, pn 797150284008857 16, pn 3347280334728 15, pp 0 0, pn 178137293904434 16, pn 17464103009754 16, pp 0 0, pp 0 0, pp 0 0, pp 44 3, pn 2904326047774 16, pn 417657010900933 15, pn 9082093447039 16, pp 1565 1, pp 1 0, pn 101006876769676 16, pn 11527147971505 16, pn 11527147971505 16, pn 11527147971505 16, pn 11527147971505 16, pn 225563619622158 14, pn 224007972500148 14, pn 148606453827951 14, pn 114355202888872 14, pn 160951789253174 14, pn 521966083355326 14, pn 743437685745195 14, pn 747972711789109 14, pn 664280356141849 14, pn 646647044242444 14, pn 65771874112729 13, pn 615087329436925 14, pn 534977880528962 14, pn 571758638142947 14, pn 633725490408862 14, pn 710580962719998 14, pn 827223961234327 14, pn 854518932298853 14, pn 820843801067746 14, pn 816608141169708 14, pn 810982541964485 14, pn 755868200634493 14, pn 727441488563201 14, pn 653695979028396 14, pn 628534685511087 14, pn 589070949208488 14, pn 577589039896562 14, pn 581788069739559 14, pn 633828785774011 14, pn 683619681625962 14, pn 650726280711991 14, pn 608688789791755 14, pn 567459044912239 14, pn 561208414528042 14, pn 521499840213542 14, pn 527972658978082 14, pn 487388133502636 14, pn 483010833322668 14, pn 4676713228069 12, pn 460844068580014 14, pn 487837613254963 14, pn 531162341657829 14, pn 516884731434986 14, pn 497902067622137 14, pn 452361893257602 14, pn 407266102333234 14, pn 409386816082206 14, pn 443703262940789 14, pn 456681029282089 14, pn 453750216969654 14, pn 41069449815675 13, pn 347683974395228 14, pn 355036326450263 14, pn 3869939531218 12, pn 403586377822991 14, pn 401259844107923 14, pn 341374567255376 14, pn 306303937445421 14, pn 339662756674879 14, pn 414268590561571 14, pn 437778663119636 14, pn 426460470008121 14, pn 343931557743281 14, pn 284893096423649 14, pn 290026347343356 14, pn 344407639823311 14, pn 381088516403793 14, pn 37920574097581 13, pn 34168359641049 13, pn 297148329944834 14, pn 311217239211973 14, pn 339382155452187 14, pn 420949780539445 14, pn 405406533156939 14, pn 318779014623005 14, pn 229910459740717 14, pn 2373108082246 12, pn 31085020745919 13, pn 407807608795591 14, pn 405775190382202 14, pn 345063849689118 14, pn 300087762760537 14, pn 308478371667017 14, pn 369597783750681 14, pn 416213884386239 14, pn 35673784418279 13, pn 261088270593267 14, pn 20841204638453 13, pn 217349193744004 14, pn 327051500737282 14, pn 430934827503372 14, pn 423438857629996 14, pn 370150089910681 14, pn 342785217891785 14, pn 346413286727789 14, pn 388217941446816 14, pn 415270708063935 14, pn 349864476608232 14, pn 283136535533392 14, pn 292162278737474 14, pn 285190579039329 14, pn 378904646399308 14, pn 480046378209707 14, pn 476505625357688 14, pn 437905938224189 14, pn 388326244550295 14, pn 403945554491463 14, pn 427047613698725 14, pn 457654226002208 14, pn 423444946558973 14, pn 30901188433574 13, pn 274798000248855 14, pn 280908906252639 14, pn 393828629819519 14, pn 552466284019736 14, pn 638494859265154 14, pn 562808407419351 14, pn 455094432883848 14, pn 418448007315187 14, pn 454716994967059 14, pn 796 3, pn 2852 1, pn 1089 1, pn 10127 4]⟩

def row119 : Row := ⟨"THA", "Thailand", [pp 69799978 0, pp 38898 1, pp 5221 1, pn 25091000000000003 11, pn 11033070696143898 15, pp 12 5, pp 1782014 0, pp 8935 2, pp 11301 1, pp 299923 3, pp 8042271 0, pp 5570936 0, pp 22 4, pp 1066 4, pp 281 4, pp 28 4, pp 1275 4, pp 69 4, pp 228 4, pn 541434292333605 7, pn 2757188098648169 9, pn 3232483001467555 9, pn 606210713065628 16, nn 9954693087954882 16, nn 9973205199904384 16, nn 985927805351578 15, nn 9727171013914252 16, nn 8269626274491209 16, nn 6589748702661741 16, nn 3009161856811688 16, pn 940471058027428 16, pn 2452630254769413 16, nn 3111855070839029 16, nn 674791422964684 15, nn 795679702158983 15, nn 891717704750031 15, nn 929670781498389 15, nn 924956505898526 15, nn 905087146558972 15, nn 8546557974886829 16, nn 7596431823064199 16, nn 585206813161389 15, pn 2143332212 10, pn 2143332212 10, pn 2143332212 10, pn 1280506226 10, pp 0 0, pp 0 0, pn 3518585531 11, pn 3518585531 11, pn 3566677884 11, pn 3566677884 11, pn 4809235244 13, pn 8676352208 11, pn 14889938625 3, pn 19187540791666698 9, pn 234851429583333 7, pn 24952145125 3, pn 222182991666667 7, pn 194844532083333 7, pn 1790491975 2, pn 163096090416667 7, pn 147458528333333 7, pn 13182096625 3, pn 132946279166667 7, pn 17608007333333302 9, pn 660591334487614 16, pn 100579336981 15, pn 276717107434121 16, pn 282744648991456 16, pn 17464103009754 16, pn 313161302254534 15, pn 139653558794256 15, pn 814869384502243 16, pp 1006 3, pn 66403454637747 16, pn 237040145354824 14, pn 51545184077446 16, pp 2131 1, pp 1 0, pn 137537159358581 16, pn 26057506545137 16, pn 26057506545137 16, pn 26057506545137 16, pn 26057506545137 16, pn 175435425176481 14, pn 174687909534561 14, pn 132526710333623 14, pn 10894157867869 13, pn 128551540746042 14, pn 307586679183569 14, pn 411949723149241 14, pn 413001697107147 14, pn 373151259279135 14, pn 364494469935826 14, pn 367627345316203 14, pn 339438837233562 14, pn 296932453030631 14, pn 317154040234602 14, pn 351852666556997 14, pn 393109760974266 14, pn 452235855792299 14, pn 461793755125513 14, pn 441603255458607 14, pn 439978921580841 14, pn 438220531963644 14, pn 411845183381513 14, pn 395832540327996 14, pn 354770612592589 14, pn 341803660501108 14, pn 321197570317955 14, pn 316748399344889 14, pn 319474156198058 14, pn 346213013606221 14, pn 367188893855819 14, pn 349188069322977 14, pn 327363154790049 14, pn 308501789801726 14, pn 308379775952604 14, pn 287518849303107 14, pn 290088447251308 14, pn 269181648948018 14, pn 26680129851077 13, pn 259031644491008 14, pn 256088426967214 14, pn 269627574299937 14, pn 289092995161537 14, pn 280097323272331 14, pn 269837585523674 14, pn 249126191151516 14, pn 229206925463001 14, pn 23079073150992 13, pn 248857075959849 14, pn 255334859813408 14, pn 254146098040422 14, pn 232682190444455 14, pn 200538842205611 14, pn 20412851903952 13, pn 217108941741431 14, pn 221572766356145 14, pn 219718973936091 14, pn 192358462437988 14, pn 177795081819962 14, pn 196707082953172 14, pn 235094953689013 14, pn 248289211470693 14, pn 244611467822232 14, pn 203589403144879 14, pn 171552813720964 14, pn 171573129831579 14, pn 195742945535128 14, pn 211076216813198 14, pn 209764242946365 14, pn 193525287729021 14, pn 174835234696924 14, pn 184200138375307 14, pn 198728599785949 14, pn 242239712924235 14, pn 237794656833356 14, pn 192975688145191 14, pn 145044931027268 14, pn 144724928633821 14, pn 178901634680745 14, pn 225286382340578 14, pn 224369136180392 14, pn 195833706936713 14, pn 177174200828644 14, pn 183793335843467 14, pn 216031001800275 14, pn 243040512459709 14, pn 217367424274253 14, pn 16820003650444 13, pn 136242151907685 14, pn 137244104560406 14, pn 189544875656872 14, pn 239949654610283 14, pn 234797576473278 14, pn 21157738842697 13, pn 200284549480744 14, pn 205274380434133 14, pn 22941331015885 13, pn 249820951924197 14, pn 220583839959753 14, pn 184653273756604 14, pn 184625357144848 14, pn 175677871255755 14, pn 220391522300563 14, pn 269163164429181 14, pn 264123847045561 14, pn 246766054662045 14, pn 224144413592101 14, pn 236570465099245 14, pn 256996014850562 14, pn 279789150975588 14, pn 265288714690626 14, pn 205539887033517 14, pn 179700223612738 14, pn 178257449823275 14, pn 230092271225776 14, pn 307609931233833 14, pn 349287166624032 14, pn 311141515628867 14, pn 259955677117142 14, pn 247591379120906 14, pn 272667468091998 14, pn 796 3, pn 54545 1, pp 75 0, pn 1379 3]⟩

def row120 : Row := ⟨"TGO", "Togo", [pp 8278737 0, pp 53 2, pp 87 1, pp 316 1, pp 0 0, pp 12 3, pp 43447 0, pp 20418 0, pp 6447 0, pp 30534 3, pp 7568185 0, pp 474618 0, pp 68485 0, pp 22 4, pp 9 4, pp 0 0, pp 46 4, pp 2 4, pp 9 4, pn 2277279285021709 9, pn 163565340601612 9, pn 215186238082234 9, nn 2097564019870034 16, nn 6246284540877705 16, nn 6466853588549459 16, nn 6784799321410065 16, nn 6581836578915394 16, nn 6083096002659589 16, nn 4025954096503368 16, nn 3156465763463061 16, nn 2527103656131534 16, nn 485061667752381 16, pn 368191970405673 16, nn 636600996115561 15, nn 689254741845525 15, nn 693031387602504 15, nn 6655026621650789 16, nn 619691909413003 15, nn 576292596679512 15, nn 5467702513317829 16, nn 531169213822539 15, nn 167609651070902 15, pn 2485348157 10, pp 0 0, pp 0 0, pp 0 0, pn 1465184291 12, pn 1465184291 12, pn 1465184291 12, pn 1465184291 12, pp 0 0, pn 2485348157 10, pn 2485348157 10, pn 2485348157 10, pn 773072833333333 9, pn 70197825 2, pn 6308836666666659 10, pn 559789083333333 9, pn 4899445 1, pn 4200999166666661 10, pn 35025533333333296 11, pn 28041075 2, pn 209316166666667 9, pn 35025533333333296 11, pn 4911945 1, pn 6321336666666671 10, pn 702753149790014 16, pp 0 0, pp 0 0, pn 99009900990099 15, pn 17464103009754 16, pp 0 0, pp 0 0, pp 0 0, pp 0 0, pp 0 0, pn 281943268423353 16, pn 613095205815219 19, pp 282 1, pp 1 0, pn 18200600159136 16, pn 4533148078681851 20, pn 4533148078681851 20, pn 4533148078681851 20, pn 5 4, pn 225563619622158 14, pn 224007972500148 14, pn 148606453827951 14, pn 114355202888872 14, pn 160951789253174 14, pn 521966083355326 14, pn 743437685745195 14, pn 747972711789109 14, pn 664280356141849 14, pn 646647044242444 14, pn 65771874112729 13, pn 615087329436925 14, pn 534977880528962 14, pn 571758638142947 14, pn 633725490408862 14, pn 710580962719998 14, pn 827223961234327 14, pn 854518932298853 14, pn 820843801067746 14, pn 816608141169708 14, pn 810982541964485 14, pn 755868200634493 14, pn 727441488563201 14, pn 653695979028396 14, pn 628534685511087 14, pn 589070949208488 14, pn 577589039896562 14, pn 581788069739559 14, pn 633828785774011 14, pn 683619681625962 14, pn 650726280711991 14, pn 608688789791755 14, pn 567459044912239 14, pn 561208414528042 14, pn 521499840213542 14, pn 527972658978082 14, pn 487388133502636 14, pn 483010833322668 14, pn 4676713228069 12, pn 460844068580014 14, pn 487837613254963 14, pn 531162341657829 14, pn 516884731434986 14, pn 497902067622137 14, pn 452361893257602 14, pn 407266102333234 14, pn 409386816082206 14, pn 443703262940789 14, pn 456681029282089 14, pn 453750216969654 14, pn 41069449815675 13, pn 347683974395228 14, pn 355036326450263 14, pn 3869939531218 12, pn 403586377822991 14, pn 401259844107923 14, pn 341374567255376 14, pn 306303937445421 14, pn 339662756674879 14, pn 414268590561571 14, pn 437778663119636 14, pn 426460470008121 14, pn 343931557743281 14, pn 284893096423649 14, pn 290026347343356 14, pn 344407639823311 14, pn 381088516403793 14, pn 37920574097581 13, pn 34168359641049 13, pn 297148329944834 14, pn 311217239211973 14, pn 339382155452187 14, pn 420949780539445 14, pn 405406533156939 14, pn 318779014623005 14, pn 229910459740717 14, pn 2373108082246 12, pn 31085020745919 13, pn 407807608795591 14, pn 405775190382202 14, pn 345063849689118 14, pn 300087762760537 14, pn 308478371667017 14, pn 369597783750681 14, pn 416213884386239 14, pn 35673784418279 13, pn 261088270593267 14, pn 20841204638453 13, pn 217349193744004 14, pn 327051500737282 14, pn 430934827503372 14, pn 423438857629996 14, pn 370150089910681 14, pn 342785217891785 14, pn 346413286727789 14, pn 388217941446816 14, pn 415270708063935 14, pn 349864476608232 14, pn 283136535533392 14, pn 292162278737474 14, pn 285190579039329 14, pn 378904646399308 14, pn 480046378209707 14, pn 476505625357688 14, pn 437905938224189 14, pn 388326244550295 14, pn 403945554491463 14, pn 427047613698725 14, pn 457654226002208 14, pn 423444946558973 14, pn 30901188433574 13, pn 274798000248855 14, pn 280908906252639 14, pn 393828629819519 14, pn 552466284019736 14, pn 638494859265154 14, pn 562808407419351 14, pn 455094432883848 14, pn 418448007315187 14, pn 454716994967059 14, pn 796 3, pn 1781 1, pn 196 1, pn 79999995 8]⟩

def row121 : Row := ⟨"TTO", "Trinidad and Tobago", [pp 1399491 0, pp 225 1, pp 37 1, pp 139 1, pn 937805135566396 16, pp 3 3, pp 63574 0, pp 1749 0, pp 966 0, pp 37552 3, pp 50714 0, pp 47343 0, pp 7244 0, pp 1 4, pp 0 0, pp 0 0, pp 13 4, pp 1 4, pp 3 4, pn 258482330303556 10, pn 3317658058837549 12, pn 18119590268531297 13, np 1 0, np 1 0, np 1 0, np 1 0, np 1 0, np 1 0, np 1 0, np 1 0, np 1 0, np 1 0, np 1 0, np 1 0, np 1 0, np 1 0, np 1 0, np 1 0, np 1 0, np 1 0, np 1 0, np 1 0, pn 25 2, pn 8397016012 11, pn 8397016012 11, pn 8397016012 11, pp 0 0, pp 0 0, pp 0 0, pp 0 0, pp 0 0, pn 1660298399 10, pn 1660298399 10, pn 1660298399 10, pn 32501375 3, pn 3250575 2, pn 32510125 3, pn 325145 1, pp 31942 0, pn 313695 1, pp 30797 0, pn 302245 1, pp 29652 0, pn 30220125 3, pn 3078825 2, pn 31933250000000004 12, pn 16139044072005 15, pp 0 0, pp 0 0, pn 49261083743842 16, pn 17464103009754 16, pn 35280085778743 14, pn 162527721212932 15, pn 958957860369831 16, pp 0 0, pp 0 0, pp 0 0, pp 0 0, pp 47 0, pp 1 0, pn 303343335985607 19, pn 2930356436576 16, pn 2930356436576 16, pn 2930356436576 16, pn 5 4, pn 175435425176481 14, pn 174687909534561 14, pn 132526710333623 14, pn 10894157867869 13, pn 128551540746042 14, pn 307586679183569 14, pn 411949723149241 14, pn 413001697107147 14, pn 373151259279135 14, pn 364494469935826 14, pn 367627345316203 14, pn 339438837233562 14, pn 296932453030631 14, pn 317154040234602 14, pn 351852666556997 14, pn 393109760974266 14, pn 452235855792299 14, pn 461793755125513 14, pn 441603255458607 14, pn 439978921580841 14, pn 438220531963644 14, pn 411845183381513 14, pn 395832540327996 14, pn 354770612592589 14, pn 341803660501108 14, pn 321197570317955 14, pn 316748399344889 14, pn 319474156198058 14, pn 346213013606221 14, pn 367188893855819 14, pn 349188069322977 14, pn 327363154790049 14, pn 308501789801726 14, pn 308379775952604 14, pn 287518849303107 14, pn 290088447251308 14, pn 269181648948018 14, pn 26680129851077 13, pn 259031644491008 14, pn 256088426967214 14, pn 269627574299937 14, pn 289092995161537 14, pn 280097323272331 14, pn 269837585523674 14, pn 249126191151516 14, pn 229206925463001 14, pn 23079073150992 13, pn 248857075959849 14, pn 255334859813408 14, pn 254146098040422 14, pn 232682190444455 14, pn 200538842205611 14, pn 20412851903952 13, pn 217108941741431 14, pn 221572766356145 14, pn 219718973936091 14, pn 192358462437988 14, pn 177795081819962 14, pn 196707082953172 14, pn 235094953689013 14, pn 248289211470693 14, pn 244611467822232 14, pn 203589403144879 14, pn 171552813720964 14, pn 171573129831579 14, pn 195742945535128 14, pn 211076216813198 14, pn 209764242946365 14, pn 193525287729021 14, pn 174835234696924 14, pn 184200138375307 14, pn 198728599785949 14, pn 242239712924235 14, pn 237794656833356 14, pn 192975688145191 14, pn 145044931027268 14, pn 144724928633821 14, pn 178901634680745 14, pn 225286382340578 14, pn 224369136180392 14, pn 195833706936713 14, pn 177174200828644 14, pn 183793335843467 14, pn 216031001800275 14, pn 243040512459709 14, pn 217367424274253 14, pn 16820003650444 13, pn 136242151907685 14, pn 137244104560406 14, pn 189544875656872 14, pn 239949654610283 14, pn 234797576473278 14, pn 21157738842697 13, pn 200284549480744 14, pn 205274380434133 14, pn 22941331015885 13, pn 249820951924197 14, pn 220583839959753 14, pn 184653273756604 14, pn 184625357144848 14, pn 175677871255755 14, pn 220391522300563 14, pn 269163164429181 14, pn 264123847045561 14, pn 246766054662045 14, pn 224144413592101 14, pn 236570465099245 14, pn 256996014850562 14, pn 279789150975588 14, pn 265288714690626 14, pn 205539887033517 14, pn 179700223612738 14, pn 178257449823275 14, pn 230092271225776 14, pn 307609931233833 14, pn 349287166624032 14, pn 311141515628867 14, pn 259955677117142 14, pn 247591379120906 14, pn 272667468091998 14, pn 796 3, pn 23640001 5, pn 552 1, pn 15651 4]⟩

def row122 : Row := ⟨"TUN", "Tunisia", [pp 11818618 0, pp 2449 1, pp 42 2, pp 1413 1, pn 190100939007232 15, pp 1407 3, pp 144 3, pp 125 0, pp 416 2, pp 10872 4, pp 7479498 0, pp 1233329 0, pp 43274 1, pp 2 5, pp 8 4, pp 0 0, pp 29 5, pp 1 5, pp 55 4, pn 2885812641222809 9, pn 4222346475979079 10, pn 2966930456209163 10, nn 648 3, pn 166 3, pn 166 3, pn 3229999999999999 16, pn 6216960456210123 16, pn 5837682170809539 16, pn 238573061101841 16, nn 292343311678481 15, nn 3697494986222079 16, nn 341008082689252 15, nn 560248059035849 15, nn 2343958750099229 16, nn 911787994967025 15, nn 9621526116929472 16, nn 9816968514560972 16, nn 991124566327776 15, nn 995682866546372 15, nn 87170484239647 14, nn 92836181853652 14, nn 8920493335358399 16, pp 0 0, pp 0 0, pp 0 0, pp 0 0, pn 2111079637 12, pn 2111079637 12, pn 25 2, pn 25 2, pn 2478889204 10, pn 2478889204 10, pp 0 0, pp 0 0, pn 172828241666667 8, pn 161972816666667 8, pn 151117391666667 8, pn 140261966666667 8, pn 129681541666667 8, pn 119101116666667 8, pn 140811966666667 8, pn 162522816666667 8, pn 183958666666667 8, pn 205394516666667 8, pn 194539091666667 8, pn 183683666666667 8, pn 459530937453852 16, pp 0 0, pp 0 0, pn 289398490731922 16, pn 17464103009754 16, pn 238247831677149 15, pn 100191453683602 15, pn 573651433435299 16, pp 0 0, pp 0 0, pn 229130188720077 15, pn 498251371623 15, pp 4993 0, pp 1 0, pn 32225388863322 16, pn 9292953561297 16, pn 9292953561297 16, pn 9292953561297 16, pn 9292953561297 16, pn 125307230730804 14, pn 125367846568973 14, pn 116446966839296 14, pn 103527954468509 14, pn 961512922389098 15, pn 932072750118132 15, pn 804617605532861 15, pn 780306824251848 15, pn 820221624164208 15, pn 823418956292081 15, pn 775359495051149 15, pn 637903450301987 15, pn 588870255322997 15, pn 625494423262561 15, pn 699798427051329 15, pn 756385592285336 15, pn 77247750350272 14, pn 690685779521733 15, pn 623627098494677 15, pn 633497019919744 15, pn 654585219628031 15, pn 678221661285326 15, pn 642235920927908 15, pn 558452461567825 15, pn 550726354911298 15, pn 533241914274222 15, pn 559077587932166 15, pn 571602426565577 15, pn 585972414384307 15, pn 507581060856766 15, pn 476498579339626 15, pn 460375197883433 15, pn 495445346912131 15, pn 555511373771659 15, pn 535378583926726 15, pn 522042355245346 15, pn 509751643933992 15, pn 505917636988734 15, pn 503919661751173 15, pn 513327853544145 15, pn 514175353449103 15, pn 470236486652447 15, pn 433099151096754 15, pn 417731034252111 15, pn 4589048904543 13, pn 511477485927674 15, pn 521946469376341 15, pn 540108889789081 15, pn 539886903447276 15, pn 545419791111906 15, pn 546698827321603 15, pn 533937100159938 15, pn 532207116287776 15, pn 472239303610618 15, pn 395591548892984 15, pn 381781037642599 15, pn 433423576206002 15, pn 492862261945019 15, pn 537514092314661 15, pn 559213168164554 15, pn 587997598217513 15, pn 627624656363427 15, pn 632472485464784 15, pn 582125310182791 15, pn 531199123198026 15, pn 470782512469459 15, pn 410639172226025 15, pn 403227449169194 15, pn 453669790475513 15, pn 525221394490141 15, pn 571830375386405 15, pn 580750441197102 15, pn 635296453090261 15, pn 701827805097738 15, pn 671723616673777 15, pn 60179402313819 14, pn 521390490430414 15, pn 469530619023012 15, pn 427651558855648 15, pn 42963081978582 14, pn 46603564184307 14, pn 542606388967509 15, pn 59108300019918 14, pn 624642198498689 15, pn 69867140533179 14, pn 779970043657163 15, pn 753118024156137 15, pn 640722574308407 15, pn 571390153768085 15, pn 520382505764622 15, pn 489644817171928 15, pn 461562953165597 15, pn 530046869432579 15, pn 577838810697034 15, pn 641354741404765 15, pn 706086788708845 15, pn 843711957844599 15, pn 913032033112738 15, pn 861700119798149 15, pn 770884355522217 15, pn 661651634721807 15, pn 618783982018184 15, pn 582799506486546 15, pn 517420687334327 15, pn 556261710999006 15, pn 599625826339062 15, pn 691953757070279 15, pn 869444160023993 15, pn 101924075948968 14, pn 107132482822279 14, pn 102067889731294 14, pn 846024469766208 15, pn 756059933939122 15, pn 66355912632032 14, pn 627535784479301 15, pn 600794739829099 15, pn 594746238383821 15, pn 648169213504355 15, pn 767347509266252 15, pn 906179412169381 15, pn 796 3, pn 12778 1, pn 507 1, pn 13580999 7]⟩

def row123 : Row := ⟨"TUR", "Turkiye", [pp 84339067 0, pp 11198 1, pp 1933 1, pp 6393 1, pn 4832707466610941 14, pp 2296 4, pp 2138451 0, pp 0 0, pp 961519 0, pp 386131 3, pp 54113616 0, pp 18382694 0, pp 6309235 0, pp 335 4, pp 67 4, pp 2 5, pp 1777 4, pp 102 4, pp 429 4, pn 4461749021937816 8, pn 24597856173577644 10, pn 5673398740365081 9, nn 99117758542793 14, nn 961989219854866 15, nn 961989219854866 15, nn 831256207576903 15, nn 4918830620993987 16, nn 2995790028790204 16, nn 4067050994968385 16, nn 4277979391891495 16, nn 3631100534917355 16, nn 2967047566054196 16, nn 192537681380472 16, nn 8772600420404131 16, nn 9546835478907468 16, nn 987076573431988 15, nn 98032863474278 14, nn 957778782872513 15, nn 9863637779656008 16, nn 9795652306589 13, nn 945771350992121 15, nn 9227580155853968 16, pn 2116081657 11, pp 0 0, pp 0 0, pp 0 0, pp 0 0, pn 1802715474 10, pn 1802715474 10, pn 1802715474 10, pn 2288391834 10, pn 6972845262 11, pn 6972845262 11, pn 6972845262 11, pn 17640378666666698 9, pn 152903590833333 7, pn 129403395 1, pn 105903199166667 7, pn 824030033333333 8, pn 1097398075 2, pn 137076611666667 7, pn 150717228333333 7, pp 19175022 0, pn 187913611666667 7, pn 184077003333333 7, pn 180240395 1, pn 746783160359156 16, pn 18214215006929 16, pp 0 0, pn 431322021218009 16, pn 17464103009754 16, pn 354428455932904 15, pn 16349927520973 14, pn 965149329004045 16, pp 0 0, pp 0 0, pn 61820013915494 13, pn 134429718315205 16, pp 23099 0, pp 1 0, pn 149083568466629 16, pn 58283332440195 16, pn 58283332440195 16, pn 58283332440195 16, pn 58283332440195 16, pn 125307230730804 14, pn 125367846568973 14, pn 116446966839296 14, pn 103527954468509 14, pn 961512922389098 15, pn 932072750118132 15, pn 804617605532861 15, pn 780306824251848 15, pn 820221624164208 15, pn 823418956292081 15, pn 775359495051149 15, pn 637903450301987 15, pn 588870255322997 15, pn 625494423262561 15, pn 699798427051329 15, pn 756385592285336 15, pn 77247750350272 14, pn 690685779521733 15, pn 623627098494677 15, pn 633497019919744 15, pn 654585219628031 15, pn 678221661285326 15, pn 642235920927908 15, pn 558452461567825 15, pn 550726354911298 15, pn 533241914274222 15, pn 559077587932166 15, pn 571602426565577 15, pn 585972414384307 15, pn 507581060856766 15, pn 476498579339626 15, pn 460375197883433 15, pn 495445346912131 15, pn 555511373771659 15, pn 535378583926726 15, pn 522042355245346 15, pn 509751643933992 15, pn 505917636988734 15, pn 503919661751173 15, pn 513327853544145 15, pn 514175353449103 15, pn 470236486652447 15, pn 433099151096754 15, pn 417731034252111 15, pn 4589048904543 13, pn 511477485927674 15, pn 521946469376341 15, pn 540108889789081 15, pn 539886903447276 15, pn 545419791111906 15, pn 546698827321603 15, pn 533937100159938 15, pn 532207116287776 15, pn 472239303610618 15, pn 395591548892984 15, pn 381781037642599 15, pn 433423576206002 15, pn 492862261945019 15, pn 537514092314661 15, pn 559213168164554 15, pn 587997598217513 15, pn 627624656363427 15, pn 632472485464784 15, pn 582125310182791 15, pn 531199123198026 15, pn 470782512469459 15, pn 410639172226025 15, pn 403227449169194 15, pn 453669790475513 15, pn 525221394490141 15, pn 571830375386405 15, pn 580750441197102 15, pn 635296453090261 15, pn 701827805097738 15, pn 671723616673777 15, pn 60179402313819 14, pn 521390490430414 15, pn 469530619023012 15, pn 427651558855648 15, pn 42963081978582 14, pn 46603564184307 14, pn 542606388967509 15, pn 59108300019918 14, pn 624642198498689 15, pn 69867140533179 14, pn 779970043657163 15, pn 753118024156137 15, pn 640722574308407 15, pn 571390153768085 15, pn 520382505764622 15, pn 489644817171928 15, pn 461562953165597 15, pn 530046869432579 15, pn 577838810697034 15, pn 641354741404765 15, pn 706086788708845 15, pn 843711957844599 15, pn 913032033112738 15, pn 861700119798149 15, pn 770884355522217 15, pn 661651634721807 15, pn 618783982018184 15, pn 582799506486546 15, pn 517420687334327 15, pn 556261710999006 15, pn 599625826339062 15, pn 691953757070279 15, pn 869444160023993 15, pn 101924075948968 14, pn 107132482822279 14, pn 102067889731294 14, pn 846024469766208 15, pn 756059933939122 15, pn 66355912632032 14, pn 627535784479301 15, pn 600794739829099 15, pn 594746238383821 15, pn 648169213504355 15, pn 767347509266252 15, pn 906179412169381 15, pn 796 3, pn 7462 1, pn 638 1, pn 18061 4]⟩

def row124 : Row := ⟨"TKM", "Turkmenistan", [pp 6031187 0, pp 26 2, pp 38 1, pp 164 1, pn 112610297140676 13, pp 19 5, pp 2011 1, pp 214 0, pp 144416 0, pp 16989 3, pp 16305273 0, pp 2452815 0, pp 1001516 0, pp 9 4, pp 3 4, pp 1 4, pp 61 4, pp 6 4, pp 16 4, pn 14907098876688532 10, pn 37656114745831845 12, pn 19700771974154253 11, nn 9966437990482524 16, np 1 0, np 1 0, nn 9465699828915476 16, nn 6036310027600008 16, nn 3590675828592753 16, nn 3998822259502826 16, nn 3490791756640959 16, nn 1833672371853339 16, nn 513143175302259 16, nn 654181597902845 16, nn 9996997739998612 16, nn 999705718883267 15, nn 999711547333434 15, nn 999717265358012 15, nn 9997228799019712 16, nn 99745729667107 14, nn 999736815770613 15, nn 809617230628637 15, nn 9860204250097452 16, pn 1781670575 11, pn 1781670575 11, pn 1781670575 11, pn 1781670575 11, pn 2834140434 12, pn 2834140434 12, pn 2321832943 10, pn 2321832943 10, pn 2293491538 10, pn 2293491538 10, pp 0 0, pp 0 0, pn 864502083333333 9, pn 7951512916666659 10, pn 7258005 1, pn 656449708333333 9, pn 571239541666666 9, pn 486029375 3, pn 643590333333333 9, pn 801151291666667 9, pn 95571225 2, pn 111027320833333 8, pn 102206304166667 8, pn 95271225 2, pn 378250591016548 16, pp 0 0, pn 765870704717531 16, pn 48377916903813 16, pn 17464103009754 16, pn 290951976266517 15, pn 127465735882612 15, pn 739391597449653 16, pp 0 0, pp 0 0, pp 0 0, pp 0 0, pp 2 3, pp 1 0, pn 12908227063217 16, pp 0 0, pp 0 0, pp 0 0, pp 0 0, pp 0 0, pp 0 0, pp 0 0, pp 0 0, pp 0 0, pp 0 0, pp 0 0, pp 0 0, pp 0 0, pp 0 0, pp 0 0, pp 0 0, pp 0 0, pp 0 0, pp 0 0, pp 0 0, pp 0 0, pp 0 0, pp 0 0, pp 0 0, pp 0 0, pp 0 0, pp 0 0, pp 0 0, pp 0 0, pp 0 0, pp 0 0, pp 0 0, pp 0 0, pp 0 0, pp 0 0, pp 0 0, pp 0 0, pp 0 0, pp 0 0, pp 0 0, pp 0 0, pp 0 0, pp 0 0, pp 0 0, pp 0 0, pp 0 0, pp 0 0, pp 0 0, pp 0 0, pp 0 0, pp 0 0, pp 0 0, pp 0 0, pp 0 0, pp 0 0, pp 0 0, pp 0 0, pp 0 0, pp 0 0, pp 0 0, pp 0 0, pp 0 0, pp 0 0, pp 0 0, pp 0 0, pp 0 0, pp 0 0, pp 0 0, pp 0 0, pp 0 0, pp 0 0, pp 0 0, pp 0 0, pp 0 0, pp 0 0, pp 0 0, pp 0 0, pp 0 0, pp 0 0, pp 0 0, pp 0 0, pp 0 0, pp 0 0, pp 0 0, pp 0 0, pp 0 0, pp 0 0, pp 0 0, pp 0 0, pp 0 0, pp 0 0, pp 0 0, pp 0 0, pp 0 0, pp 0 0, pp 0 0, pp 0 0, pp 0 0, pp 0 0, pp 0 0, pp 0 0, pp 0 0, pp 0 0, pp 0 0, pp 0 0, pp 0 0, pp 0 0, pp 0 0, pp 0 0, pp 0 0, pp 0 0, pp 0 0, pp 0 0, pp 0 0, pp 0 0, pp 0 0, pp 0 0, pp 0 0, pp 0 0, pp 0 0, pp 0 0, pp 0 0, pp 0 0, pp 0 0, pn 796 3, pn 17855 1, pn 555 1, pn 12066 4]⟩

def row125 : Row := ⟨"UGA", "Uganda", [pp 45741 3, pp 8663 1, pp 1256 1, pp 5474 1, pn 17663660363648102 15, pp 1725 3, pp 69991 0, pp 131234 0, pp 163889 0, pp 36263 3, pp 20092443 0, pp 15560934 0, pp 4037038 0, pp 1 5, pp 4 4, pp 0 0, pp 4 5, pp 2 4, pp 7 4, pn 7966105354399899 9, pn 4703682179443599 10, pn 7828404320062592 10, nn 306110465430194 15, nn 9246726853518032 16, nn 8896876153121862 16, nn 8252453272384546 16, nn 99687882073457 14, nn 7223041091476966 16, nn 6608464685385692 16, nn 5672407492590965 16, nn 3505884470698094 16, pn 749387162009958 16, pn 536874438106795 16, nn 819726847969514 15, nn 858757024231206 15, nn 595069905694948 15, nn 532480389385956 15, nn 4685690766873929 16, nn 532648846533013 15, nn 531490314404644 15, nn 429929028908843 15, nn 2540875329797399 16, pn 2114757466 10, pp 0 0, pp 0 0, pp 0 0, pn 3703474691 11, pn 3703474691 11, pn 3852425344 11, pn 3852425344 11, pn 1489506523 12, pn 2129652531 10, pn 2114757466 10, pn 2114757466 10, pn 219853079166667 8, pp 194314 1, pn 168774920833333 8, pn 143235841666667 8, pn 1290467625 3, pn 114857683333333 8, pn 101125091666667 8, pp 873925 0, pn 623099083333333 9, pn 102038066666667 8, pn 1413097375 3, pn 180581408333333 8, pn 321855606311537 16, pp 0 0, pp 0 0, pn 604767420593794 16, pn 17464103009754 16, pp 0 0, pp 0 0, pp 0 0, pp 0 0, pp 0 0, pn 189050543871962 15, pn 4110968236724 16, pp 91 2, pp 1 0, pn 58732433137638 16, pp 0 0, pp 0 0, pp 0 0, pp 0 0, pp 0 0, pp 0 0, pp 0 0, pp 0 0, pp 0 0, pp 0 0, pp 0 0, pp 0 0, pp 0 0, pp 0 0, pp 0 0, pp 0 0, pp 0 0, pp 0 0, pp 0 0, pp 0 0, pp 0 0, pp 0 0, pp 0 0, pp 0 0, pp 0 0, pp 0 0, pp 0 0, pp 0 0, pp 0 0, pp 0 0, pp 0 0, pp 0 0, pp 0 0, pp 0 0, pp 0 0, pp 0 0, pp 0 0, pp 0 0, pp 0 0, pp 0 0, pp 0 0, pp 0 0, pp 0 0, pp 0 0, pp 0 0, pp 0 0, pp 0 0, pp 0 0, pp 0 0, pp 0 0, pp 0 0, pp 0 0, pp 0 0, pp 0 0, pp 0 0, pp 0 0, pp 0 0, pp 0 0, pp 0 0, pp 0 0, pp 0 0, pp 0 0, pp 0 0, pp 0 0, pp 0 0, pp 0 0, pp 0 0, pp 0 0, pp 0 0, pp 0 0, pp 0 0, pp 0 0, pp 0 0, pp 0 0, pp 0 0, pp 0 0, pp 0 0, pp 0 0, pp 0 0, pp 0 0, pp 0 0, pp 0 0, pp 0 0, pp 0 0, pp 0 0, pp 0 0, pp 0 0, pp 0 0, pp 0 0, pp 0 0, pp 0 0, pp 0 0, pp 0 0, pp 0 0, pp 0 0, pp 0 0, pp 0 0, pp 0 0, pp 0 0, pp 0 0, pp 0 0, pp 0 0, pp 0 0, pp 0 0, pp 0 0, pp 0 0, pp 0 0, pp 0 0, pp 0 0, pp 0 0, pp 0 0, pp 0 0, pp 0 0, pp 0 0, pp 0 0, pp 0 0, pp 0 0, pp 0 0, pp 0 0, pp 0 0, pp 0 0, pp 0 0, pp 0 0, pp 0 0, pn 796 3, pn 4387 1, pn 613 1, pn 13370999 7]⟩

end Allfed.Gen.CountryTable
