-- GENERATED on every check run by harness/translators/tr_country.py (run): rows 0..20 of the combined country table
-- REGENERATED in the scratch copy by re-running the import scripts of scripts/run_all_imports.sh.  Do not edit.
import AllfedModel.Model.CountryTable
namespace Allfed.Gen.CountryTable
open Allfed.CountryTable


def row0 : Row := ⟨"AFG", "Afghanistan", [pp 38928341 0, pp 155 1, pp 23 1, pp 98 1, pn 813889269481439 14, pp 2112 3, pp 27938 0, pp 0 0, pp 116008 0, pp 13724 3, pp 2158128 1, pp 6987358 0, pp 3447771 0, pp 35 4, pp 16 4, pp 0 0, pp 73 4, pp 7 4, pp 13 4, pn 5803280219284189 9, pn 19817548692712712 11, pn 7829907449057018 10, nn 993352542491236 15, nn 10000000000000002 16, nn 10000000000000002 16, nn 9012951307013348 16, nn 5590034051979877 16, nn 3043173217370039 16, nn 2349289047358877 16, nn 2157338053641576 16, nn 1269536462720453 16, nn 134449297269409 16, nn 310012690262141 15, nn 999974427983474 15, nn 993710166301606 15, nn 875390424400759 15, nn 808142758299311 15, nn 7740524449459429 16, nn 676082445177845 15, nn 5654044200075969 16, nn 2777418800330979 16, nn 909284639852879 16, pp 0 0, pp 0 0, pp 0 0, pp 0 0, pn 1213895707 12, pn 1213895707 12, pn 25 2, pn 25 2, pn 2487861043 10, pn 2487861043 10, pp 0 0, pp 0 0, pn 569531416666667 9, pn 5352066666666671 10, pn 50088191666666704 11, pn 46655716666666704 11, pn 43273241666666704 11, pn 398907666666667 9, pn 46755716666666704 11, pn 5362066666666671 10, pn 604356166666667 9, pn 672505666666667 9, pn 638180916666667 9, pn 603856166666667 9, pn 909419921057691 16, pn 11014039445705 16, pp 0 0, pn 314660973685432 16, pn 17464103009754 16, pp 0 0, pp 0 0, pp 0 0, pp 0 0, pp 0 0, pp 0 0, pp 0 0, pp 801 1, pp 1 0, pn 51697449388185 16, pp 0 0, pp 0 0, pp 0 0, pp 0 0, pp 0 0, pp 0 0, pp 0 0, pp 0 0, pp 0 0, pp 0 0, pp 0 0, pp 0 0, pp 0 0, pp 0 0, pp 0 0, pp 0 0, pp 0 0, pp 0 0, pp 0 0, pp 0 0, pp 0 0, pp 0 0, pp 0 0, pp 0 0, pp 0 0, pp 0 0, pp 0 0, pp 0 0, pp 0 0, pp 0 0, pp 0 0, pp 0 0, pp 0 0, pp 0 0, pp 0 0, pp 0 0, pp 0 0, pp 0 0, pp 0 0, pp 0 0, pp 0 0, pp 0 0, pp 0 0, pp 0 0, pp 0 0, pp 0 0, pp 0 0, pp 0 0, pp 0 0, pp 0 0, pp 0 0, pp 0 0, pp 0 0, pp 0 0, pp 0 0, pp 0 0, pp 0 0, pp 0 0, pp 0 0, pp 0 0, pp 0 0, pp 0 0, pp 0 0, pp 0 0, pp 0 0, pp 0 0, pp 0 0, pp 0 0, pp 0 0, pp 0 0, pp 0 0, pp 0 0, pp 0 0, pp 0 0, pp 0 0, pp 0 0, pp 0 0, pp 0 0, pp 0 0, pp 0 0, pp 0 0, pp 0 0, pp 0 0, pp 0 0, pp 0 0, pp 0 0, pp 0 0, pp 0 0, pp 0 0, pp 0 0, pp 0 0, pp 0 0, pp 0 0, pp 0 0, pp 0 0, pp 0 0, pp 0 0, pp 0 0, pp 0 0, pp 0 0, pp 0 0, pp 0 0, pp 0 0, pp 0 0, pp 0 0, pp 0 0, pp 0 0, pp 0 0, pp 0 0, pp 0 0, pp 0 0, pp 0 0, pp 0 0, pp 0 0, pp 0 0, pp 0 0, pp 0 0, pp 0 0, pp 0 0, pp 0 0, pp 0 0, pp 0 0, pp 0 0, pp 0 0, pn 796 3, pn 16190001 5, pp 0 0, pn 79999995 8]⟩

def row1 : Row := ⟨"ALB", "Albania", [pp 2837743 0, pp 211 1, pp 34 1, pp 124 1, pn 151650817055068 14, pp 1112 3, pp 12234 0, pp 9002 0, pp 3287 1, pp 7195 3, pp 2490594 0, pp 490315 0, pp 296311 0, pp 16 4, pp 2 4, pp 2 4, pp 51 4, pp 3 4, pp 6 4, pn 8733418685136682 10, pn 5670784287795337 11, pn 10024914200043364 11, nn 9898637459945132 16, nn 9537786817349811 16, nn 9537786817349811 16, nn 8430907879950673 16, nn 6634108010841778 16, nn 3316400790229576 16, nn 3689891107045496 16, nn 5284334585925076 16, nn 1110664002477215 16, nn 4985798780179601 16, pn 167311889508132 16, nn 598267839446646 15, nn 975542982879781 15, nn 780513452714424 15, nn 985538214607082 15, nn 983021908916446 15, nn 950629645424876 15, nn 993888973508952 15, nn 991448322949078 15, nn 987897336082591 15, pn 153331113 9, pn 153331113 9, pn 153331113 9, pn 153331113 9, pn 1463033868 12, pn 1463033868 12, pn 9666888704 11, pn 9666888704 11, pn 9520585317 11, pn 9520585317 11, pp 0 0, pp 0 0, pn 145901708333333 9, pn 186569333333333 9, pn 227236958333333 9, pn 267904583333333 9, pn 22033920833333305 11, pn 172773833333333 9, pn 18052158333333305 11, pn 18826933333333305 11, pn 195167083333333 9, pn 202064833333333 9, pn 153649458333333 9, pn 194317083333333 9, pn 577677404017592 16, pp 0 0, pp 0 0, pn 684081632653061 16, pn 17464103009754 16, pn 273278381611192 15, pn 118069294256516 15, pn 681802279996909 16, pp 0 0, pp 0 0, pn 817012218725345 16, pn 1776620797489 16, pp 696 0, pp 1 0, pn 4492063017999 16, pn 2930356436576 16, pn 2930356436576 16, pn 2930356436576 16, pn 5 4, pn 125307230730804 14, pn 125367846568973 14, pn 116446966839296 14, pn 103527954468509 14, pn 961512922389098 15, pn 932072750118132 15, pn 804617605532861 15, pn 780306824251848 15, pn 820221624164208 15, pn 823418956292081 15, pn 775359495051149 15, pn 637903450301987 15, pn 588870255322997 15, pn 625494423262561 15, pn 699798427051329 15, pn 756385592285336 15, pn 77247750350272 14, pn 690685779521733 15, pn 623627098494677 15, pn 633497019919744 15, pn 654585219628031 15, pn 678221661285326 15, pn 642235920927908 15, pn 558452461567825 15, pn 550726354911298 15, pn 533241914274222 15, pn 559077587932166 15, pn 571602426565577 15, pn 585972414384307 15, pn 507581060856766 15, pn 476498579339626 15, pn 460375197883433 15, pn 495445346912131 15, pn 555511373771659 15, pn 535378583926726 15, pn 522042355245346 15, pn 509751643933992 15, pn 505917636988734 15, pn 503919661751173 15, pn 513327853544145 15, pn 514175353449103 15, pn 470236486652447 15, pn 433099151096754 15, pn 417731034252111 15, pn 4589048904543 13, pn 511477485927674 15, pn 521946469376341 15, pn 540108889789081 15, pn 539886903447276 15, pn 545419791111906 15, pn 546698827321603 15, pn 533937100159938 15, pn 532207116287776 15, pn 472239303610618 15, pn 395591548892984 15, pn 381781037642599 15, pn 433423576206002 15, pn 492862261945019 15, pn 537514092314661 15, pn 559213168164554 15, pn 587997598217513 15, pn 627624656363427 15, pn 632472485464784 15, pn 582125310182791 15, pn 531199123198026 15, pn 470782512469459 15, pn 410639172226025 15, pn 403227449169194 15, pn 453669790475513 15, pn 525221394490141 15, pn 571830375386405 15, pn 580750441197102 15, pn 635296453090261 15, pn 701827805097738 15, pn 671723616673777 15, pn 60179402313819 14, pn 521390490430414 15, pn 469530619023012 15, pn 427651558855648 15, pn 42963081978582 14, pn 46603564184307 14, pn 542606388967509 15, pn 59108300019918 14, pn 624642198498689 15, pn 69867140533179 14, pn 779970043657163 15, pn 753118024156137 15, pn 640722574308407 15, pn 571390153768085 15, pn 520382505764622 15, pn 489644817171928 15, pn 461562953165597 15, pn 530046869432579 15, pn 577838810697034 15, pn 641354741404765 15, pn 706086788708845 15, pn 843711957844599 15, pn 913032033112738 15, pn 861700119798149 15, pn 770884355522217 15, pn 661651634721807 15, pn 618783982018184 15, pn 582799506486546 15, pn 517420687334327 15, pn 556261710999006 15, pn 599625826339062 15, pn 691953757070279 15, pn 869444160023993 15, pn 101924075948968 14, pn 107132482822279 14, pn 102067889731294 14, pn 846024469766208 15, pn 756059933939122 15, pn 66355912632032 14, pn 627535784479301 15, pn 600794739829099 15, pn 594746238383821 15, pn 648169213504355 15, pn 767347509266252 15, pn 906179412169381 15, pn 796 3, pn 4894 1, pn 495 1, pn 11611 4]⟩

def row2 : Row := ⟨"DZA", "Algeria", [pp 43851043 0, pp 1896 1, pp 315 1, pp 1128 1, pn 190298060112093 14, pp 3343 3, pp 260269 0, pp 105 0, pp 144434 0, pp 139195 3, pp 35818388 0, pp 2324579 0, pp 908409 0, pp 159 4, pp 19 4, pp 13 4, pp 552 4, pp 24 4, pp 78 4, pn 6527737906023977 9, pn 35797087259952404 11, pn 7832884912491359 10, nn 6133022161086599 16, pn 1201245884811172 16, pn 1201245884811172 16, pn 6746911777826515 16, pn 1524507439645936 15, pn 25738719455088988 16, pn 15441385127685203 16, pn 5408161698601526 16, nn 755791958958725 16, nn 2931521657685975 16, nn 417858640056285 16, nn 758012462865281 15, nn 916796659243818 15, nn 8496427605675321 16, nn 970951239777765 15, nn 896174433771935 15, nn 9597161622470348 16, nn 666871187926085 15, nn 694041456379455 15, nn 640312763278694 15, pp 0 0, pp 0 0, pp 0 0, pp 0 0, pp 0 0, pp 0 0, pn 25 2, pn 25 2, pn 25 2, pn 25 2, pp 0 0, pp 0 0, pn 706368604166666 8, pn 679062683333333 8, pn 6517567625 3, pn 624450841666666 8, pn 597144920833333 8, pp 569839 1, pn 624450841666667 8, pn 679062683333333 8, pn 733674525 2, pn 788286366666667 8, pn 760980445833333 8, pn 733674525 2, pn 949473634294385 16, pp 0 0, pp 0 0, pn 733315491107272 16, pn 17464103009754 16, pn 248547875747452 15, pn 105348409681612 15, pn 604659124917439 16, pp 0 0, pp 0 0, pn 169981660452917 14, pn 36963088951536 16, pp 8517 0, pp 1 0, pn 54969684948711 16, pn 8078717468793 16, pn 8078717468793 16, pn 8078717468793 16, pn 8078717468793 16, pn 125307230730804 14, pn 125367846568973 14, pn 116446966839296 14, pn 103527954468509 14, pn 961512922389098 15, pn 932072750118132 15, pn 804617605532861 15, pn 780306824251848 15, pn 820221624164208 15, pn 823418956292081 15, pn 775359495051149 15, pn 637903450301987 15, pn 588870255322997 15, pn 625494423262561 15, pn 699798427051329 15, pn 756385592285336 15, pn 77247750350272 14, pn 690685779521733 15, pn 623627098494677 15, pn 633497019919744 15, pn 654585219628031 15, pn 678221661285326 15, pn 642235920927908 15, pn 558452461567825 15, pn 550726354911298 15, pn 533241914274222 15, pn 559077587932166 15, pn 571602426565577 15, pn 585972414384307 15, pn 507581060856766 15, pn 476498579339626 15, pn 460375197883433 15, pn 495445346912131 15, pn 555511373771659 15, pn 535378583926726 15, pn 522042355245346 15, pn 509751643933992 15, pn 505917636988734 15, pn 503919661751173 15, pn 513327853544145 15, pn 514175353449103 15, pn 470236486652447 15, pn 433099151096754 15, pn 417731034252111 15, pn 4589048904543 13, pn 511477485927674 15, pn 521946469376341 15, pn 540108889789081 15, pn 539886903447276 15, pn 545419791111906 15, pn 546698827321603 15, pn 533937100159938 15, pn 532207116287776 15, pn 472239303610618 15, pn 395591548892984 15, pn 381781037642599 15, pn 433423576206002 15, pn 492862261945019 15, pn 537514092314661 15, pn 559213168164554 15, pn 587997598217513 15, pn 627624656363427 15, pn 632472485464784 15, pn 582125310182791 15, pn 531199123198026 15, pn 470782512469459 15, pn 410639172226025 15, pn 403227449169194 15, pn 453669790475513 15, pn 525221394490141 15, pn 571830375386405 15, pn 580750441197102 15, pn 635296453090261 15, pn 701827805097738 15, pn 671723616673777 15, pn 60179402313819 14, pn 521390490430414 15, pn 469530619023012 15, pn 427651558855648 15, pn 42963081978582 14, pn 46603564184307 14, pn 542606388967509 15, pn 59108300019918 14, pn 624642198498689 15, pn 69867140533179 14, pn 779970043657163 15, pn 753118024156137 15, pn 640722574308407 15, pn 571390153768085 15, pn 520382505764622 15, pn 489644817171928 15, pn 461562953165597 15, pn 530046869432579 15, pn 577838810697034 15, pn 641354741404765 15, pn 706086788708845 15, pn 843711957844599 15, pn 913032033112738 15, pn 861700119798149 15, pn 770884355522217 15, pn 661651634721807 15, pn 618783982018184 15, pn 582799506486546 15, pn 517420687334327 15, pn 556261710999006 15, pn 599625826339062 15, pn 691953757070279 15, pn 869444160023993 15, pn 101924075948968 14, pn 107132482822279 14, pn 102067889731294 14, pn 846024469766208 15, pn 756059933939122 15, pn 66355912632032 14, pn 627535784479301 15, pn 600794739829099 15, pn 594746238383821 15, pn 648169213504355 15, pn 767347509266252 15, pn 906179412169381 15, pn 796 3, pn 13990001 5, pn 382 1, pp 1 0]⟩

def row3 : Row := ⟨"AGO", "Angola", [pp 32866268 0, pp 9918 1, pp 1751 1, pp 566 2, pn 844973303739713 14, pp 218 3, pp 52216 0, pp 149772 0, pp 104876 0, pp 47306 3, pp 9624215 0, pp 5125488 0, pp 440852 0, pp 22 4, pp 2 4, pp 0 0, pp 114 4, pp 5 4, pp 11 4, pn 6501002997204037 9, pn 2650943832679019 10, pn 50982150467268407 11, nn 842341850903969 16, nn 6996306652360071 16, nn 9649142875786152 16, nn 9826703458538316 16, nn 984978997622947 15, nn 9429959335498864 16, nn 8408279224807259 16, nn 7154367960820825 16, nn 5371888165068853 16, nn 4355672712530671 16, nn 491829464383807 16, nn 4350672499878629 16, nn 622540105444891 15, nn 724900133979946 15, nn 754306123102328 15, nn 771773383871695 15, nn 8004003781252359 16, nn 7722087039461459 16, nn 6013329647485179 16, nn 526763319349372 15, pp 0 0, pp 0 0, pp 0 0, pp 0 0, pn 2496587539 10, pn 2496587539 10, pn 25 2, pn 25 2, pn 3412460772 13, pn 3412460772 13, pp 0 0, pp 0 0, pn 134177145833333 8, pp 1171043 0, pn 100031454166667 8, pn 8295860833333329 10, pn 1170343875 3, pn 151110166666667 8, pn 185255858333333 8, pn 21940155 1, pn 202398616666667 8, pn 185395683333333 8, pn 1683228375 3, pn 151249991666667 8, pn 11112923283929 14, pn 13609145345672 16, pp 0 0, pn 645275035260931 16, pn 17464103009754 16, pn 156861037182486 15, pn 621196052261247 16, pn 349350831659145 16, pp 0 0, pp 0 0, pn 770553275575386 15, pn 16755942488795 16, pp 5215 0, pp 1 0, pn 33658202067339 16, pn 12951851653376 16, pn 12951851653376 16, pn 12951851653376 16, pn 12951851653376 16, pn 104462928928399 13, pn 107353565103232 13, pn 103932608079095 13, pn 100638214829153 13, pn 982932004629659 14, pn 114634503153017 13, pn 120526954443097 13, pn 117953723063019 13, pn 112609105076942 13, pn 108188162608913 13, pn 108923969502021 13, pn 106651249690074 13, pn 101094295235941 13, pn 106044455826692 13, pn 109671213470669 13, pn 112207097480749 13, pn 117010408027705 13, pn 112696083941088 13, pn 109466330865936 13, pn 108948534875927 13, pn 111131410401486 13, pn 105757769033842 13, pn 101486538753365 13, pn 926620088269116 14, pn 950795107489292 14, pn 944841786603207 14, pn 916579621268551 14, pn 939518053875552 14, pn 930831360797472 14, pn 951656216000671 14, pn 878261004294571 14, pn 842637110619779 14, pn 834535387647427 14, pn 811469814842215 14, pn 777873547403519 14, pn 799740831814672 14, pn 768162271492863 14, pn 775535678940707 14, pn 78456136695809 13, pn 788234241479958 14, pn 790781078607326 14, pn 796992828403785 14, pn 782723808395923 14, pn 73534558997615 13, pn 717735916257441 14, pn 709751757661668 14, pn 706669404843699 14, pn 707586049124551 14, pn 738572226635145 14, pn 752309127446057 14, pn 720838496609505 14, pn 655027553428903 14, pn 655448253473075 14, pn 645888118921901 14, pn 648965517527458 14, pn 64968067065901 13, pn 619850339649028 14, pn 604824136772273 14, pn 620631693653891 14, pn 689453906291949 14, pn 70713105533393 13, pn 724203367529441 14, pn 674423792822874 14, pn 605796302054787 14, pn 572105131885089 14, pn 610616217783801 14, pn 63466366735931 13, pn 617758778533267 14, pn 576987213429858 14, pn 560349207201704 14, pn 570229446048452 14, pn 618772250294256 14, pn 693159124987793 14, pn 674423743185867 14, pn 600210654335467 14, pn 512814169916847 14, pn 502593930465891 14, pn 534594022484031 14, pn 616879271037409 14, pn 639560287210772 14, pn 61202969661372 13, pn 582416971345373 14, pn 581482119544764 14, pn 649798348780194 14, pn 70734729062574 13, pn 671505722565057 14, pn 615883871482525 14, pn 559425102865466 14, pn 580431582857677 14, pn 666395616128984 14, pn 740532622296824 14, pn 762025318598269 14, pn 740149605611624 14, pn 731408057637338 14, pn 751655107975059 14, pn 813141637822371 14, pn 842689570286338 14, pn 808231205312287 14, pn 772271234389035 14, pn 766848468409568 14, pn 763426272878731 14, pn 828948314457289 14, pn 887088450069435 14, pn 908617933429853 14, pn 8982552869375 12, pn 898784203220411 14, pn 914822261669797 14, pn 969679902785242 14, pn 104383691960851 13, pn 104894561200081 13, pn 983465839803647 14, pn 925178884892611 14, pn 889368814313954 14, pn 930558460937762 14, pn 102161333252708 13, pn 106828489858603 13, pn 104031667734145 13, pn 100547590738195 13, pn 101101242926437 13, pn 108567151114467 13, pn 796 3, pn 4976 1, pn 674 1, pn 9 1]⟩

def row4 : Row := ⟨"ARG", "Argentina", [pp 45376763 0, pp 13116 1, pp 1872 1, pp 8103 1, pn 751793502677417 14, pp 1034 4, pp 2219238 0, pp 655382 0, pp 3168472 0, pp 125426 3, pp 24644554 0, pp 57157053 0, pp 1643664 0, pp 1007 4, pp 314 4, pp 29 4, pp 52 6, pp 233 4, pp 1917 4, pn 1241256130398034 7, pn 13331843744063 6, pn 28453376243561324 9, nn 633832677030085 16, nn 7745789467370527 16, nn 8294919507823331 16, nn 8479519313244803 16, nn 7882306716649359 16, nn 8150946512164797 16, nn 6864361043931843 16, nn 5840163904960017 16, nn 3410866491645519 16, nn 754966144259464 16, nn 403934248146747 16, nn 470521936853506 15, nn 75444558655479 14, nn 76378285290795 14, nn 83310342583807 14, nn 8274851430685151 16, nn 8482966081865579 16, nn 817029278452585 15, nn 746500138419369 15, nn 6505487459830129 16, pn 1698745073 10, pn 3747429358 11, pn 1114670277 10, pn 7574032836 11, pn 8012549269 11, pn 8012549269 11, pn 6132758527 12, pn 4385164339 12, pp 0 0, pn 1324002137 10, pn 1324002137 10, pn 1698745073 10, pp 81688643 0, pp 76506818 0, pn 7968577425 2, pn 788278055 1, pn 7846533675 2, pp 78102868 0, pp 69379618 0, pn 6045889925 2, pn 510426805 1, pn 5658697425 2, pn 6636566175 2, pn 7614434925 2, pn 266172702453255 16, pn 18365017124137 16, pn 509708737864078 16, pn 95171417944734 16, pn 17464103009754 16, pn 334815126514034 15, pn 151964470260602 15, pn 892019088773174 16, pp 532 3, pn 35115942213997 16, pn 216921525533684 14, pn 47170321918496 16, pp 33701 0, pp 1 0, pn 217510080128744 16, pn 40385492436685 16, pn 40385492436685 16, pn 40385492436685 16, pn 40385492436685 16, pn 125307230730804 14, pn 125367846568973 14, pn 116446966839296 14, pn 103527954468509 14, pn 961512922389098 15, pn 932072750118132 15, pn 804617605532861 15, pn 780306824251848 15, pn 820221624164208 15, pn 823418956292081 15, pn 775359495051149 15, pn 637903450301987 15, pn 588870255322997 15, pn 625494423262561 15, pn 699798427051329 15, pn 756385592285336 15, pn 77247750350272 14, pn 690685779521733 15, pn 623627098494677 15, pn 633497019919744 15, pn 654585219628031 15, pn 678221661285326 15, pn 642235920927908 15, pn 558452461567825 15, pn 550726354911298 15, pn 533241914274222 15, pn 559077587932166 15, pn 571602426565577 15, pn 585972414384307 15, pn 507581060856766 15, pn 476498579339626 15, pn 460375197883433 15, pn 495445346912131 15, pn 555511373771659 15, pn 535378583926726 15, pn 522042355245346 15, pn 509751643933992 15, pn 505917636988734 15, pn 503919661751173 15, pn 513327853544145 15, pn 514175353449103 15, pn 470236486652447 15, pn 433099151096754 15, pn 417731034252111 15, pn 4589048904543 13, pn 511477485927674 15, pn 521946469376341 15, pn 540108889789081 15, pn 539886903447276 15, pn 545419791111906 15, pn 546698827321603 15, pn 533937100159938 15, pn 532207116287776 15, pn 472239303610618 15, pn 395591548892984 15, pn 381781037642599 15, pn 433423576206002 15, pn 492862261945019 15, pn 537514092314661 15, pn 559213168164554 15, pn 587997598217513 15, pn 627624656363427 15, pn 632472485464784 15, pn 582125310182791 15, pn 531199123198026 15, pn 470782512469459 15, pn 410639172226025 15, pn 403227449169194 15, pn 453669790475513 15, pn 525221394490141 15, pn 571830375386405 15, pn 580750441197102 15, pn 635296453090261 15, pn 701827805097738 15, pn 671723616673777 15, pn 60179402313819 14, pn 521390490430414 15, pn 469530619023012 15, pn 427651558855648 15, pn 42963081978582 14, pn 46603564184307 14, pn 542606388967509 15, pn 59108300019918 14, pn 624642198498689 15, pn 69867140533179 14, pn 779970043657163 15, pn 753118024156137 15, pn 640722574308407 15, pn 571390153768085 15, pn 520382505764622 15, pn 489644817171928 15, pn 461562953165597 15, pn 530046869432579 15, pn 577838810697034 15, pn 641354741404765 15, pn 706086788708845 15, pn 843711957844599 15, pn 913032033112738 15, pn 861700119798149 15, pn 770884355522217 15, pn 661651634721807 15, pn 618783982018184 15, pn 582799506486546 15, pn 517420687334327 15, pn 556261710999006 15, pn 599625826339062 15, pn 691953757070279 15, pn 869444160023993 15, pn 101924075948968 14, pn 107132482822279 14, pn 102067889731294 14, pn 846024469766208 15, pn 756059933939122 15, pn 66355912632032 14, pn 627535784479301 15, pn 600794739829099 15, pn 594746238383821 15, pn 648169213504355 15, pn 767347509266252 15, pn 906179412169381 15, pn 796 3, pn 75655 1, pp 93 0, pp 3 0]⟩

def row5 : Row := ⟨"ARM", "Armenia", [pp 2963234 0, pp 289 1, pp 4 2, pp 186 1, pn 565122371893467 14, pp 668 3, pp 123 2, pp 162 2, pp 683 2, pp 4637 3, pp 885782 0, pp 592822 0, pp 251716 0, pp 6 4, pp 1 4, pp 1 4, pp 31 4, pp 1 4, pp 5 4, pn 398832068567172 9, pn 1104636666727462 11, pn 470905735291159 10, np 1 0, np 1 0, np 1 0, nn 9997451269129088 16, nn 981204476096384 15, nn 2145909519292822 16, nn 2412241215666914 16, nn 2385230622663079 16, nn 2011865881617375 16, nn 128181163737962 15, nn 309453247010684 15, nn 985981168536306 15, nn 971432468686076 15, nn 98957351384831 14, nn 976764133669223 15, nn 978341200359675 15, nn 944079717092293 15, nn 971723242531468 15, nn 949621288974066 15, nn 932391852968713 15, pn 9255759604 11, pn 9255759604 11, pn 9255759604 11, pn 9255759604 11, pn 1573751916 12, pn 1573751916 12, pn 157442404 9, pn 157442404 9, pn 155868652 9, pn 155868652 9, pp 0 0, pp 0 0, pn 165008541666667 9, pn 168525333333333 9, pn 172042125 3, pn 175558916666667 9, pn 144387708333333 9, pn 1132165 1, pn 141470916666667 9, pn 169725333333333 9, pn 19737975 2, pn 225034166666667 9, pn 19326295833333305 11, pn 19677975 2, pn 764295042870933 16, pp 0 0, pn 133614627285513 16, pp 0 0, pn 17464103009754 16, pn 273280251804637 15, pn 118070274841502 15, pn 681808262795505 16, pp 0 0, pp 0 0, pn 597918423572853 16, pn 1300193904295 16, pp 505 0, pp 1 0, pn 3259327333462 16, pp 0 0, pp 0 0, pp 0 0, pp 0 0, pp 0 0, pp 0 0, pp 0 0, pp 0 0, pp 0 0, pp 0 0, pp 0 0, pp 0 0, pp 0 0, pp 0 0, pp 0 0, pp 0 0, pp 0 0, pp 0 0, pp 0 0, pp 0 0, pp 0 0, pp 0 0, pp 0 0, pp 0 0, pp 0 0, pp 0 0, pp 0 0, pp 0 0, pp 0 0, pp 0 0, pp 0 0, pp 0 0, pp 0 0, pp 0 0, pp 0 0, pp 0 0, pp 0 0, pp 0 0, pp 0 0, pp 0 0, pp 0 0, pp 0 0, pp 0 0, pp 0 0, pp 0 0, pp 0 0, pp 0 0, pp 0 0, pp 0 0, pp 0 0, pp 0 0, pp 0 0, pp 0 0, pp 0 0, pp 0 0, pp 0 0, pp 0 0, pp 0 0, pp 0 0, pp 0 0, pp 0 0, pp 0 0, pp 0 0, pp 0 0, pp 0 0, pp 0 0, pp 0 0, pp 0 0, pp 0 0, pp 0 0, pp 0 0, pp 0 0, pp 0 0, pp 0 0, pp 0 0, pp 0 0, pp 0 0, pp 0 0, pp 0 0, pp 0 0, pp 0 0, pp 0 0, pp 0 0, pp 0 0, pp 0 0, pp 0 0, pp 0 0, pp 0 0, pp 0 0, pp 0 0, pp 0 0, pp 0 0, pp 0 0, pp 0 0, pp 0 0, pp 0 0, pp 0 0, pp 0 0, pp 0 0, pp 0 0, pp 0 0, pp 0 0, pp 0 0, pp 0 0, pp 0 0, pp 0 0, pp 0 0, pp 0 0, pp 0 0, pp 0 0, pp 0 0, pp 0 0, pp 0 0, pp 0 0, pp 0 0, pp 0 0, pp 0 0, pp 0 0, pp 0 0, pp 0 0, pp 0 0, pp 0 0, pp 0 0, pp 0 0, pn 796 3, pn 9024 1, pn 91700005 6, pn 10676 4]⟩

def row6 : Row := ⟨"AUS", "Australia", [pp 25687041 0, pp 4478 1, pp 646 1, pp 2788 1, pn 192203131409809 12, pp 8795 3, pp 1246544 0, pp 402704 0, pp 23716 2, pp 103129 3, pp 69668057 0, pp 23751235 0, pp 1393782 0, pp 1 6, pp 18 4, pp 2 4, pp 1201 4, pp 73 4, pp 218 4, pn 29873347225071527 9, pn 18567686012011631 10, pn 4175497137699361 9, pn 2459770243580208 16, nn 289278562494145 16, nn 258379837730016 16, nn 2810348143659636 16, nn 4001471837789216 16, nn 340951525388308 15, nn 2706475698974011 16, nn 4206313716571756 16, pn 373827566201016 16, nn 1362544479639865 16, pn 30746133764173 16, nn 487070692116797 15, nn 711125297853153 15, nn 780919033979594 15, nn 7377506273630451 16, nn 813613273218577 15, nn 783096026893198 15, nn 6961719608961551 16, nn 519163233494777 15, nn 38167120105871 14, pn 2090933172 10, pn 6513806118 11, pn 5182267607 12, pn 547404545 11, pn 547404545 11, pn 547404545 11, pn 3572441523 11, pn 3543263739 11, pn 3543263739 11, pn 1793878934 10, pn 2090933172 10, pn 2090933172 10, pn 24923144041666698 9, pn 243182206666667 7, pn 217199959166667 7, pn 191314716666667 7, pn 165429474166667 7, pn 139544231666667 7, pn 123716082916667 7, pn 107790929166667 7, pn 918657754166667 8, pn 123800251666667 7, pn 16561064791666698 9, pn 20742104416666698 9, pn 276299194082815 16, pn 6337537233031 16, pp 0 0, pp 0 0, pn 17464103009754 16, pn 418867550479892 15, pn 204205647904493 15, pn 122996374407741 15, pp 94 4, pn 62046965566085 16, pn 435198726066752 14, pn 94635439966516 16, pp 3092 1, pp 1 0, pn 19956119039734 15, pn 208524811619365 16, pn 208524811619365 16, pn 208524811619365 16, pn 208524811619365 16, pn 168274254541385 14, pn 167642186253762 14, pn 130229604120148 14, pn 108168203791522 14, pn 123922933816451 14, pn 276961050016176 14, pn 364594299921247 14, pn 365148695009724 14, pn 331561388298747 14, pn 324186959320595 14, pn 32618571734319 13, pn 30006048120451 13, pn 262925963388012 14, pn 280781954819124 14, pn 311585120292445 14, pn 347756732153447 14, pn 398666126443438 14, pn 405690158386464 14, pn 387426034657301 14, pn 38617474735386 13, pn 384968816249238 14, pn 362699038059659 14, pn 348459833437253 14, pn 312066988816045 14, pn 300842085499683 14, pn 282929944762165 14, pn 27948545069465 13, pn 282000739977844 14, pn 305125046153679 14, pn 321984495602942 14, pn 306111181981689 14, pn 287173778361234 14, pn 27150789621451 13, pn 272261399013256 14, pn 25409299345876 13, pn 256104988433198 14, pn 238009294011643 14, pn 235914222109071 14, pn 229225976160167 14, pn 226837621022529 14, pn 238454711592076 14, pn 254511659947781 14, pn 246270550677666 14, pn 237256945223894 14, pn 220092519422075 14, pn 203769900195825 14, pn 205277005142451 14, pn 221021906391143 14, pn 226571121317883 14, pn 225631223907675 14, pn 20725186077127 13, pn 179518109035666 14, pn 182570260837986 14, pn 192839654401378 14, pn 195570821860881 14, pn 193784563911544 14, pn 171070447464075 14, pn 159436673873467 14, pn 176284843850071 14, pn 209498719850076 14, pn 221219289806559 14, pn 218633038938533 14, pn 183540523916536 14, pn 155361344763438 14, pn 154651241615611 14, pn 174505132065388 14, pn 186788745443113 14, pn 185558314656444 14, pn 172359815060239 14, pn 157361935375794 14, pn 166054838255783 14, pn 178635234690772 14, pn 21670970326492 13, pn 213850103072844 14, pn 175003784362647 14, pn 132921284068204 14, pn 131498374406567 14, pn 160051838569539 14, pn 199211921418433 14, pn 198453985580133 14, pn 17451511511494 13, pn 159615120552659 14, pn 165981187868675 14, pn 194092890093074 14, pn 218301459327347 14, pn 197457364287319 14, pn 154930288777465 14, pn 125932166982422 14, pn 125800520391321 14, pn 169901072073956 14, pn 212666058482698 14, pn 207848822022318 14, pn 188924145357868 14, pn 17992731113631 13, pn 185111679535039 14, pn 206726934260569 14, pn 226185272475663 14, pn 202115177581399 14, pn 17058423635992 13, pn 169262939774473 14, pn 160033198715244 14, pn 197746790286457 14, pn 239036991031963 14, pn 233783593000971 14, pn 21946035701031 13, pn 200689866312358 14, pn 212659738043214 14, pn 232702929300825 14, pn 254379854543214 14, pn 242694967280862 14, pn 190758173133199 14, pn 166114826950436 14, pn 163592956047652 14, pn 206701362855241 14, pn 272630452264418 14, pn 307971781961014 14, pn 27518910251594 13, pn 232078712007612 14, pn 223183289378866 14, pn 246660392824133 14, pn 796 3, pn 64004 1, pn 78700005 6, pn 1907 3]⟩

def row7 : Row := ⟨"AZE", "Azerbaijan", [pp 10110116 0, pp 28 1, pp 4 1, pp 18 1, pn 485190538310908 14, pp 2151 3, pp 115388 0, pp 483 0, pp 143082 0, pp 31193 3, pp 8095527 0, pp 273479 1, pp 1278208 0, pp 5 5, pp 19 4, pp 2 4, pp 176 4, pp 1 5, pp 31 4, pn 3236292983344113 9, pn 114234908087982 9, pn 4221270888069487 10, nn 9999986038391938 16, np 1 0, np 1 0, nn 9954318164853686 16, nn 9127927579280812 16, nn 4609080334699007 16, nn 2477360681068403 16, nn 1935541999357192 16, nn 145924957950283 15, nn 100655615376249 16, nn 100414140374649 15, nn 999516579287267 15, nn 893341979236909 15, nn 9379390511230952 16, nn 899411101023767 15, nn 9112566116776928 16, nn 871950172381982 15, nn 8419227956129229 16, nn 804448457909348 15, nn 750524002420775 15, pn 4817789541 13, pn 4817789541 13, pn 4817789541 13, pn 4817789541 13, pn 3317413768 12, pn 3317413768 12, pn 249518221 9, pn 249518221 9, pn 2462008073 10, pn 2462008073 10, pp 0 0, pp 0 0, pp 1473035 0, pn 1266993375 3, pn 106095175 2, pn 854910125 3, pn 655920375 3, pn 456930625 3, pp 870212 0, pn 1283493375 3, pn 168852475 2, pn 2093556125 3, pn 1886316375 3, pn 168027475 2, pn 356737180014816 16, pp 0 0, pp 0 0, pp 0 0, pn 17464103009754 16, pn 281032440099492 15, pn 122159705555262 15, pn 706807913597597 16, pp 0 0, pp 0 0, pn 347174681172854 15, pn 7549431266714 16, pp 2356 0, pp 1 0, pn 1520589148047 15, pp 0 0, pp 0 0, pp 0 0, pp 0 0, pp 0 0, pp 0 0, pp 0 0, pp 0 0, pp 0 0, pp 0 0, pp 0 0, pp 0 0, pp 0 0, pp 0 0, pp 0 0, pp 0 0, pp 0 0, pp 0 0, pp 0 0, pp 0 0, pp 0 0, pp 0 0, pp 0 0, pp 0 0, pp 0 0, pp 0 0, pp 0 0, pp 0 0, pp 0 0, pp 0 0, pp 0 0, pp 0 0, pp 0 0, pp 0 0, pp 0 0, pp 0 0, pp 0 0, pp 0 0, pp 0 0, pp 0 0, pp 0 0, pp 0 0, pp 0 0, pp 0 0, pp 0 0, pp 0 0, pp 0 0, pp 0 0, pp 0 0, pp 0 0, pp 0 0, pp 0 0, pp 0 0, pp 0 0, pp 0 0, pp 0 0, pp 0 0, pp 0 0, pp 0 0, pp 0 0, pp 0 0, pp 0 0, pp 0 0, pp 0 0, pp 0 0, pp 0 0, pp 0 0, pp 0 0, pp 0 0, pp 0 0, pp 0 0, pp 0 0, pp 0 0, pp 0 0, pp 0 0, pp 0 0, pp 0 0, pp 0 0, pp 0 0, pp 0 0, pp 0 0, pp 0 0, pp 0 0, pp 0 0, pp 0 0, pp 0 0, pp 0 0, pp 0 0, pp 0 0, pp 0 0, pp 0 0, pp 0 0, pp 0 0, pp 0 0, pp 0 0, pp 0 0, pp 0 0, pp 0 0, pp 0 0, pp 0 0, pp 0 0, pp 0 0, pp 0 0, pp 0 0, pp 0 0, pp 0 0, pp 0 0, pp 0 0, pp 0 0, pp 0 0, pp 0 0, pp 0 0, pp 0 0, pp 0 0, pp 0 0, pp 0 0, pp 0 0, pp 0 0, pp 0 0, pp 0 0, pp 0 0, pp 0 0, pp 0 0, pp 0 0, pn 796 3, pn 13069 1, pn 518 1, pn 11803 4]⟩

def row8 : Row := ⟨"BHR", "Bahrain", [pp 1701583 0, pp 0 0, pp 0 0, pp 0 0, pn 962912557596414 16, pp 12 3, pp 9125 0, pp 0 0, pp 853 0, pp 9907 3, pp 85602 0, pp 8905 0, pp 5124 0, pp 0 0, pp 0 0, pp 0 0, pp 0 0, pp 0 0, pp 0 0, pn 6719936526999558 12, pn 1999563182759455 13, pn 4108801420945524 13, pn 584318941 8, np 1 0, np 1 0, pn 308427224124208 15, pn 3084272241 10, np 1 0, np 1 0, np 1 0, np 1 0, np 1 0, nn 810144135066511 16, nn 801944754226608 15, nn 976740134757378 15, nn 998453511725858 15, nn 999606018759134 15, nn 9992624198261508 16, nn 961255037254142 15, nn 8644006141306011 16, nn 394959960773302 15, nn 517130360627349 15, pp 0 0, pp 0 0, pp 0 0, pp 0 0, pn 1371742112 10, pn 1371742112 10, pn 25 2, pn 25 2, pn 1128257888 10, pn 1128257888 10, pp 0 0, pp 0 0, pn 417295 1, pn 417295 1, pn 417295 1, pn 417295 1, pn 417295 1, pn 417295 1, pn 417295 1, pn 417295 1, pn 417295 1, pn 417295 1, pn 417295 1, pn 417295 1, pn 451000913432071 16, pn 11014039445705 16, pn 37776501041637 16, pn 297483136625652 16, pn 17464103009754 16, pn 409241019650796 15, pn 19783306842025 14, pn 118779802518003 15, pp 0 0, pp 0 0, pn 202681814066394 15, pn 44073848333 14, pp 5 0, pp 1 0, pn 322705676580433 20, pp 0 0, pp 0 0, pp 0 0, pp 0 0, pp 0 0, pp 0 0, pp 0 0, pp 0 0, pp 0 0, pp 0 0, pp 0 0, pp 0 0, pp 0 0, pp 0 0, pp 0 0, pp 0 0, pp 0 0, pp 0 0, pp 0 0, pp 0 0, pp 0 0, pp 0 0, pp 0 0, pp 0 0, pp 0 0, pp 0 0, pp 0 0, pp 0 0, pp 0 0, pp 0 0, pp 0 0, pp 0 0, pp 0 0, pp 0 0, pp 0 0, pp 0 0, pp 0 0, pp 0 0, pp 0 0, pp 0 0, pp 0 0, pp 0 0, pp 0 0, pp 0 0, pp 0 0, pp 0 0, pp 0 0, pp 0 0, pp 0 0, pp 0 0, pp 0 0, pp 0 0, pp 0 0, pp 0 0, pp 0 0, pp 0 0, pp 0 0, pp 0 0, pp 0 0, pp 0 0, pp 0 0, pp 0 0, pp 0 0, pp 0 0, pp 0 0, pp 0 0, pp 0 0, pp 0 0, pp 0 0, pp 0 0, pp 0 0, pp 0 0, pp 0 0, pp 0 0, pp 0 0, pp 0 0, pp 0 0, pp 0 0, pp 0 0, pp 0 0, pp 0 0, pp 0 0, pp 0 0, pp 0 0, pp 0 0, pp 0 0, pp 0 0, pp 0 0, pp 0 0, pp 0 0, pp 0 0, pp 0 0, pp 0 0, pp 0 0, pp 0 0, pp 0 0, pp 0 0, pp 0 0, pp 0 0, pp 0 0, pp 0 0, pp 0 0, pp 0 0, pp 0 0, pp 0 0, pp 0 0, pp 0 0, pp 0 0, pp 0 0, pp 0 0, pp 0 0, pp 0 0, pp 0 0, pp 0 0, pp 0 0, pp 0 0, pp 0 0, pp 0 0, pp 0 0, pp 0 0, pp 0 0, pp 0 0, pp 0 0, pp 0 0, pn 796 3, pn 11304 1, pp 0 0, pn 8989 4]⟩

def row9 : Row := ⟨"BGD", "Bangladesh", [pp 165 6, pp 70487 1, pp 10014 1, pp 45044 1, pp 0 0, pp 365 4, pp 210615 0, pp 0 0, pp 193671 0, pp 356318 3, pp 62301162 0, pp 25884 3, pp 4105199 0, pp 1423 4, pp 197 4, pp 108 4, pp 117 5, pp 92 4, pp 217 4, pn 5934770672166867 8, pn 8363983697724738 10, pn 4791457817284027 9, nn 131430723115055 15, nn 9858738388240588 16, nn 8910920797723544 16, nn 6045470152086024 16, nn 5023779852372726 16, nn 7506320331619983 16, nn 8148545463621271 16, nn 7122398957110003 16, nn 1295237761670146 16, pn 495839945598543 16, nn 542476383231592 15, nn 694063617242271 15, nn 8010958982796891 16, nn 8880058294301909 16, nn 956343595756931 15, nn 904768971202588 15, nn 90767505983135 14, nn 884295021670577 15, nn 881151532851349 15, nn 7940592550757389 16, pp 0 0, pp 0 0, pp 0 0, pp 0 0, pn 2414337376 10, pn 2414337376 10, pn 25 2, pn 25 2, pn 8566262413 12, pn 8566262413 12, pp 0 0, pp 0 0, pn 127550490416667 7, pn 9895700833333328 9, pn 7036352625 3, pn 41770044166666702 10, pn 960177370833334 8, pp 15026543 0, pn 20745239416666698 9, pn 264639358333333 7, pn 2389851475 2, pn 21333093666666698 9, pn 18473745458333302 9, pn 1561439725 2, pn 402219405631225 16, pn 6028341031864 15, pp 0 0, pn 431071737251513 16, pn 17464103009754 16, pn 877553489173761 16, pn 331133516636207 16, pn 183737484551905 16, pp 11 3, pn 726081511943559 19, pn 146989631844876 14, pn 31963394300061 16, pp 8797 0, pp 1 0, pn 56776836737561 16, pn 4695046224349 16, pn 4695046224349 16, pn 4695046224349 16, pn 5 4, pn 104462928928399 13, pn 107353565103232 13, pn 103932608079095 13, pn 100638214829153 13, pn 982932004629659 14, pn 114634503153017 13, pn 120526954443097 13, pn 117953723063019 13, pn 112609105076942 13, pn 108188162608913 13, pn 108923969502021 13, pn 106651249690074 13, pn 101094295235941 13, pn 106044455826692 13, pn 109671213470669 13, pn 112207097480749 13, pn 117010408027705 13, pn 112696083941088 13, pn 109466330865936 13, pn 108948534875927 13, pn 111131410401486 13, pn 105757769033842 13, pn 101486538753365 13, pn 926620088269116 14, pn 950795107489292 14, pn 944841786603207 14, pn 916579621268551 14, pn 939518053875552 14, pn 930831360797472 14, pn 951656216000671 14, pn 878261004294571 14, pn 842637110619779 14, pn 834535387647427 14, pn 811469814842215 14, pn 777873547403519 14, pn 799740831814672 14, pn 768162271492863 14, pn 775535678940707 14, pn 78456136695809 13, pn 788234241479958 14, pn 790781078607326 14, pn 796992828403785 14, pn 782723808395923 14, pn 73534558997615 13, pn 717735916257441 14, pn 709751757661668 14, pn 706669404843699 14, pn 707586049124551 14, pn 738572226635145 14, pn 752309127446057 14, pn 720838496609505 14, pn 655027553428903 14, pn 655448253473075 14, pn 645888118921901 14, pn 648965517527458 14, pn 64968067065901 13, pn 619850339649028 14, pn 604824136772273 14, pn 620631693653891 14, pn 689453906291949 14, pn 70713105533393 13, pn 724203367529441 14, pn 674423792822874 14, pn 605796302054787 14, pn 572105131885089 14, pn 610616217783801 14, pn 63466366735931 13, pn 617758778533267 14, pn 576987213429858 14, pn 560349207201704 14, pn 570229446048452 14, pn 618772250294256 14, pn 693159124987793 14, pn 674423743185867 14, pn 600210654335467 14, pn 512814169916847 14, pn 502593930465891 14, pn 534594022484031 14, pn 616879271037409 14, pn 639560287210772 14, pn 61202969661372 13, pn 582416971345373 14, pn 581482119544764 14, pn 649798348780194 14, pn 70734729062574 13, pn 671505722565057 14, pn 615883871482525 14, pn 559425102865466 14, pn 580431582857677 14, pn 666395616128984 14, pn 740532622296824 14, pn 762025318598269 14, pn 740149605611624 14, pn 731408057637338 14, pn 751655107975059 14, pn 813141637822371 14, pn 842689570286338 14, pn 808231205312287 14, pn 772271234389035 14, pn 766848468409568 14, pn 763426272878731 14, pn 828948314457289 14, pn 887088450069435 14, pn 908617933429853 14, pn 8982552869375 12, pn 898784203220411 14, pn 914822261669797 14, pn 969679902785242 14, pn 104383691960851 13, pn 104894561200081 13, pn 983465839803647 14, pn 925178884892611 14, pn 889368814313954 14, pn 930558460937762 14, pn 102161333252708 13, pn 106828489858603 13, pn 104031667734145 13, pn 100547590738195 13, pn 101101242926437 13, pn 108567151114467 13, pn 796 3, pn 1038 1, pp 0 0, pn 7 1]⟩

def row10 : Row := ⟨"BRB", "Barbados", [pp 287371 0, pp 3 2, pp 5 1, pp 18 1, pn 207285248232602 16, pp 5 3, pp 15735 0, pp 2848 0, pp 146 0, pp 4333 3, pp 39268 0, pp 17476 0, pp 3127 0, pp 0 0, pp 0 0, pp 0 0, pp 5 4, pp 0 0, pp 1 4, pn 1037131194136239 11, pn 5179921752692904 13, pn 7575148632363121 13, np 1 0, np 1 0, np 1 0, np 1 0, np 1 0, np 1 0, np 1 0, np 1 0, np 1 0, np 1 0, np 1 0, np 1 0, np 1 0, np 1 0, np 1 0, np 1 0, np 1 0, np 1 0, np 1 0, np 1 0, pn 25 2, pp 0 0, pp 0 0, pp 0 0, pp 0 0, pp 0 0, pp 0 0, pp 0 0, pp 0 0, pn 25 2, pn 25 2, pn 25 2, pn 133426666666667 10, pn 123593333333333 10, pp 11376 0, pn 103926666666667 10, pn 940933333333333 11, pp 8426 0, pn 744266666666666 11, pn 645933333333333 11, pp 5476 0, pn 7442666666666671 12, pn 940933333333333 11, pp 11376 0, pn 155932203389831 16, pp 0 0, pp 0 0, pp 0 0, pn 17464103009754 16, pn 291811692474151 15, pn 127929535180012 15, pn 742247642942792 16, pp 0 0, pp 0 0, pn 185344136673873 16, pn 403037115431624 19, pp 8 0, pp 1 0, pn 516329082528694 20, pn 7852060064859634 20, pn 7852060064859634 20, pn 7852060064859634 20, pn 5 4, pn 175435425176481 14, pn 174687909534561 14, pn 132526710333623 14, pn 10894157867869 13, pn 128551540746042 14, pn 307586679183569 14, pn 411949723149241 14, pn 413001697107147 14, pn 373151259279135 14, pn 364494469935826 14, pn 367627345316203 14, pn 339438837233562 14, pn 296932453030631 14, pn 317154040234602 14, pn 351852666556997 14, pn 393109760974266 14, pn 452235855792299 14, pn 461793755125513 14, pn 441603255458607 14, pn 439978921580841 14, pn 438220531963644 14, pn 411845183381513 14, pn 395832540327996 14, pn 354770612592589 14, pn 341803660501108 14, pn 321197570317955 14, pn 316748399344889 14, pn 319474156198058 14, pn 346213013606221 14, pn 367188893855819 14, pn 349188069322977 14, pn 327363154790049 14, pn 308501789801726 14, pn 308379775952604 14, pn 287518849303107 14, pn 290088447251308 14, pn 269181648948018 14, pn 26680129851077 13, pn 259031644491008 14, pn 256088426967214 14, pn 269627574299937 14, pn 289092995161537 14, pn 280097323272331 14, pn 269837585523674 14, pn 249126191151516 14, pn 229206925463001 14, pn 23079073150992 13, pn 248857075959849 14, pn 255334859813408 14, pn 254146098040422 14, pn 232682190444455 14, pn 200538842205611 14, pn 20412851903952 13, pn 217108941741431 14, pn 221572766356145 14, pn 219718973936091 14, pn 192358462437988 14, pn 177795081819962 14, pn 196707082953172 14, pn 235094953689013 14, pn 248289211470693 14, pn 244611467822232 14, pn 203589403144879 14, pn 171552813720964 14, pn 171573129831579 14, pn 195742945535128 14, pn 211076216813198 14, pn 209764242946365 14, pn 193525287729021 14, pn 174835234696924 14, pn 184200138375307 14, pn 198728599785949 14, pn 242239712924235 14, pn 237794656833356 14, pn 192975688145191 14, pn 145044931027268 14, pn 144724928633821 14, pn 178901634680745 14, pn 225286382340578 14, pn 224369136180392 14, pn 195833706936713 14, pn 177174200828644 14, pn 183793335843467 14, pn 216031001800275 14, pn 243040512459709 14, pn 217367424274253 14, pn 16820003650444 13, pn 136242151907685 14, pn 137244104560406 14, pn 189544875656872 14, pn 239949654610283 14, pn 234797576473278 14, pn 21157738842697 13, pn 200284549480744 14, pn 205274380434133 14, pn 22941331015885 13, pn 249820951924197 14, pn 220583839959753 14, pn 184653273756604 14, pn 184625357144848 14, pn 175677871255755 14, pn 220391522300563 14, pn 269163164429181 14, pn 264123847045561 14, pn 246766054662045 14, pn 224144413592101 14, pn 236570465099245 14, pn 256996014850562 14, pn 279789150975588 14, pn 265288714690626 14, pn 205539887033517 14, pn 179700223612738 14, pn 178257449823275 14, pn 230092271225776 14, pn 307609931233833 14, pn 349287166624032 14, pn 311141515628867 14, pn 259955677117142 14, pn 247591379120906 14, pn 272667468091998 14, pn 796 3, pn 13869 1, pn 791 1, pn 15794 4]⟩

def row11 : Row := ⟨"BLR", "Belarus", [pp 9398861 0, pp 192 1, pp 28 1, pp 121 1, pn 308231148438052 13, pp 7394 3, pp 512515 0, pp 4027 2, pp 3405 2, pp 49491 3, pp 30201 2, pp 4335071 0, pp 14852 2, pp 31 4, pp 11 4, pp 1 4, pp 555 4, pp 42 4, pp 107 4, pn 10075758112021612 9, pn 5826783082995999 10, pn 1347850967383243 9, np 1 0, np 1 0, np 1 0, np 1 0, np 1 0, nn 996478241054501 15, nn 8188331514739247 16, nn 5270820929876368 16, nn 5155495667785667 16, nn 8557729472144148 16, nn 1157060992242949 16, nn 999978032564487 15, nn 999978467551316 15, nn 999978893920264 15, nn 962824299167079 15, nn 999589375963029 15, nn 988880847503898 15, nn 986676797877838 15, nn 883569208384489 15, nn 967729465946843 15, pn 3347982605 11, pp 0 0, pp 0 0, pp 0 0, pp 0 0, pp 0 0, pn 2165201739 10, pn 2165201739 10, pn 2165201739 10, pn 25 2, pn 3347982605 11, pn 3347982605 11, pn 33089260416666702 10, pn 29237438333333298 10, pn 2538561625 3, pn 21533794166666702 10, pn 176819720833333 8, pp 1383015 0, pn 199862941666667 8, pn 26142438333333298 10, pn 322985825 2, pn 40002226666666702 10, pn 37697904583333298 10, pn 353935825 2, pn 334264397809548 16, pp 0 0, pn 12843565373747 16, pn 1998401278976 16, pn 17464103009754 16, pn 31862025286794 14, pn 142716427378292 15, pn 833977628062114 16, pp 251 3, pn 16567859954348 16, pn 371306159486742 15, pn 8074178452423 16, pp 582 1, pp 1 0, pn 37562940753962 16, pp 0 0, pp 0 0, pp 0 0, pp 0 0, pp 0 0, pp 0 0, pp 0 0, pp 0 0, pp 0 0, pp 0 0, pp 0 0, pp 0 0, pp 0 0, pp 0 0, pp 0 0, pp 0 0, pp 0 0, pp 0 0, pp 0 0, pp 0 0, pp 0 0, pp 0 0, pp 0 0, pp 0 0, pp 0 0, pp 0 0, pp 0 0, pp 0 0, pp 0 0, pp 0 0, pp 0 0, pp 0 0, pp 0 0, pp 0 0, pp 0 0, pp 0 0, pp 0 0, pp 0 0, pp 0 0, pp 0 0, pp 0 0, pp 0 0, pp 0 0, pp 0 0, pp 0 0, pp 0 0, pp 0 0, pp 0 0, pp 0 0, pp 0 0, pp 0 0, pp 0 0, pp 0 0, pp 0 0, pp 0 0, pp 0 0, pp 0 0, pp 0 0, pp 0 0, pp 0 0, pp 0 0, pp 0 0, pp 0 0, pp 0 0, pp 0 0, pp 0 0, pp 0 0, pp 0 0, pp 0 0, pp 0 0, pp 0 0, pp 0 0, pp 0 0, pp 0 0, pp 0 0, pp 0 0, pp 0 0, pp 0 0, pp 0 0, pp 0 0, pp 0 0, pp 0 0, pp 0 0, pp 0 0, pp 0 0, pp 0 0, pp 0 0, pp 0 0, pp 0 0, pp 0 0, pp 0 0, pp 0 0, pp 0 0, pp 0 0, pp 0 0, pp 0 0, pp 0 0, pp 0 0, pp 0 0, pp 0 0, pp 0 0, pp 0 0, pp 0 0, pp 0 0, pp 0 0, pp 0 0, pp 0 0, pp 0 0, pp 0 0, pp 0 0, pp 0 0, pp 0 0, pp 0 0, pp 0 0, pp 0 0, pp 0 0, pp 0 0, pp 0 0, pp 0 0, pp 0 0, pp 0 0, pp 0 0, pp 0 0, pp 0 0, pn 796 3, pn 52547 1, pn 845 1, pn 13047 4]⟩

def row12 : Row := ⟨"BEN", "Benin", [pp 12123198 0, pp 926 1, pp 136 1, pp 578 1, pp 0 0, pp 153 3, pp 15508 0, pp 7087 0, pp 44064 0, pp 2269 4, pp 3549 3, pp 2593841 0, pp 623376 0, pp 9 5, pp 22 4, pp 5 4, pp 123 4, pp 8 4, pp 21 4, pn 4922037004904295 9, pn 3193321737952763 10, pn 473570074107678 9, nn 2557889270275535 16, nn 6878672385341399 16, nn 7614969631170542 16, nn 7711459791256923 16, nn 6916668100470952 16, nn 6582497009400514 16, nn 471013664328092 15, nn 2823805373923928 16, nn 2184064599107001 16, nn 487801887377125 16, pn 142175440386875 15, nn 6376934188900519 16, nn 696944799381456 15, nn 6973239825111289 16, nn 665421882582107 15, nn 611040772337019 15, nn 5492550167306409 16, nn 505258908111678 15, nn 479127203062938 15, nn 244053997621455 15, pn 248275645 9, pp 0 0, pp 0 0, pp 0 0, pn 1724354962 12, pn 1724354962 12, pn 1724354962 12, pn 1724354962 12, pp 0 0, pn 248275645 9, pn 248275645 9, pn 248275645 9, pn 118538633333333 8, pn 106456820833333 8, pn 943750083333334 9, pn 822931958333334 9, pn 7046138333333341 10, pn 586295708333334 9, pn 467977583333334 9, pn 349659458333334 9, pn 228841333333333 9, pn 467977583333333 9, pn 707113833333333 9, pn 946250083333334 9, pn 917389578726541 16, pp 0 0, pp 0 0, pn 765850596359071 16, pn 17464103009754 16, pp 0 0, pp 0 0, pp 0 0, pp 0 0, pp 0 0, pn 622758481659101 16, pn 1354209453628 16, pp 34 2, pp 1 0, pn 21943986007469 16, pn 9794837812866142 20, pn 9794837812866142 20, pn 9794837812866142 20, pn 5 4, pn 225563619622158 14, pn 224007972500148 14, pn 148606453827951 14, pn 114355202888872 14, pn 160951789253174 14, pn 521966083355326 14, pn 743437685745195 14, pn 747972711789109 14, pn 664280356141849 14, pn 646647044242444 14, pn 65771874112729 13, pn 615087329436925 14, pn 534977880528962 14, pn 571758638142947 14, pn 633725490408862 14, pn 710580962719998 14, pn 827223961234327 14, pn 854518932298853 14, pn 820843801067746 14, pn 816608141169708 14, pn 810982541964485 14, pn 755868200634493 14, pn 727441488563201 14, pn 653695979028396 14, pn 628534685511087 14, pn 589070949208488 14, pn 577589039896562 14, pn 581788069739559 14, pn 633828785774011 14, pn 683619681625962 14, pn 650726280711991 14, pn 608688789791755 14, pn 567459044912239 14, pn 561208414528042 14, pn 521499840213542 14, pn 527972658978082 14, pn 487388133502636 14, pn 483010833322668 14, pn 4676713228069 12, pn 460844068580014 14, pn 487837613254963 14, pn 531162341657829 14, pn 516884731434986 14, pn 497902067622137 14, pn 452361893257602 14, pn 407266102333234 14, pn 409386816082206 14, pn 443703262940789 14, pn 456681029282089 14, pn 453750216969654 14, pn 41069449815675 13, pn 347683974395228 14, pn 355036326450263 14, pn 3869939531218 12, pn 403586377822991 14, pn 401259844107923 14, pn 341374567255376 14, pn 306303937445421 14, pn 339662756674879 14, pn 414268590561571 14, pn 437778663119636 14, pn 426460470008121 14, pn 343931557743281 14, pn 284893096423649 14, pn 290026347343356 14, pn 344407639823311 14, pn 381088516403793 14, pn 37920574097581 13, pn 34168359641049 13, pn 297148329944834 14, pn 311217239211973 14, pn 339382155452187 14, pn 420949780539445 14, pn 405406533156939 14, pn 318779014623005 14, pn 229910459740717 14, pn 2373108082246 12, pn 31085020745919 13, pn 407807608795591 14, pn 405775190382202 14, pn 345063849689118 14, pn 300087762760537 14, pn 308478371667017 14, pn 369597783750681 14, pn 416213884386239 14, pn 35673784418279 13, pn 261088270593267 14, pn 20841204638453 13, pn 217349193744004 14, pn 327051500737282 14, pn 430934827503372 14, pn 423438857629996 14, pn 370150089910681 14, pn 342785217891785 14, pn 346413286727789 14, pn 388217941446816 14, pn 415270708063935 14, pn 349864476608232 14, pn 283136535533392 14, pn 292162278737474 14, pn 285190579039329 14, pn 378904646399308 14, pn 480046378209707 14, pn 476505625357688 14, pn 437905938224189 14, pn 388326244550295 14, pn 403945554491463 14, pn 427047613698725 14, pn 457654226002208 14, pn 423444946558973 14, pn 30901188433574 13, pn 274798000248855 14, pn 280908906252639 14, pn 393828629819519 14, pn 552466284019736 14, pn 638494859265154 14, pn 562808407419351 14, pn 455094432883848 14, pn 418448007315187 14, pn 454716994967059 14, pn 796 3, pn 1355 1, pn 357 1, pn 55 2]⟩

def row13 : Row := ⟨"BTN", "Bhutan", [pp 771612 0, pp 0 0, pp 0 0, pp 0 0, pn 63795580007339 14, pp 192 3, pp 1835 0, pp 879 0, pp 39 2, pp 1384 3, pp 72489 0, pp 319057 0, pp 129339 0, pp 0 0, pp 0 0, pp 0 0, pp 0 0, pp 0 0, pp 0 0, pn 1557622913870803 10, pn 7357658139960218 12, pn 14627024797054431 12, nn 5575162459264301 16, nn 995349254416934 15, nn 9929748205574386 16, nn 9768991251486914 16, nn 9725847983996389 16, nn 9734920867603778 16, nn 9776061117799713 16, nn 972898430602261 15, nn 8937749795406056 16, nn 7797019505730876 16, nn 158585680627217 15, nn 995473211319455 15, nn 9708829315037012 16, nn 915886319571818 15, nn 966542039042416 15, nn 952933911131224 15, nn 7111276601918299 16, nn 516623447090011 15, nn 747695708402704 15, nn 825020707841161 15, pn 2401630752 10, pp 0 0, pp 0 0, pp 0 0, pp 0 0, pp 0 0, pn 9836924787 12, pn 9836924787 12, pn 9836924787 12, pn 25 2, pn 2401630752 10, pn 2401630752 10, pn 46681875 3, pn 4075925 2, pn 34836625 3, pp 28914 0, pn 22991375 3, pn 1706875 2, pn 1184525 2, pn 662175 2, pn 139825 2, pn 132435 1, pn 24389625 3, pn 3553575 2, pn 451000913432071 16, pn 11014039445705 16, pn 37776501041637 16, pn 297483136625652 16, pn 17464103009754 16, pn 252652574403052 15, pn 10742629107861 14, pn 61719607603593 15, pp 0 0, pp 0 0, pn 268250921020675 16, pn 583320731695365 19, pp 1 2, pp 1 0, pn 645411353160867 19, pp 0 0, pp 0 0, pp 0 0, pp 0 0, pp 0 0, pp 0 0, pp 0 0, pp 0 0, pp 0 0, pp 0 0, pp 0 0, pp 0 0, pp 0 0, pp 0 0, pp 0 0, pp 0 0, pp 0 0, pp 0 0, pp 0 0, pp 0 0, pp 0 0, pp 0 0, pp 0 0, pp 0 0, pp 0 0, pp 0 0, pp 0 0, pp 0 0, pp 0 0, pp 0 0, pp 0 0, pp 0 0, pp 0 0, pp 0 0, pp 0 0, pp 0 0, pp 0 0, pp 0 0, pp 0 0, pp 0 0, pp 0 0, pp 0 0, pp 0 0, pp 0 0, pp 0 0, pp 0 0, pp 0 0, pp 0 0, pp 0 0, pp 0 0, pp 0 0, pp 0 0, pp 0 0, pp 0 0, pp 0 0, pp 0 0, pp 0 0, pp 0 0, pp 0 0, pp 0 0, pp 0 0, pp 0 0, pp 0 0, pp 0 0, pp 0 0, pp 0 0, pp 0 0, pp 0 0, pp 0 0, pp 0 0, pp 0 0, pp 0 0, pp 0 0, pp 0 0, pp 0 0, pp 0 0, pp 0 0, pp 0 0, pp 0 0, pp 0 0, pp 0 0, pp 0 0, pp 0 0, pp 0 0, pp 0 0, pp 0 0, pp 0 0, pp 0 0, pp 0 0, pp 0 0, pp 0 0, pp 0 0, pp 0 0, pp 0 0, pp 0 0, pp 0 0, pp 0 0, pp 0 0, pp 0 0, pp 0 0, pp 0 0, pp 0 0, pp 0 0, pp 0 0, pp 0 0, pp 0 0, pp 0 0, pp 0 0, pp 0 0, pp 0 0, pp 0 0, pp 0 0, pp 0 0, pp 0 0, pp 0 0, pp 0 0, pp 0 0, pp 0 0, pp 0 0, pp 0 0, pp 0 0, pp 0 0, pp 0 0, pp 0 0, pn 796 3, pn 6073 1, pn 39100002 6, pn 12626 4]⟩

def row14 : Row := ⟨"BOL", "Bolivia (Plurinational State of)", [pp 11673029 0, pp 181 1, pp 26 1, pp 114 1, pn 201526363987092 13, pp 598 3, pp 471127 0, pp 113397 0, pp 276447 0, pp 237239 3, pp 13088705 0, pp 11369427 0, pp 19674 1, pp 36 4, pp 7 4, pp 0 0, pp 341 4, pp 9 4, pp 12 5, pn 6559322168655971 9, pn 689306394723344 9, pn 14761234942967123 10, nn 516675532781614 16, nn 7612360570899542 16, nn 942948479456764 15, nn 8817760180443702 16, nn 6008458688901753 16, nn 8382371978768487 16, nn 7621214218494633 16, nn 6491080346960258 16, nn 5466840593152923 16, nn 3496664354069132 16, nn 163971075598501 15, nn 452841120746292 15, nn 639321402585486 15, nn 7579947028887171 16, nn 8436252254369591 16, nn 873749634689643 15, nn 867527019194503 15, nn 829030207819694 15, nn 737935867946419 15, nn 638679497756214 15, pn 2156628758 11, pp 0 0, pn 1562754749 10, pn 1709787261 10, pn 1709787261 10, pn 1709787261 10, pn 7215823754 11, pn 5745498637 11, pn 5745498637 11, pn 7902127394 11, pn 2156628758 11, pn 2156628758 11, pn 23702435833333298 10, pn 192684320833333 8, pn 231495408333333 8, pn 278129808333333 8, pn 32476420833333298 10, pn 37139860833333298 10, pn 365452558333333 8, pn 35168319583333298 10, pn 337913833333333 8, pn 335619470833333 8, pn 302754433333333 8, pn 269889395833333 8, pn 224039457000942 16, pp 0 0, pp 0 0, pn 86687306501548 15, pn 17464103009754 16, pn 204613657187263 15, pn 839004808470419 16, pn 476687594629934 16, pp 0 0, pp 0 0, pn 17692354369375 14, pn 3847262502171 16, pp 4787 0, pp 1 0, pn 3089584147581 15, pp 0 0, pp 0 0, pp 0 0, pp 0 0, pp 0 0, pp 0 0, pp 0 0, pp 0 0, pp 0 0, pp 0 0, pp 0 0, pp 0 0, pp 0 0, pp 0 0, pp 0 0, pp 0 0, pp 0 0, pp 0 0, pp 0 0, pp 0 0, pp 0 0, pp 0 0, pp 0 0, pp 0 0, pp 0 0, pp 0 0, pp 0 0, pp 0 0, pp 0 0, pp 0 0, pp 0 0, pp 0 0, pp 0 0, pp 0 0, pp 0 0, pp 0 0, pp 0 0, pp 0 0, pp 0 0, pp 0 0, pp 0 0, pp 0 0, pp 0 0, pp 0 0, pp 0 0, pp 0 0, pp 0 0, pp 0 0, pp 0 0, pp 0 0, pp 0 0, pp 0 0, pp 0 0, pp 0 0, pp 0 0, pp 0 0, pp 0 0, pp 0 0, pp 0 0, pp 0 0, pp 0 0, pp 0 0, pp 0 0, pp 0 0, pp 0 0, pp 0 0, pp 0 0, pp 0 0, pp 0 0, pp 0 0, pp 0 0, pp 0 0, pp 0 0, pp 0 0, pp 0 0, pp 0 0, pp 0 0, pp 0 0, pp 0 0, pp 0 0, pp 0 0, pp 0 0, pp 0 0, pp 0 0, pp 0 0, pp 0 0, pp 0 0, pp 0 0, pp 0 0, pp 0 0, pp 0 0, pp 0 0, pp 0 0, pp 0 0, pp 0 0, pp 0 0, pp 0 0, pp 0 0, pp 0 0, pp 0 0, pp 0 0, pp 0 0, pp 0 0, pp 0 0, pp 0 0, pp 0 0, pp 0 0, pp 0 0, pp 0 0, pp 0 0, pp 0 0, pp 0 0, pp 0 0, pp 0 0, pp 0 0, pp 0 0, pp 0 0, pp 0 0, pp 0 0, pp 0 0, pp 0 0, pp 0 0, pp 0 0, pp 0 0, pn 796 3, pn 3171 1, pp 59 0, pp 3 0]⟩

def row15 : Row := ⟨"BIH", "Bosnia and Herzegovina", [pp 3280815 0, pp 7 2, pp 1 2, pp 44 1, pn 416447861114494 15, pp 656 3, pp 65932 0, pp 7621 0, pp 14465 0, pp 16847 3, pp 1632534 0, pp 441155 0, pp 207622 0, pp 97 4, pp 14 4, pp 7 4, pp 101 4, pp 4 4, pp 16 4, pn 19609987742795143 10, pn 9636116605368012 11, pn 24091867566344177 11, nn 10000000000000002 16, nn 9967652943650772 16, nn 9967652943650772 16, nn 972033364296882 15, nn 8994313691547768 16, nn 6953535026350731 16, nn 5648579113800742 16, nn 6023053645141273 16, nn 4358736247710152 16, nn 8361129853051296 16, nn 277475787239577 15, nn 844479615941312 15, nn 996226252377035 15, nn 998098504085573 15, nn 997627163400982 15, nn 965561895813744 15, nn 988036976376702 15, nn 9811694547961208 16, nn 981325729667593 15, nn 988541274515235 15, pn 1910285724 10, pp 0 0, pp 0 0, pp 0 0, pp 0 0, pp 0 0, pn 589714276 10, pn 589714276 10, pn 589714276 10, pn 25 2, pn 1910285724 10, pn 1910285724 10, pn 109838345833333 8, pn 100313129166667 8, pn 907879125 3, pn 812626958333334 9, pn 717374791666667 9, pn 622122625 3, pn 594276333333334 9, pn 566430041666667 9, pn 53858375 2, pn 729088083333333 9, pn 852186541666667 9, pp 975285 0, pn 417987467747881 16, pp 0 0, pp 0 0, pn 729709605361132 16, pn 17464103009754 16, pn 288040078493978 15, pn 125899511116655 15, pn 729756304394782 16, pp 8 4, pn 5280592814134 16, pn 877291059850522 16, pn 1907699183267 16, pp 1121 0, pp 1 0, pn 7235061268933 16, pp 0 0, pp 0 0, pp 0 0, pp 0 0, pp 0 0, pp 0 0, pp 0 0, pp 0 0, pp 0 0, pp 0 0, pp 0 0, pp 0 0, pp 0 0, pp 0 0, pp 0 0, pp 0 0, pp 0 0, pp 0 0, pp 0 0, pp 0 0, pp 0 0, pp 0 0, pp 0 0, pp 0 0, pp 0 0, pp 0 0, pp 0 0, pp 0 0, pp 0 0, pp 0 0, pp 0 0, pp 0 0, pp 0 0, pp 0 0, pp 0 0, pp 0 0, pp 0 0, pp 0 0, pp 0 0, pp 0 0, pp 0 0, pp 0 0, pp 0 0, pp 0 0, pp 0 0, pp 0 0, pp 0 0, pp 0 0, pp 0 0, pp 0 0, pp 0 0, pp 0 0, pp 0 0, pp 0 0, pp 0 0, pp 0 0, pp 0 0, pp 0 0, pp 0 0, pp 0 0, pp 0 0, pp 0 0, pp 0 0, pp 0 0, pp 0 0, pp 0 0, pp 0 0, pp 0 0, pp 0 0, pp 0 0, pp 0 0, pp 0 0, pp 0 0, pp 0 0, pp 0 0, pp 0 0, pp 0 0, pp 0 0, pp 0 0, pp 0 0, pp 0 0, pp 0 0, pp 0 0, pp 0 0, pp 0 0, pp 0 0, pp 0 0, pp 0 0, pp 0 0, pp 0 0, pp 0 0, pp 0 0, pp 0 0, pp 0 0, pp 0 0, pp 0 0, pp 0 0, pp 0 0, pp 0 0, pp 0 0, pp 0 0, pp 0 0, pp 0 0, pp 0 0, pp 0 0, pp 0 0, pp 0 0, pp 0 0, pp 0 0, pp 0 0, pp 0 0, pp 0 0, pp 0 0, pp 0 0, pp 0 0, pp 0 0, pp 0 0, pp 0 0, pp 0 0, pp 0 0, pp 0 0, pp 0 0, pp 0 0, pp 0 0, pn 796 3, pn 26996 1, pn 763 1, pn 15751 4]⟩

def row16 : Row := ⟨"BWA", "Botswana", [pp 2351625 0, pp 1 1, pp 0 0, pp 1 1, pn 274481211873514 14, pp 291 3, pp 3696 0, pp 344 0, pp 28277 0, pp 906 3, pp 1535138 0, pp 1202999 0, pp 192361 0, pp 2 4, pp 0 0, pp 0 0, pp 5 4, pp 0 0, pp 1 4, pn 19087962968644127 11, pn 688392439800077 11, pn 23418534939569625 12, nn 1725784314217441 16, nn 7772683090380447 16, nn 9867108504365496 16, nn 9378233115059272 16, nn 986624108996902 15, nn 7739927204170788 16, nn 5855419020192395 16, nn 4509324243995591 16, nn 1891303482647646 16, nn 985772105402214 16, nn 148493146422931 15, nn 6481994875364689 16, nn 7690454661103691 16, nn 7534572227185901 16, nn 832649124155986 15, nn 7881942620155801 16, nn 724595841769034 15, nn 580868591638822 15, nn 420551047263112 15, nn 258597354546614 15, pp 0 0, pp 0 0, pp 0 0, pp 0 0, pn 25 2, pn 25 2, pn 25 2, pn 25 2, pp 0 0, pp 0 0, pp 0 0, pp 0 0, pn 774125 2, pn 649416666666667 11, pn 524708333333333 11, pp 4 3, pn 649416666666667 11, pn 898833333333333 11, pn 114825 1, pn 139766666666667 10, pn 127295833333333 10, pn 114825 1, pn 102354166666667 10, pn 898833333333333 11, pn 443855581318317 16, pp 0 0, pp 0 0, pn 469525959367946 16, pn 17464103009754 16, pn 308454857313961 15, pn 137034472477918 15, pn 798574643371576 16, pp 0 0, pp 0 0, pn 890459338857502 16, pn 1936334052874 16, pp 262 0, pp 1 0, pn 1690977745281 16, pp 0 0, pp 0 0, pp 0 0, pp 0 0, pp 0 0, pp 0 0, pp 0 0, pp 0 0, pp 0 0, pp 0 0, pp 0 0, pp 0 0, pp 0 0, pp 0 0, pp 0 0, pp 0 0, pp 0 0, pp 0 0, pp 0 0, pp 0 0, pp 0 0, pp 0 0, pp 0 0, pp 0 0, pp 0 0, pp 0 0, pp 0 0, pp 0 0, pp 0 0, pp 0 0, pp 0 0, pp 0 0, pp 0 0, pp 0 0, pp 0 0, pp 0 0, pp 0 0, pp 0 0, pp 0 0, pp 0 0, pp 0 0, pp 0 0, pp 0 0, pp 0 0, pp 0 0, pp 0 0, pp 0 0, pp 0 0, pp 0 0, pp 0 0, pp 0 0, pp 0 0, pp 0 0, pp 0 0, pp 0 0, pp 0 0, pp 0 0, pp 0 0, pp 0 0, pp 0 0, pp 0 0, pp 0 0, pp 0 0, pp 0 0, pp 0 0, pp 0 0, pp 0 0, pp 0 0, pp 0 0, pp 0 0, pp 0 0, pp 0 0, pp 0 0, pp 0 0, pp 0 0, pp 0 0, pp 0 0, pp 0 0, pp 0 0, pp 0 0, pp 0 0, pp 0 0, pp 0 0, pp 0 0, pp 0 0, pp 0 0, pp 0 0, pp 0 0, pp 0 0, pp 0 0, pp 0 0, pp 0 0, pp 0 0, pp 0 0, pp 0 0, pp 0 0, pp 0 0, pp 0 0, pp 0 0, pp 0 0, pp 0 0, pp 0 0, pp 0 0, pp 0 0, pp 0 0, pp 0 0, pp 0 0, pp 0 0, pp 0 0, pp 0 0, pp 0 0, pp 0 0, pp 0 0, pp 0 0, pp 0 0, pp 0 0, pp 0 0, pp 0 0, pp 0 0, pp 0 0, pp 0 0, pp 0 0, pp 0 0, pp 0 0, pn 796 3, pp 978 0, pn 424 1, pn 1512 3]⟩

def row17 : Row := ⟨"BRA", "Brazil", [pp 213 6, pp 22146 1, pp 3377 1, pp 13591 1, pn 961703580235718 12, pp 36256 3, pp 1378748 1, pp 4482048 0, pp 101 5, pp 1514175 3, pp 7385423 1, pp 227758946 0, pp 16167625 0, pp 5909 4, pp 587 4, pp 98 4, pp 8859 4, pp 334 4, pp 2384 4, pn 2871984214162386 7, pn 2823201490394548 8, pn 6141331004327513 8, nn 644471063350425 16, nn 6844731828555126 16, nn 8659908877081438 16, nn 8499898694140515 16, nn 8520703496417606 16, nn 790548572036421 15, nn 7117007104668156 16, nn 5543196841121266 16, nn 4090541386621745 16, nn 2096014460508108 16, nn 642763831647528 16, nn 51492186853344 14, nn 657471565086837 15, nn 754025707948903 15, nn 810092323973598 15, nn 817896457827151 15, nn 826482027092155 15, nn 7654636611020641 16, nn 6756745047601611 16, nn 532128471522416 15, pn 1271477938 10, pn 2766891597 13, pn 7904459826 11, pn 1228522062 10, pn 1228522062 10, pn 1228522062 10, pn 4408429707 11, pp 0 0, pp 0 0, pn 1268711047 10, pn 1268711047 10, pn 1271477938 10, pn 1431995175 1, pn 122344188666667 6, pn 121267297333333 6, pn 13119039375 2, pn 14111349016666698 8, pn 151036586583333 6, pn 1411812455 1, pn 120256440666667 6, pn 993316358333333 7, pn 11026386825 2, pn 121265576666667 6, pn 132267285083333 6, pn 623770546550636 16, pn 1508022680661 16, pp 0 0, pn 636813097746799 16, pn 17464103009754 16, pn 284067280846014 15, pn 123774254548761 15, pn 716705078185214 16, pp 21876 3, pn 1443978105025208 16, pn 725127715211262 14, pn 157681482620901 16, pp 63518 0, pp 1 0, pn 409952383300719 16, pn 60638950459653 16, pn 60638950459653 16, pn 60638950459653 16, pn 60638950459653 16, pn 513087331930351 14, pn 524362993540548 14, pn 492030509817687 14, pn 46683508168179 13, pn 463823676598062 14, pn 600214139287857 14, pn 662980059142743 14, pn 652621707579973 14, pn 616101356502706 14, pn 595018817535825 14, pn 598254006035588 14, pn 575138602659762 14, pn 534927567262475 14, pn 56354932786586 13, pn 593421889046501 14, pn 621200006158409 14, pn 664385524497795 14, pn 649315553404993 14, pn 626979167617081 14, pn 624455648534441 14, pn 632905558783962 14, pn 60133358271368 13, pn 577123889563217 14, pn 523725329576039 14, pn 528054034294386 14, pn 517080581053949 14, pn 504512760004019 14, pn 515028932560756 14, pn 522537198049163 14, pn 537689665159732 14, pn 500509601033812 14, pn 4772076101216 12, pn 467123777917904 14, pn 459050063793361 14, pn 436864530361185 14, pn 446372558731299 14, pn 425132601055032 14, pn 427053143720366 14, pn 427515597814663 14, pn 427995624449752 14, pn 434446968231887 14, pn 443839059159178 14, pn 433790435689237 14, pn 410427890884972 14, pn 395922940772669 14, pn 385813022968421 14, pn 385422983928974 14, pn 393379427829542 14, pn 408360572648367 14, pn 41349048601683 13, pn 392342251368016 14, pn 352905300257004 14, pn 354474851330794 14, pn 354643610337545 14, pn 356127144531301 14, pn 355395478590893 14, pn 333551992358926 14, pn 322904932675794 14, pn 337685792489118 14, pn 381003807355676 14, pn 3939280586862 12, pn 400078427267938 14, pn 363854728096397 14, pn 322582152513956 14, pn 308095287150628 14, pn 331959315576961 14, pn 346508737113523 14, pn 339073757575237 14, pn 317278396273062 14, pn 304578204649254 14, pn 313208441277231 14, pn 338615348856024 14, pn 386865464226616 14, pn 378923916109644 14, pn 330709009325739 14, pn 27517952084041 13, pn 269355353448493 14, pn 294788875246371 14, pn 345419292528308 14, pn 354164385752182 14, pn 332466074257035 14, pn 314688596648957 14, pn 317931842159276 14, pn 358824584202161 14, pn 394128549340815 14, pn 371148659608867 14, pn 328695923677909 14, pn 291081353395429 14, pn 298498078042595 14, pn 352783846829635 14, pn 401985807106281 14, pn 407960417091931 14, pn 391291735004089 14, pn 384233819061174 14, pn 395598890191772 14, pn 431143714966666 14, pn 453878448041106 14, pn 429786658771071 14, pn 400003805654218 14, pn 396007217332211 14, pn 388874690348231 14, pn 432111614343505 14, pn 474156635929177 14, pn 479445125936852 14, pn 469133770859798 14, pn 461163963251786 14, pn 474396165849023 14, pn 508059250254802 14, pn 549835243423434 14, pn 54712022724103 13, pn 496015868681124 14, pn 458872132797464 14, pn 442171704333674 14, pn 477531475391822 14, pn 544240021193951 14, pn 579044720880605 14, pn 552478201955802 14, pn 519136018069724 14, pn 518788473539435 14, pn 561459179938056 14, pn 796 3, pn 16936 1, pn 823 1, pn 23667998 7]⟩

def row18 : Row := ⟨"BRN", "Brunei Darussalam", [pp 437483 0, pp 0 0, pp 0 0, pp 0 0, pn 17687373798466 14, pp 0 0, pp 26326 0, pp 31 0, pp 191 1, pp 19668 3, pp 11446 0, pp 2883 0, pp 105 0, pp 0 0, pp 0 0, pp 0 0, pp 0 0, pp 0 0, pp 0 0, pn 4904889486771878 12, pn 13640660496026916 14, pn 3951855404467727 13, np 1 0, np 1 0, np 1 0, np 1 0, np 1 0, np 1 0, np 1 0, np 1 0, np 1 0, np 1 0, np 1 0, np 1 0, np 1 0, np 1 0, np 1 0, np 1 0, np 1 0, np 1 0, np 1 0, np 1 0, pn 25 2, pn 25 2, pn 25 2, pn 25 2, pp 0 0, pp 0 0, pp 0 0, pp 0 0, pp 0 0, pp 0 0, pp 0 0, pp 0 0, pn 526041666666667 12, pn 673958333333333 12, pn 821875 3, pn 969791666666667 12, pn 895833333333333 12, pn 821875 3, pn 747916666666667 12, pn 673958333333333 12, pp 6 2, pn 526041666666667 12, pn 452083333333333 12, pp 6 2, pn 451000913432071 16, pn 11014039445705 16, pn 37776501041637 16, pn 297483136625652 16, pn 17464103009754 16, pn 437507690357201 15, pn 216857795215492 15, pn 131448072193016 15, pp 0 0, pp 0 0, pn 106874290146479 15, pn 2324017710375 16, pp 1 1, pp 1 0, pn 645411353160867 20, pn 1303280072621 16, pn 1303280072621 16, pn 1303280072621 16, pn 5 4, pn 175435425176481 14, pn 174687909534561 14, pn 132526710333623 14, pn 10894157867869 13, pn 128551540746042 14, pn 307586679183569 14, pn 411949723149241 14, pn 413001697107147 14, pn 373151259279135 14, pn 364494469935826 14, pn 367627345316203 14, pn 339438837233562 14, pn 296932453030631 14, pn 317154040234602 14, pn 351852666556997 14, pn 393109760974266 14, pn 452235855792299 14, pn 461793755125513 14, pn 441603255458607 14, pn 439978921580841 14, pn 438220531963644 14, pn 411845183381513 14, pn 395832540327996 14, pn 354770612592589 14, pn 341803660501108 14, pn 321197570317955 14, pn 316748399344889 14, pn 319474156198058 14, pn 346213013606221 14, pn 367188893855819 14, pn 349188069322977 14, pn 327363154790049 14, pn 308501789801726 14, pn 308379775952604 14, pn 287518849303107 14, pn 290088447251308 14, pn 269181648948018 14, pn 26680129851077 13, pn 259031644491008 14, pn 256088426967214 14, pn 269627574299937 14, pn 289092995161537 14, pn 280097323272331 14, pn 269837585523674 14, pn 249126191151516 14, pn 229206925463001 14, pn 23079073150992 13, pn 248857075959849 14, pn 255334859813408 14, pn 254146098040422 14, pn 232682190444455 14, pn 200538842205611 14, pn 20412851903952 13, pn 217108941741431 14, pn 221572766356145 14, pn 219718973936091 14, pn 192358462437988 14, pn 177795081819962 14, pn 196707082953172 14, pn 235094953689013 14, pn 248289211470693 14, pn 244611467822232 14, pn 203589403144879 14, pn 171552813720964 14, pn 171573129831579 14, pn 195742945535128 14, pn 211076216813198 14, pn 209764242946365 14, pn 193525287729021 14, pn 174835234696924 14, pn 184200138375307 14, pn 198728599785949 14, pn 242239712924235 14, pn 237794656833356 14, pn 192975688145191 14, pn 145044931027268 14, pn 144724928633821 14, pn 178901634680745 14, pn 225286382340578 14, pn 224369136180392 14, pn 195833706936713 14, pn 177174200828644 14, pn 183793335843467 14, pn 216031001800275 14, pn 243040512459709 14, pn 217367424274253 14, pn 16820003650444 13, pn 136242151907685 14, pn 137244104560406 14, pn 189544875656872 14, pn 239949654610283 14, pn 234797576473278 14, pn 21157738842697 13, pn 200284549480744 14, pn 205274380434133 14, pn 22941331015885 13, pn 249820951924197 14, pn 220583839959753 14, pn 184653273756604 14, pn 184625357144848 14, pn 175677871255755 14, pn 220391522300563 14, pn 269163164429181 14, pn 264123847045561 14, pn 246766054662045 14, pn 224144413592101 14, pn 236570465099245 14, pn 256996014850562 14, pn 279789150975588 14, pn 265288714690626 14, pn 205539887033517 14, pn 179700223612738 14, pn 178257449823275 14, pn 230092271225776 14, pn 307609931233833 14, pn 349287166624032 14, pn 311141515628867 14, pn 259955677117142 14, pn 247591379120906 14, pn 272667468091998 14, pn 796 3, pn 8478 1, pp 35 0, pn 15375999 7]⟩

def row19 : Row := ⟨"BFA", "Burkina Faso", [pp 20903278 0, pp 385 1, pp 56 1, pp 244 1, pn 85856807852448 13, pp 449 3, pp 45297 0, pp 40538 0, pp 108296 0, pp 39847 3, pp 29762094 0, pp 11639511 0, pp 166 4, pp 5 4, pp 0 0, pp 1 4, pp 63 4, pp 3 4, pp 15 4, pn 5762894319624121 9, pn 4862889597925112 10, pn 6880607494552274 10, nn 2657748642584149 16, nn 71909789634557 14, nn 7902911624047841 16, nn 7305290307642978 16, nn 728962768538389 15, nn 433461960387194 15, nn 2107689388893213 16, nn 997570474697669 16, pn 224736700959369 16, pn 46167977827961 16, nn 218592304659666 15, nn 646530464336078 15, nn 783713218106414 15, nn 788239082498495 15, nn 735810383022163 15, nn 606036441697712 15, nn 466648521655434 15, nn 360438186481453 15, nn 179258635162136 15, nn 291765364441281 15, pn 2457327741 10, pp 0 0, pp 0 0, pp 0 0, pn 4267225876 12, pn 4267225876 12, pn 4267225876 12, pn 4267225876 12, pp 0 0, pn 2457327741 10, pn 2457327741 10, pn 2457327741 10, pn 13089065 1, pn 117220566666667 8, pn 103550483333333 8, pp 898804 0, pn 769103166666667 9, pn 639402333333334 9, pn 50970150000000006 11, pn 380000666666667 9, pn 243299833333333 9, pn 50970150000000006 11, pn 776103166666667 9, pn 104250483333333 8, pn 425380301762865 16, pp 0 0, pp 0 0, pn 737781954887218 16, pn 17464103009754 16, pp 0 0, pp 0 0, pp 0 0, pp 0 0, pp 0 0, pn 593497040312739 16, pn 1290579456342 16, pp 61 2, pp 1 0, pn 39370092542812 16, pp 0 0, pp 0 0, pp 0 0, pp 0 0, pp 0 0, pp 0 0, pp 0 0, pp 0 0, pp 0 0, pp 0 0, pp 0 0, pp 0 0, pp 0 0, pp 0 0, pp 0 0, pp 0 0, pp 0 0, pp 0 0, pp 0 0, pp 0 0, pp 0 0, pp 0 0, pp 0 0, pp 0 0, pp 0 0, pp 0 0, pp 0 0, pp 0 0, pp 0 0, pp 0 0, pp 0 0, pp 0 0, pp 0 0, pp 0 0, pp 0 0, pp 0 0, pp 0 0, pp 0 0, pp 0 0, pp 0 0, pp 0 0, pp 0 0, pp 0 0, pp 0 0, pp 0 0, pp 0 0, pp 0 0, pp 0 0, pp 0 0, pp 0 0, pp 0 0, pp 0 0, pp 0 0, pp 0 0, pp 0 0, pp 0 0, pp 0 0, pp 0 0, pp 0 0, pp 0 0, pp 0 0, pp 0 0, pp 0 0, pp 0 0, pp 0 0, pp 0 0, pp 0 0, pp 0 0, pp 0 0, pp 0 0, pp 0 0, pp 0 0, pp 0 0, pp 0 0, pp 0 0, pp 0 0, pp 0 0, pp 0 0, pp 0 0, pp 0 0, pp 0 0, pp 0 0, pp 0 0, pp 0 0, pp 0 0, pp 0 0, pp 0 0, pp 0 0, pp 0 0, pp 0 0, pp 0 0, pp 0 0, pp 0 0, pp 0 0, pp 0 0, pp 0 0, pp 0 0, pp 0 0, pp 0 0, pp 0 0, pp 0 0, pp 0 0, pp 0 0, pp 0 0, pp 0 0, pp 0 0, pp 0 0, pp 0 0, pp 0 0, pp 0 0, pp 0 0, pp 0 0, pp 0 0, pp 0 0, pp 0 0, pp 0 0, pp 0 0, pp 0 0, pp 0 0, pp 0 0, pp 0 0, pp 0 0, pp 0 0, pp 0 0, pn 796 3, pp 88 0, pn 69200005 6, pn 11876 4]⟩

def row20 : Row := ⟨"MMR", "Myanmar", [pp 54409794 0, pp 5357 2, pp 7626 1, pp 35262 1, pn 459039817301256 13, pp 2529 3, pp 15 5, pp 1127135 0, pp 45633 1, pp 38554 4, pp 31127714 0, pp 2312326 1, pp 3766667 0, pp 324 4, pp 55 4, pp 7 4, pp 956 4, pp 45 4, pp 149 4, pn 3363424393794574 8, pn 1367184925346237 9, pn 33358021871260065 10, nn 4524768402046593 16, nn 9989233805287931 16, nn 9992156271503008 16, nn 9932437134014704 16, nn 9209877572518296 16, nn 9782096411742104 16, nn 939660737140772 15, nn 8781422402580128 16, nn 6441620122283553 16, nn 4187032384856721 16, nn 142780917235134 15, nn 741425586433076 15, nn 844131181029553 15, nn 8552687645199291 16, nn 948706309616422 15, nn 932243765650949 15, nn 944376791956241 15, nn 932568373543101 15, nn 8969113383459231 16, nn 809719897817272 15, pn 2381550489 10, pn 2028821571 10, pn 2028821571 10, pn 2059419384 10, pn 9508289432 12, pn 9508289432 12, pn 1184495114 11, pn 878516985 11, pn 2336661707 12, pn 3760955344 11, pn 3527289173 11, pn 3527289173 11, pn 182282429166667 8, pn 34913333333333298 10, pn 5159842375 3, pn 687105591666667 8, pn 584070070833333 8, pn 48103455 1, pn 38126024166666702 10, pn 27721548333333298 10, pn 164170725 2, pn 100355341666667 8, pn 332787458333334 9, pn 249359025 2, pn 422602849367696 16, pn 15973597359736 15, pn 368911917098446 16, pn 594823404912033 16, pn 17464103009754 16, pn 102281548838071 15, pn 389811249693513 16, pn 216882125658076 16, pp 0 0, pp 0 0, pn 487808268364994 15, pn 10607556348624 16, pp 125 2, pp 1 0, pn 80676419145108 16, pn 15623171056885 16, pn 15623171056885 16, pn 15623171056885 16, pn 15623171056885 16, pn 104462928928399 13, pn 107353565103232 13, pn 103932608079095 13, pn 100638214829153 13, pn 982932004629659 14, pn 114634503153017 13, pn 120526954443097 13, pn 117953723063019 13, pn 112609105076942 13, pn 108188162608913 13, pn 108923969502021 13, pn 106651249690074 13, pn 101094295235941 13, pn 106044455826692 13, pn 109671213470669 13, pn 112207097480749 13, pn 117010408027705 13, pn 112696083941088 13, pn 109466330865936 13, pn 108948534875927 13, pn 111131410401486 13, pn 105757769033842 13, pn 101486538753365 13, pn 926620088269116 14, pn 950795107489292 14, pn 944841786603207 14, pn 916579621268551 14, pn 939518053875552 14, pn 930831360797472 14, pn 951656216000671 14, pn 878261004294571 14, pn 842637110619779 14, pn 834535387647427 14, pn 811469814842215 14, pn 777873547403519 14, pn 799740831814672 14, pn 768162271492863 14, pn 775535678940707 14, pn 78456136695809 13, pn 788234241479958 14, pn 790781078607326 14, pn 796992828403785 14, pn 782723808395923 14, pn 73534558997615 13, pn 717735916257441 14, pn 709751757661668 14, pn 706669404843699 14, pn 707586049124551 14, pn 738572226635145 14, pn 752309127446057 14, pn 720838496609505 14, pn 655027553428903 14, pn 655448253473075 14, pn 645888118921901 14, pn 648965517527458 14, pn 64968067065901 13, pn 619850339649028 14, pn 604824136772273 14, pn 620631693653891 14, pn 689453906291949 14, pn 70713105533393 13, pn 724203367529441 14, pn 674423792822874 14, pn 605796302054787 14, pn 572105131885089 14, pn 610616217783801 14, pn 63466366735931 13, pn 617758778533267 14, pn 576987213429858 14, pn 560349207201704 14, pn 570229446048452 14, pn 618772250294256 14, pn 693159124987793 14, pn 674423743185867 14, pn 600210654335467 14, pn 512814169916847 14, pn 502593930465891 14, pn 534594022484031 14, pn 616879271037409 14, pn 639560287210772 14, pn 61202969661372 13, pn 582416971345373 14, pn 581482119544764 14, pn 649798348780194 14, pn 70734729062574 13, pn 671505722565057 14, pn 615883871482525 14, pn 559425102865466 14, pn 580431582857677 14, pn 666395616128984 14, pn 740532622296824 14, pn 762025318598269 14, pn 740149605611624 14, pn 731408057637338 14, pn 751655107975059 14, pn 813141637822371 14, pn 842689570286338 14, pn 808231205312287 14, pn 772271234389035 14, pn 766848468409568 14, pn 763426272878731 14, pn 828948314457289 14, pn 887088450069435 14, pn 908617933429853 14, pn 8982552869375 12, pn 898784203220411 14, pn 914822261669797 14, pn 969679902785242 14, pn 104383691960851 13, pn 104894561200081 13, pn 983465839803647 14, pn 925178884892611 14, pn 889368814313954 14, pn 930558460937762 14, pn 102161333252708 13, pn 106828489858603 13, pn 104031667734145 13, pn 100547590738195 13, pn 101101242926437 13, pn 108567151114467 13, pn 796 3, pn 4586 1, pn 655 1, pn 149 2]⟩

end Allfed.Gen.CountryTable
