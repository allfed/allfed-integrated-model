-- GENERATED on every check run by harness/translators/tr_country.py (run): rows 63..83 of the combined country table
-- REGENERATED in the scratch copy by re-running the import scripts of scripts/run_all_imports.sh.  Do not edit.
import AllfedModel.Model.CountryTable
namespace Allfed.Gen.CountryTable
open Allfed.CountryTable


def row63 : Row := ⟨"KAZ", "Kazakhstan", [pp 1875444 1, pp 564 1, pp 83 1, pp 355 1, pn 298340509524808 13, pp 5856 3, pp 22863 1, pp 87478 0, pp 521847 0, pp 4352 4, pp 20874303 0, pp 11257533 0, pp 2539679 0, pp 336 4, pp 22 4, pp 42 4, pp 435 4, pp 24 4, pp 89 4, pn 21025322530924417 9, pn 12641072959130306 10, pn 2997751234225593 9, np 1 0, np 1 0, np 1 0, nn 9994445314678992 16, nn 9874950904296418 16, nn 8459408838503851 16, nn 5985841274131402 16, nn 4022981950558939 16, nn 249514359181515 15, nn 1283874710979508 16, nn 1663982420898599 16, nn 999971640174801 15, nn 984761933966602 15, nn 8463664692574 13, nn 7657767440226201 16, nn 728657310288188 15, nn 636874289697002 15, nn 511625422663687 15, nn 397370790304509 15, nn 386566152827338 15, pn 4179018845 12, pn 4179018845 12, pn 4179018845 12, pn 4179018845 12, pn 3755247346 13, pn 3755247346 13, pn 5652988532 11, pn 5652988532 11, pn 2454454564 10, pn 2454454564 10, pn 1892910958 10, pn 1892910958 10, pn 140508322083333 7, pn 128388286666667 7, pn 11626825125 3, pn 104148215833333 7, pn 914457929166667 8, pp 7874337 0, pn 746392508333334 8, pn 415510541666667 8, pn 663735125 2, pn 911959708333333 8, pn 107420125416667 7, pn 1242841675 2, pn 676915657625484 16, pp 0 0, pn 1592680447306 14, pn 5750121291621 15, pn 17464103009754 16, pn 35502431126668 14, pn 163855616388509 15, pn 967421678627509 16, pp 0 0, pp 0 0, pn 10316164559722 13, pn 22432849946498 16, pp 29989 0, pp 1 0, pn 193552410699412 16, pp 0 0, pp 0 0, pp 0 0, pp 0 0, pp 0 0, pp 0 0, pp 0 0, pp 0 0, pp 0 0, pp 0 0, pp 0 0, pp 0 0, pp 0 0, pp 0 0, pp 0 0, pp 0 0, pp 0 0, pp 0 0, pp 0 0, pp 0 0, pp 0 0, pp 0 0, pp 0 0, pp 0 0, pp 0 0, pp 0 0, pp 0 0, pp 0 0, pp 0 0, pp 0 0, pp 0 0, pp 0 0, pp 0 0, pp 0 0, pp 0 0, pp 0 0, pp 0 0, pp 0 0, pp 0 0, pp 0 0, pp 0 0, pp 0 0, pp 0 0, pp 0 0, pp 0 0, pp 0 0, pp 0 0, pp 0 0, pp 0 0, pp 0 0, pp 0 0, pp 0 0, pp 0 0, pp 0 0, pp 0 0, pp 0 0, pp 0 0, pp 0 0, pp 0 0, pp 0 0, pp 0 0, pp 0 0, pp 0 0, pp 0 0, pp 0 0, pp 0 0, pp 0 0, pp 0 0, pp 0 0, pp 0 0, pp 0 0, pp 0 0, pp 0 0, pp 0 0, pp 0 0, pp 0 0, pp 0 0, pp 0 0, pp 0 0, pp 0 0, pp 0 0, pp 0 0, pp 0 0, pp 0 0, pp 0 0, pp 0 0, pp 0 0, pp 0 0, pp 0 0, pp 0 0, pp 0 0, pp 0 0, pp 0 0, pp 0 0, pp 0 0, pp 0 0, pp 0 0, pp 0 0, pp 0 0, pp 0 0, pp 0 0, pp 0 0, pp 0 0, pp 0 0, pp 0 0, pp 0 0, pp 0 0, pp 0 0, pp 0 0, pp 0 0, pp 0 0, pp 0 0, pp 0 0, pp 0 0, pp 0 0, pp 0 0, pp 0 0, pp 0 0, pp 0 0, pp 0 0, pp 0 0, pp 0 0, pp 0 0, pp 0 0, pn 796 3, pn 20067001 4, pn 72700005 6, pn 18413999 7]⟩

def row64 : Row := ⟨"KEN", "Kenya", [pp 537713 2, pp 2345 1, pp 355 1, pp 1452 1, pn 268782281898463 13, pp 5457 3, pp 69212 0, pp 25785 0, pp 244217 0, pp 57887 3, pp 62016377 0, pp 26325476 0, pp 511234 1, pp 108 4, pp 44 4, pp 0 0, pp 83 4, pp 6 4, pp 16 4, pn 7460369835982628 9, pn 3187428610744859 10, pn 918519676322511 9, nn 2495680140169683 16, nn 8974742621381472 16, nn 8944955558502327 16, nn 8773217349009522 16, nn 6066410992416771 16, nn 8383109596469625 16, nn 7367891494808451 16, nn 5907780739401683 16, nn 274506983254802 15, pn 6224222150315739 16, pn 143515910712716 15, nn 641633867785542 15, nn 7598609539495971 16, nn 756810243229155 15, nn 6990745840341159 16, nn 718325933619722 15, nn 635851782792465 15, nn 469370167553357 15, nn 341500721155208 15, nn 186969803833374 15, pn 3729398828 12, pp 0 0, pp 0 0, pp 0 0, pn 3151604643 11, pn 3151604643 11, pn 2462706012 10, pn 2462706012 10, pn 2147545547 10, pn 2184839536 10, pn 3729398828 12, pn 3729398828 12, pn 25006324166666702 10, pn 21595363333333298 10, pn 181844025 2, pn 147734416666667 8, pn 126524808333333 8, pp 1053152 0, pn 172007916666667 8, pn 23870063333333298 10, pn 29249335 1, pn 347812566666667 8, pn 315229458333333 8, pn 28264635 1, pn 405196338001212 16, pn 11225864391558 16, pp 0 0, pn 8975176207041 14, pn 17464103009754 16, pn 666647461187021 16, pn 247980998582579 16, pn 137073557379805 16, pp 0 0, pp 0 0, pn 366745254164981 15, pn 7975000018316 16, pp 633 1, pp 1 0, pn 40854538655082 16, pn 4338870303881 16, pn 4338870303881 16, pn 4338870303881 16, pn 5 4, pn 225563619622158 14, pn 224007972500148 14, pn 148606453827951 14, pn 114355202888872 14, pn 160951789253174 14, pn 521966083355326 14, pn 743437685745195 14, pn 747972711789109 14, pn 664280356141849 14, pn 646647044242444 14, pn 65771874112729 13, pn 615087329436925 14, pn 534977880528962 14, pn 571758638142947 14, pn 633725490408862 14, pn 710580962719998 14, pn 827223961234327 14, pn 854518932298853 14, pn 820843801067746 14, pn 816608141169708 14, pn 810982541964485 14, pn 755868200634493 14, pn 727441488563201 14, pn 653695979028396 14, pn 628534685511087 14, pn 589070949208488 14, pn 577589039896562 14, pn 581788069739559 14, pn 633828785774011 14, pn 683619681625962 14, pn 650726280711991 14, pn 608688789791755 14, pn 567459044912239 14, pn 561208414528042 14, pn 521499840213542 14, pn 527972658978082 14, pn 487388133502636 14, pn 483010833322668 14, pn 4676713228069 12, pn 460844068580014 14, pn 487837613254963 14, pn 531162341657829 14, pn 516884731434986 14, pn 497902067622137 14, pn 452361893257602 14, pn 407266102333234 14, pn 409386816082206 14, pn 443703262940789 14, pn 456681029282089 14, pn 453750216969654 14, pn 41069449815675 13, pn 347683974395228 14, pn 355036326450263 14, pn 3869939531218 12, pn 403586377822991 14, pn 401259844107923 14, pn 341374567255376 14, pn 306303937445421 14, pn 339662756674879 14, pn 414268590561571 14, pn 437778663119636 14, pn 426460470008121 14, pn 343931557743281 14, pn 284893096423649 14, pn 290026347343356 14, pn 344407639823311 14, pn 381088516403793 14, pn 37920574097581 13, pn 34168359641049 13, pn 297148329944834 14, pn 311217239211973 14, pn 339382155452187 14, pn 420949780539445 14, pn 405406533156939 14, pn 318779014623005 14, pn 229910459740717 14, pn 2373108082246 12, pn 31085020745919 13, pn 407807608795591 14, pn 405775190382202 14, pn 345063849689118 14, pn 300087762760537 14, pn 308478371667017 14, pn 369597783750681 14, pn 416213884386239 14, pn 35673784418279 13, pn 261088270593267 14, pn 20841204638453 13, pn 217349193744004 14, pn 327051500737282 14, pn 430934827503372 14, pn 423438857629996 14, pn 370150089910681 14, pn 342785217891785 14, pn 346413286727789 14, pn 388217941446816 14, pn 415270708063935 14, pn 349864476608232 14, pn 283136535533392 14, pn 292162278737474 14, pn 285190579039329 14, pn 378904646399308 14, pn 480046378209707 14, pn 476505625357688 14, pn 437905938224189 14, pn 388326244550295 14, pn 403945554491463 14, pn 427047613698725 14, pn 457654226002208 14, pn 423444946558973 14, pn 30901188433574 13, pn 274798000248855 14, pn 280908906252639 14, pn 393828629819519 14, pn 552466284019736 14, pn 638494859265154 14, pn 562808407419351 14, pn 455094432883848 14, pn 418448007315187 14, pn 454716994967059 14, pn 796 3, pn 4885 1, pp 65 0, pn 14 1]⟩

def row65 : Row := ⟨"PRK", "Democratic People's Republic of Korea", [pp 25778815 0, pp 4006 1, pp 583 1, pp 2535 1, pn 205893237752199 14, pp 84 3, pp 31687 0, pp 110291 0, pp 20926 0, pp 5321 4, pp 623 4, pp 629455 0, pp 36268 0, pp 22 4, pp 0 0, pp 0 0, pp 63 4, pp 3 4, pp 11 4, pn 5290900082263359 9, pn 17807258538983524 11, pn 6142865119293205 10, nn 9997210030165518 16, np 1 0, np 1 0, np 1 0, np 1 0, np 1 0, nn 999846287908048 15, nn 992182822199007 15, nn 962510875571598 15, nn 6600303974965853 16, nn 517529169335389 15, nn 999995200195163 15, nn 9942642773043572 16, nn 9999954067376008 16, nn 935760319036214 15, nn 8373888309244261 16, nn 871715609351084 15, nn 908222103206124 15, nn 92844054940566 14, nn 92278488072624 14, pn 1125219903 10, pn 961795611 10, pn 961795611 10, pn 961795611 10, pp 0 0, pp 0 0, pn 1374780097 10, pn 1374780097 10, pn 1374780097 10, pn 1538204389 10, pn 1634242917 11, pn 1634242917 11, pn 1014448875 3, pn 106318025 2, pn 1111911625 3, pp 1160643 0, pn 844523125 3, pn 52840325 2, pn 73379775 2, pn 93919225 2, pn 114458675 2, pn 141197525 2, pn 1157849375 3, pn 126857475 2, pn 542474292474293 16, pp 0 0, pp 0 0, pn 802083333333333 16, pn 17464103009754 16, pp 0 0, pp 0 0, pp 0 0, pp 43 3, pn 2838318637597 16, pp 0 0, pp 0 0, pp 258 1, pp 1 0, pn 1665161291155 15, pn 20196793671984 16, pn 20196793671984 16, pn 20196793671984 16, pn 20196793671984 16, pn 125307230730804 14, pn 125367846568973 14, pn 116446966839296 14, pn 103527954468509 14, pn 961512922389098 15, pn 932072750118132 15, pn 804617605532861 15, pn 780306824251848 15, pn 820221624164208 15, pn 823418956292081 15, pn 775359495051149 15, pn 637903450301987 15, pn 588870255322997 15, pn 625494423262561 15, pn 699798427051329 15, pn 756385592285336 15, pn 77247750350272 14, pn 690685779521733 15, pn 623627098494677 15, pn 633497019919744 15, pn 654585219628031 15, pn 678221661285326 15, pn 642235920927908 15, pn 558452461567825 15, pn 550726354911298 15, pn 533241914274222 15, pn 559077587932166 15, pn 571602426565577 15, pn 585972414384307 15, pn 507581060856766 15, pn 476498579339626 15, pn 460375197883433 15, pn 495445346912131 15, pn 555511373771659 15, pn 535378583926726 15, pn 522042355245346 15, pn 509751643933992 15, pn 505917636988734 15, pn 503919661751173 15, pn 513327853544145 15, pn 514175353449103 15, pn 470236486652447 15, pn 433099151096754 15, pn 417731034252111 15, pn 4589048904543 13, pn 511477485927674 15, pn 521946469376341 15, pn 540108889789081 15, pn 539886903447276 15, pn 545419791111906 15, pn 546698827321603 15, pn 533937100159938 15, pn 532207116287776 15, pn 472239303610618 15, pn 395591548892984 15, pn 381781037642599 15, pn 433423576206002 15, pn 492862261945019 15, pn 537514092314661 15, pn 559213168164554 15, pn 587997598217513 15, pn 627624656363427 15, pn 632472485464784 15, pn 582125310182791 15, pn 531199123198026 15, pn 470782512469459 15, pn 410639172226025 15, pn 403227449169194 15, pn 453669790475513 15, pn 525221394490141 15, pn 571830375386405 15, pn 580750441197102 15, pn 635296453090261 15, pn 701827805097738 15, pn 671723616673777 15, pn 60179402313819 14, pn 521390490430414 15, pn 469530619023012 15, pn 427651558855648 15, pn 42963081978582 14, pn 46603564184307 14, pn 542606388967509 15, pn 59108300019918 14, pn 624642198498689 15, pn 69867140533179 14, pn 779970043657163 15, pn 753118024156137 15, pn 640722574308407 15, pn 571390153768085 15, pn 520382505764622 15, pn 489644817171928 15, pn 461562953165597 15, pn 530046869432579 15, pn 577838810697034 15, pn 641354741404765 15, pn 706086788708845 15, pn 843711957844599 15, pn 913032033112738 15, pn 861700119798149 15, pn 770884355522217 15, pn 661651634721807 15, pn 618783982018184 15, pn 582799506486546 15, pn 517420687334327 15, pn 556261710999006 15, pn 599625826339062 15, pn 691953757070279 15, pn 869444160023993 15, pn 101924075948968 14, pn 107132482822279 14, pn 102067889731294 14, pn 846024469766208 15, pn 756059933939122 15, pn 66355912632032 14, pn 627535784479301 15, pn 600794739829099 15, pn 594746238383821 15, pn 648169213504355 15, pn 767347509266252 15, pn 906179412169381 15, pn 796 3, pn 23236 1, pp 5 1, pn 11 1]⟩

def row66 : Row := ⟨"KOR", "Republic of Korea", [pp 51780579 0, pp 3002 2, pp 4406 1, pp 1806 2, pn 29198312723349403 15, pp 1818 3, pp 962 3, pp 1403 3, pp 287 3, pp 186573 3, pp 11477979 0, pp 3830004 0, pp 202349 0, pp 406 4, pp 102 4, pp 3 5, pp 994 4, pp 41 4, pp 238 4, pn 5737180921364907 9, pn 9274012485196097 11, pn 5362329032569405 10, nn 9879701259446676 16, nn 10000000000000002 16, nn 10000000000000002 16, nn 10000000000000002 16, nn 10000000000000002 16, nn 10000000000000002 16, nn 997112763647823 15, nn 9310537564074564 16, nn 7295615351620536 16, nn 923690278331373 16, nn 342988418057451 15, nn 999950508581687 15, nn 94424851259975 14, nn 984806250643775 15, nn 999992362405494 15, nn 888032404728063 15, nn 9317738586036032 16, nn 96096547299918 14, nn 97379973279586 14, nn 980824534214474 15, pn 2484358577 10, pn 2303055466 10, pp 0 0, pp 0 0, pp 0 0, pp 0 0, pn 1564142335 12, pn 1564142335 12, pn 1564142335 12, pn 1969445338 11, pn 2484358577 10, pn 2484358577 10, pn 708005620833333 8, pn 76635575 1, pn 7332711916666671 9, pn 700186633333333 8, pn 667102075 2, pn 634017516666667 8, pn 601553945833334 8, pn 569090375 2, pn 536626804166667 8, pn 5113612333333329 9, pn 5769093625 3, pn 6424574916666671 9, pn 227021427443144 16, pn 4347310595581 16, pp 0 0, pn 185632878604731 16, pn 17464103009754 16, pn 400355154799253 15, pn 192045283976726 15, pn 11497330623843 14, pp 424 3, pn 27987141914915 16, pn 106546601312655 13, pn 231689200547282 16, pp 1581 0, pp 1 0, pn 10203953493473 16, pn 19533011274748 16, pn 19533011274748 16, pn 19533011274748 16, pn 19533011274748 16, pn 125307230730804 14, pn 125367846568973 14, pn 116446966839296 14, pn 103527954468509 14, pn 961512922389098 15, pn 932072750118132 15, pn 804617605532861 15, pn 780306824251848 15, pn 820221624164208 15, pn 823418956292081 15, pn 775359495051149 15, pn 637903450301987 15, pn 588870255322997 15, pn 625494423262561 15, pn 699798427051329 15, pn 756385592285336 15, pn 77247750350272 14, pn 690685779521733 15, pn 623627098494677 15, pn 633497019919744 15, pn 654585219628031 15, pn 678221661285326 15, pn 642235920927908 15, pn 558452461567825 15, pn 550726354911298 15, pn 533241914274222 15, pn 559077587932166 15, pn 571602426565577 15, pn 585972414384307 15, pn 507581060856766 15, pn 476498579339626 15, pn 460375197883433 15, pn 495445346912131 15, pn 555511373771659 15, pn 535378583926726 15, pn 522042355245346 15, pn 509751643933992 15, pn 505917636988734 15, pn 503919661751173 15, pn 513327853544145 15, pn 514175353449103 15, pn 470236486652447 15, pn 433099151096754 15, pn 417731034252111 15, pn 4589048904543 13, pn 511477485927674 15, pn 521946469376341 15, pn 540108889789081 15, pn 539886903447276 15, pn 545419791111906 15, pn 546698827321603 15, pn 533937100159938 15, pn 532207116287776 15, pn 472239303610618 15, pn 395591548892984 15, pn 381781037642599 15, pn 433423576206002 15, pn 492862261945019 15, pn 537514092314661 15, pn 559213168164554 15, pn 587997598217513 15, pn 627624656363427 15, pn 632472485464784 15, pn 582125310182791 15, pn 531199123198026 15, pn 470782512469459 15, pn 410639172226025 15, pn 403227449169194 15, pn 453669790475513 15, pn 525221394490141 15, pn 571830375386405 15, pn 580750441197102 15, pn 635296453090261 15, pn 701827805097738 15, pn 671723616673777 15, pn 60179402313819 14, pn 521390490430414 15, pn 469530619023012 15, pn 427651558855648 15, pn 42963081978582 14, pn 46603564184307 14, pn 542606388967509 15, pn 59108300019918 14, pn 624642198498689 15, pn 69867140533179 14, pn 779970043657163 15, pn 753118024156137 15, pn 640722574308407 15, pn 571390153768085 15, pn 520382505764622 15, pn 489644817171928 15, pn 461562953165597 15, pn 530046869432579 15, pn 577838810697034 15, pn 641354741404765 15, pn 706086788708845 15, pn 843711957844599 15, pn 913032033112738 15, pn 861700119798149 15, pn 770884355522217 15, pn 661651634721807 15, pn 618783982018184 15, pn 582799506486546 15, pn 517420687334327 15, pn 556261710999006 15, pn 599625826339062 15, pn 691953757070279 15, pn 869444160023993 15, pn 101924075948968 14, pn 107132482822279 14, pn 102067889731294 14, pn 846024469766208 15, pn 756059933939122 15, pn 66355912632032 14, pn 627535784479301 15, pn 600794739829099 15, pn 594746238383821 15, pn 648169213504355 15, pn 767347509266252 15, pn 906179412169381 15, pn 796 3, pn 72883003 4, pn 765 1, pn 8886 4]⟩

def row67 : Row := ⟨"KWT", "Kuwait", [pp 4270563 0, pp 71 1, pp 11 1, pp 43 1, pp 0 0, pp 77 3, pp 62553 0, pp 0 0, pp 19 2, pp 55456 3, pp 939956 0, pp 49623 0, pp 9616 0, pp 15 4, pp 6 4, pp 0 0, pp 63 4, pp 2 4, pp 8 4, pn 8737989791267479 11, pn 2143101507943248 12, pn 7845584837276091 12, nn 7316302368086605 16, nn 612202692591621 15, nn 612202692591621 15, pn 14585623939769077 16, nn 7714995218080459 16, pn 2005810345738506 16, nn 4076471248497841 16, nn 2771397240637209 16, pn 700656849869471 16, nn 1862765364399543 16, nn 17246735422407 14, nn 721124328646919 15, nn 999932974474762 15, nn 996006059193284 15, nn 999014790379628 15, nn 999920407145157 15, nn 7178077141682909 16, nn 9989533795580472 16, nn 5028455093707229 16, nn 373087058068145 15, pn 1488062188 10, pn 4927817879 11, pn 4927817879 11, pn 4927817879 11, pn 555247085 10, pn 555247085 10, pn 1011937812 10, pn 1011937812 10, pn 4566907274 11, pn 1451971127 10, pn 9952803998 11, pn 9952803998 11, pn 259635 1, pn 259635 1, pn 259635 1, pn 259635 1, pn 259635 1, pn 259635 1, pn 259635 1, pn 259635 1, pn 259635 1, pn 259635 1, pn 259635 1, pn 259635 1, pn 15885783229439 15, pp 0 0, pp 0 0, pp 0 0, pn 17464103009754 16, pn 418452629391384 15, pn 20392874763037 14, pn 122812598578779 15, pp 0 0, pp 0 0, pp 0 0, pp 0 0, pp 14 0, pp 1 0, pn 903575894425214 20, pn 4039358734396 16, pn 4039358734396 16, pn 4039358734396 16, pn 5 4, pn 125307230730804 14, pn 125367846568973 14, pn 116446966839296 14, pn 103527954468509 14, pn 961512922389098 15, pn 932072750118132 15, pn 804617605532861 15, pn 780306824251848 15, pn 820221624164208 15, pn 823418956292081 15, pn 775359495051149 15, pn 637903450301987 15, pn 588870255322997 15, pn 625494423262561 15, pn 699798427051329 15, pn 756385592285336 15, pn 77247750350272 14, pn 690685779521733 15, pn 623627098494677 15, pn 633497019919744 15, pn 654585219628031 15, pn 678221661285326 15, pn 642235920927908 15, pn 558452461567825 15, pn 550726354911298 15, pn 533241914274222 15, pn 559077587932166 15, pn 571602426565577 15, pn 585972414384307 15, pn 507581060856766 15, pn 476498579339626 15, pn 460375197883433 15, pn 495445346912131 15, pn 555511373771659 15, pn 535378583926726 15, pn 522042355245346 15, pn 509751643933992 15, pn 505917636988734 15, pn 503919661751173 15, pn 513327853544145 15, pn 514175353449103 15, pn 470236486652447 15, pn 433099151096754 15, pn 417731034252111 15, pn 4589048904543 13, pn 511477485927674 15, pn 521946469376341 15, pn 540108889789081 15, pn 539886903447276 15, pn 545419791111906 15, pn 546698827321603 15, pn 533937100159938 15, pn 532207116287776 15, pn 472239303610618 15, pn 395591548892984 15, pn 381781037642599 15, pn 433423576206002 15, pn 492862261945019 15, pn 537514092314661 15, pn 559213168164554 15, pn 587997598217513 15, pn 627624656363427 15, pn 632472485464784 15, pn 582125310182791 15, pn 531199123198026 15, pn 470782512469459 15, pn 410639172226025 15, pn 403227449169194 15, pn 453669790475513 15, pn 525221394490141 15, pn 571830375386405 15, pn 580750441197102 15, pn 635296453090261 15, pn 701827805097738 15, pn 671723616673777 15, pn 60179402313819 14, pn 521390490430414 15, pn 469530619023012 15, pn 427651558855648 15, pn 42963081978582 14, pn 46603564184307 14, pn 542606388967509 15, pn 59108300019918 14, pn 624642198498689 15, pn 69867140533179 14, pn 779970043657163 15, pn 753118024156137 15, pn 640722574308407 15, pn 571390153768085 15, pn 520382505764622 15, pn 489644817171928 15, pn 461562953165597 15, pn 530046869432579 15, pn 577838810697034 15, pn 641354741404765 15, pn 706086788708845 15, pn 843711957844599 15, pn 913032033112738 15, pn 861700119798149 15, pn 770884355522217 15, pn 661651634721807 15, pn 618783982018184 15, pn 582799506486546 15, pn 517420687334327 15, pn 556261710999006 15, pn 599625826339062 15, pn 691953757070279 15, pn 869444160023993 15, pn 101924075948968 14, pn 107132482822279 14, pn 102067889731294 14, pn 846024469766208 15, pn 756059933939122 15, pn 66355912632032 14, pn 627535784479301 15, pn 600794739829099 15, pn 594746238383821 15, pn 648169213504355 15, pn 767347509266252 15, pn 906179412169381 15, pn 796 3, pp 146 1, pp 0 0, pn 1319 3]⟩

def row68 : Row := ⟨"KGZ", "Kyrgyzstan", [pp 65916 2, pp 38 1, pp 5 1, pp 24 1, pn 235552583828839 14, pp 1667 3, pp 9679 0, pp 14288 0, pp 113611 0, pp 5019 3, pp 6308201 0, pp 2283762 0, pp 854963 0, pp 1 5, pp 4 4, pp 1 4, pp 128 4, pp 6 4, pp 19 4, pn 22468202853424954 10, pn 7430762908086053 11, pn 2943729729619475 10, nn 10000000000000002 16, nn 10000000000000002 16, nn 10000000000000002 16, nn 10000000000000002 16, nn 988465868395542 15, nn 7237746802348117 16, nn 4556777064037737 16, nn 3586827338570584 16, nn 2418931164635514 16, nn 1767808267091087 16, nn 988270175683424 16, nn 999998377308764 15, nn 958824279878318 15, nn 873719168291846 15, nn 6853336385762709 16, nn 589170215306958 15, nn 449819085858362 15, nn 416460629732278 15, nn 378281358007615 15, nn 4277708370509039 16, pp 0 0, pp 0 0, pp 0 0, pp 0 0, pn 3800943878 12, pn 3800943878 12, pn 25 2, pn 25 2, pn 2461990561 10, pn 2461990561 10, pp 0 0, pp 0 0, pn 88257925 2, pn 761995166666667 9, pn 641411083333334 9, pn 52082700000000006 11, pn 40574291666666704 11, pn 29065883333333296 11, pp 531827 0, pn 772995166666667 9, pn 100866333333333 8, pn 12443315 1, pn 112374741666667 8, pn 100316333333333 8, pn 214141099517209 16, pp 0 0, pn 196155355041193 16, pn 99289802109908 16, pn 17464103009754 16, pn 109494347406534 15, pn 419385759137932 16, pn 233655700053078 16, pp 0 0, pp 0 0, pn 56079494249677 15, pn 1219467634793 16, pp 1364 0, pp 1 0, pn 8803410857114 16, pp 0 0, pp 0 0, pp 0 0, pp 0 0, pp 0 0, pp 0 0, pp 0 0, pp 0 0, pp 0 0, pp 0 0, pp 0 0, pp 0 0, pp 0 0, pp 0 0, pp 0 0, pp 0 0, pp 0 0, pp 0 0, pp 0 0, pp 0 0, pp 0 0, pp 0 0, pp 0 0, pp 0 0, pp 0 0, pp 0 0, pp 0 0, pp 0 0, pp 0 0, pp 0 0, pp 0 0, pp 0 0, pp 0 0, pp 0 0, pp 0 0, pp 0 0, pp 0 0, pp 0 0, pp 0 0, pp 0 0, pp 0 0, pp 0 0, pp 0 0, pp 0 0, pp 0 0, pp 0 0, pp 0 0, pp 0 0, pp 0 0, pp 0 0, pp 0 0, pp 0 0, pp 0 0, pp 0 0, pp 0 0, pp 0 0, pp 0 0, pp 0 0, pp 0 0, pp 0 0, pp 0 0, pp 0 0, pp 0 0, pp 0 0, pp 0 0, pp 0 0, pp 0 0, pp 0 0, pp 0 0, pp 0 0, pp 0 0, pp 0 0, pp 0 0, pp 0 0, pp 0 0, pp 0 0, pp 0 0, pp 0 0, pp 0 0, pp 0 0, pp 0 0, pp 0 0, pp 0 0, pp 0 0, pp 0 0, pp 0 0, pp 0 0, pp 0 0, pp 0 0, pp 0 0, pp 0 0, pp 0 0, pp 0 0, pp 0 0, pp 0 0, pp 0 0, pp 0 0, pp 0 0, pp 0 0, pp 0 0, pp 0 0, pp 0 0, pp 0 0, pp 0 0, pp 0 0, pp 0 0, pp 0 0, pp 0 0, pp 0 0, pp 0 0, pp 0 0, pp 0 0, pp 0 0, pp 0 0, pp 0 0, pp 0 0, pp 0 0, pp 0 0, pp 0 0, pp 0 0, pp 0 0, pp 0 0, pp 0 0, pp 0 0, pn 796 3, pn 14692001 4, pn 63600002 6, pn 21708 4]⟩

def row69 : Row := ⟨"LAO", "Lao People's Democratic Republic", [pp 7275556 0, pp 3018 1, pp 438 1, pp 1907 1, pn 4759459558190699 16, pp 7 3, pp 35698 0, pp 97575 0, pp 37409 0, pp 50382 3, pp 498 4, pp 345455 1, pp 39639 0, pp 146 4, pp 2 4, pp 9 4, pp 96 4, pp 6 4, pp 9 4, pn 6524697452120978 9, pn 10837102060422912 11, pn 50631870386473456 11, nn 4488582934387474 16, nn 9987209393392286 16, nn 9945940577486166 16, nn 9705314364505084 16, nn 9581946314523456 16, nn 8992199986946884 16, nn 7666950487768648 16, nn 6144798486300587 16, nn 3586592330392881 16, nn 1521425887568453 16, nn 20104554391385 14, nn 675580854318368 15, nn 800136763817269 15, nn 835946969964723 15, nn 9260146954366428 16, nn 9472711075568512 16, nn 94908705080892 14, nn 9282089627554392 16, nn 883460317724175 15, nn 7980794741615089 16, pn 1372871069 10, pn 1372871069 10, pn 1372871069 10, pn 1372871069 10, pn 1623995768 11, pn 1623995768 11, pn 1127128931 10, pn 1127128931 10, pn 9647293545 11, pn 9647293545 11, pp 0 0, pp 0 0, pn 1117260625 3, pn 128171375 2, pn 1446166875 3, pp 161062 1, pn 1406116875 3, pn 120161375 2, pn 129116375 2, pn 138071375 2, pn 142076375 2, pn 146081375 2, pn 1206810625 3, pn 137126375 2, pn 571644535700989 16, pp 0 0, pp 0 0, pn 523560209424084 16, pn 17464103009754 16, pn 187303804941072 15, pn 758291109506641 16, pn 429196435556824 16, pp 156 3, pn 10297155987563 16, pn 106458382719355 15, pn 2314973662221 16, pp 1719 0, pp 1 0, pn 11094621160835 16, pp 0 0, pp 0 0, pp 0 0, pp 0 0, pp 0 0, pp 0 0, pp 0 0, pp 0 0, pp 0 0, pp 0 0, pp 0 0, pp 0 0, pp 0 0, pp 0 0, pp 0 0, pp 0 0, pp 0 0, pp 0 0, pp 0 0, pp 0 0, pp 0 0, pp 0 0, pp 0 0, pp 0 0, pp 0 0, pp 0 0, pp 0 0, pp 0 0, pp 0 0, pp 0 0, pp 0 0, pp 0 0, pp 0 0, pp 0 0, pp 0 0, pp 0 0, pp 0 0, pp 0 0, pp 0 0, pp 0 0, pp 0 0, pp 0 0, pp 0 0, pp 0 0, pp 0 0, pp 0 0, pp 0 0, pp 0 0, pp 0 0, pp 0 0, pp 0 0, pp 0 0, pp 0 0, pp 0 0, pp 0 0, pp 0 0, pp 0 0, pp 0 0, pp 0 0, pp 0 0, pp 0 0, pp 0 0, pp 0 0, pp 0 0, pp 0 0, pp 0 0, pp 0 0, pp 0 0, pp 0 0, pp 0 0, pp 0 0, pp 0 0, pp 0 0, pp 0 0, pp 0 0, pp 0 0, pp 0 0, pp 0 0, pp 0 0, pp 0 0, pp 0 0, pp 0 0, pp 0 0, pp 0 0, pp 0 0, pp 0 0, pp 0 0, pp 0 0, pp 0 0, pp 0 0, pp 0 0, pp 0 0, pp 0 0, pp 0 0, pp 0 0, pp 0 0, pp 0 0, pp 0 0, pp 0 0, pp 0 0, pp 0 0, pp 0 0, pp 0 0, pp 0 0, pp 0 0, pp 0 0, pp 0 0, pp 0 0, pp 0 0, pp 0 0, pp 0 0, pp 0 0, pp 0 0, pp 0 0, pp 0 0, pp 0 0, pp 0 0, pp 0 0, pp 0 0, pp 0 0, pp 0 0, pp 0 0, pp 0 0, pp 0 0, pn 796 3, pp 177 0, pn 306 1, pn 8053 4]⟩

def row70 : Row := ⟨"LBN", "Lebanon", [pp 6825442 0, pp 87 1, pp 15 1, pp 49 1, pn 438249596890059 15, pp 399 3, pp 12601 1, pp 774 0, pp 44265 0, pp 68047 3, pp 973752 0, pp 110018 0, pp 51657 0, pp 29 4, pp 11 4, pp 1 4, pp 116 4, pp 4 4, pp 27 4, pn 4947955253535157 10, pn 4635867283316868 11, pn 5091418891093942 11, nn 8870846747076705 16, nn 747521332646351 15, nn 747521332646351 15, nn 4751695680412517 16, nn 7359590021725083 16, nn 2186279733312686 16, nn 1181753060266718 16, nn 195824755440642 15, nn 451626467955905 16, nn 829059621603579 16, pn 102406142337304 14, nn 2700191127667379 16, nn 7110216762957521 16, nn 829542032304403 15, nn 94853067141215 14, nn 957961954011094 15, nn 986346760190957 15, nn 993023075975053 15, nn 938187194283444 15, nn 9055898847199 13, pn 4829302887 12, pp 0 0, pp 0 0, pp 0 0, pp 0 0, pp 0 0, pn 2451706971 10, pn 2451706971 10, pn 2451706971 10, pn 25 2, pn 4829302887 12, pn 4829302887 12, pn 428712958333333 9, pn 416903541666667 9, pn 405094125 3, pn 393284708333333 9, pn 381475291666667 9, pn 369665875 3, pn 392600333333333 9, pn 41553479166666704 11, pn 43846925 2, pn 462088083333333 9, pn 45096304166666704 11, pp 439838 0, pn 208482563619227 16, pp 0 0, pp 0 0, pn 474804438784792 16, pn 17464103009754 16, pn 282092986508372 15, pn 122723044435309 15, pn 710259430595449 16, pp 0 0, pp 0 0, pn 270630002651562 15, pn 5884941254433 16, pp 258 0, pp 1 0, pn 1665161291155 16, pn 1821354138756 16, pn 1821354138756 16, pn 1821354138756 16, pn 5 4, pn 125307230730804 14, pn 125367846568973 14, pn 116446966839296 14, pn 103527954468509 14, pn 961512922389098 15, pn 932072750118132 15, pn 804617605532861 15, pn 780306824251848 15, pn 820221624164208 15, pn 823418956292081 15, pn 775359495051149 15, pn 637903450301987 15, pn 588870255322997 15, pn 625494423262561 15, pn 699798427051329 15, pn 756385592285336 15, pn 77247750350272 14, pn 690685779521733 15, pn 623627098494677 15, pn 633497019919744 15, pn 654585219628031 15, pn 678221661285326 15, pn 642235920927908 15, pn 558452461567825 15, pn 550726354911298 15, pn 533241914274222 15, pn 559077587932166 15, pn 571602426565577 15, pn 585972414384307 15, pn 507581060856766 15, pn 476498579339626 15, pn 460375197883433 15, pn 495445346912131 15, pn 555511373771659 15, pn 535378583926726 15, pn 522042355245346 15, pn 509751643933992 15, pn 505917636988734 15, pn 503919661751173 15, pn 513327853544145 15, pn 514175353449103 15, pn 470236486652447 15, pn 433099151096754 15, pn 417731034252111 15, pn 4589048904543 13, pn 511477485927674 15, pn 521946469376341 15, pn 540108889789081 15, pn 539886903447276 15, pn 545419791111906 15, pn 546698827321603 15, pn 533937100159938 15, pn 532207116287776 15, pn 472239303610618 15, pn 395591548892984 15, pn 381781037642599 15, pn 433423576206002 15, pn 492862261945019 15, pn 537514092314661 15, pn 559213168164554 15, pn 587997598217513 15, pn 627624656363427 15, pn 632472485464784 15, pn 582125310182791 15, pn 531199123198026 15, pn 470782512469459 15, pn 410639172226025 15, pn 403227449169194 15, pn 453669790475513 15, pn 525221394490141 15, pn 571830375386405 15, pn 580750441197102 15, pn 635296453090261 15, pn 701827805097738 15, pn 671723616673777 15, pn 60179402313819 14, pn 521390490430414 15, pn 469530619023012 15, pn 427651558855648 15, pn 42963081978582 14, pn 46603564184307 14, pn 542606388967509 15, pn 59108300019918 14, pn 624642198498689 15, pn 69867140533179 14, pn 779970043657163 15, pn 753118024156137 15, pn 640722574308407 15, pn 571390153768085 15, pn 520382505764622 15, pn 489644817171928 15, pn 461562953165597 15, pn 530046869432579 15, pn 577838810697034 15, pn 641354741404765 15, pn 706086788708845 15, pn 843711957844599 15, pn 913032033112738 15, pn 861700119798149 15, pn 770884355522217 15, pn 661651634721807 15, pn 618783982018184 15, pn 582799506486546 15, pn 517420687334327 15, pn 556261710999006 15, pn 599625826339062 15, pn 691953757070279 15, pn 869444160023993 15, pn 101924075948968 14, pn 107132482822279 14, pn 102067889731294 14, pn 846024469766208 15, pn 756059933939122 15, pn 66355912632032 14, pn 627535784479301 15, pn 600794739829099 15, pn 594746238383821 15, pn 648169213504355 15, pn 767347509266252 15, pn 906179412169381 15, pn 796 3, pn 7712 1, pn 543 1, pn 17787 4]⟩

def row71 : Row := ⟨"LSO", "Lesotho", [pp 2142252 0, pp 23 1, pp 3 1, pp 15 1, pn 344266329764723 15, pp 18 4, pp 1902 0, pp 736 0, pp 1686 0, pp 38 4, pp 2655924 0, pp 581432 0, pp 123333 0, pp 0 0, pp 0 0, pp 0 0, pp 2 4, pp 0 0, pp 0 0, pn 11406280473285292 11, pn 42002969355841 10, pn 1288484647272809 11, nn 331067520932509 16, nn 956423226953386 15, nn 9462470496723312 16, nn 933208649182344 15, nn 9368962347470944 16, nn 93254019837272 14, nn 8745422097029288 16, nn 6552159475965881 16, nn 5037673089122899 16, nn 187788727970279 15, nn 279428943396882 16, nn 5600628651004 13, nn 406388442189724 15, nn 833862168859916 15, nn 768180755693993 15, nn 920316529829932 15, nn 947701036430702 15, nn 949221761493132 15, nn 935764902875844 15, nn 912814234624189 15, pn 1950589299 11, pp 0 0, pp 0 0, pp 0 0, pn 230494107 9, pn 230494107 9, pn 230494107 9, pn 230494107 9, pp 0 0, pn 1950589299 11, pn 1950589299 11, pn 1950589299 11, pn 256119166666667 10, pn 180570416666667 10, pn 105021666666667 10, pn 294729166666667 11, pn 162886666666667 10, pn 296300416666667 10, pn 429714166666667 10, pn 563127916666667 10, pn 487579166666667 10, pn 429714166666667 10, pn 371849166666667 10, pn 313984166666667 10, pn 333333333333333 16, pp 0 0, pp 0 0, pn 634271099744246 16, pn 17464103009754 16, pp 0 0, pp 0 0, pp 0 0, pp 0 0, pp 0 0, pn 151191557727274 16, pn 328771173437418 19, pp 142 0, pp 1 0, pn 916484121488431 19, pp 0 0, pp 0 0, pp 0 0, pp 0 0, pp 0 0, pp 0 0, pp 0 0, pp 0 0, pp 0 0, pp 0 0, pp 0 0, pp 0 0, pp 0 0, pp 0 0, pp 0 0, pp 0 0, pp 0 0, pp 0 0, pp 0 0, pp 0 0, pp 0 0, pp 0 0, pp 0 0, pp 0 0, pp 0 0, pp 0 0, pp 0 0, pp 0 0, pp 0 0, pp 0 0, pp 0 0, pp 0 0, pp 0 0, pp 0 0, pp 0 0, pp 0 0, pp 0 0, pp 0 0, pp 0 0, pp 0 0, pp 0 0, pp 0 0, pp 0 0, pp 0 0, pp 0 0, pp 0 0, pp 0 0, pp 0 0, pp 0 0, pp 0 0, pp 0 0, pp 0 0, pp 0 0, pp 0 0, pp 0 0, pp 0 0, pp 0 0, pp 0 0, pp 0 0, pp 0 0, pp 0 0, pp 0 0, pp 0 0, pp 0 0, pp 0 0, pp 0 0, pp 0 0, pp 0 0, pp 0 0, pp 0 0, pp 0 0, pp 0 0, pp 0 0, pp 0 0, pp 0 0, pp 0 0, pp 0 0, pp 0 0, pp 0 0, pp 0 0, pp 0 0, pp 0 0, pp 0 0, pp 0 0, pp 0 0, pp 0 0, pp 0 0, pp 0 0, pp 0 0, pp 0 0, pp 0 0, pp 0 0, pp 0 0, pp 0 0, pp 0 0, pp 0 0, pp 0 0, pp 0 0, pp 0 0, pp 0 0, pp 0 0, pp 0 0, pp 0 0, pp 0 0, pp 0 0, pp 0 0, pp 0 0, pp 0 0, pp 0 0, pp 0 0, pp 0 0, pp 0 0, pp 0 0, pp 0 0, pp 0 0, pp 0 0, pp 0 0, pp 0 0, pp 0 0, pp 0 0, pp 0 0, pp 0 0, pp 0 0, pp 0 0, pn 796 3, pn 14018 1, pp 5 1, pn 79999995 8]⟩

def row72 : Row := ⟨"LBR", "Liberia", [pp 5057677 0, pp 28 2, pp 49 1, pp 161 1, pn 1219699683811229 16, pp 9 3, pp 15308 0, pp 13921 0, pp 1177 0, pp 9067 3, pp 1052257 0, pp 45505 0, pp 6821 0, pp 1 4, pp 0 0, pp 0 0, pp 3 4, pp 0 0, pp 0 0, pn 5964732673868509 10, pn 37125263080191566 12, pn 3306686986339371 11, nn 42931244519729 15, nn 809525485655086 15, nn 9249289402578084 16, nn 8936919365113332 16, nn 8121833515108088 16, nn 7573642269246704 16, nn 5861903668384446 16, nn 4675888051340751 16, nn 3051372268414676 16, nn 1639679858099342 16, nn 932643009535365 16, nn 4033079920816629 16, nn 59642307839473 14, nn 672807757564388 15, nn 691864803516945 15, nn 68595600224397 14, nn 661347229489526 15, nn 627250852971837 15, nn 575432663122572 15, nn 55509801144107 14, pn 25 2, pp 0 0, pp 0 0, pp 0 0, pp 0 0, pp 0 0, pp 0 0, pp 0 0, pp 0 0, pn 25 2, pn 25 2, pn 25 2, pn 168045666666667 9, pn 155236083333333 9, pn 1424265 1, pn 129616916666667 9, pn 116807333333333 9, pn 10399775 2, pn 911881666666666 10, pn 783785833333333 10, pp 65569 0, pn 911881666666667 10, pn 116807333333333 9, pn 1424265 1, pn 518000518000518 16, pp 0 0, pp 0 0, pn 740740740740741 16, pn 17464103009754 16, pp 0 0, pp 0 0, pp 0 0, pp 0 0, pp 0 0, pp 0 0, pp 0 0, pp 7 2, pp 1 0, pn 4517879472126 16, pn 4686951317065 16, pn 4686951317065 16, pn 4686951317065 16, pn 5 4, pn 225563619622158 14, pn 224007972500148 14, pn 148606453827951 14, pn 114355202888872 14, pn 160951789253174 14, pn 521966083355326 14, pn 743437685745195 14, pn 747972711789109 14, pn 664280356141849 14, pn 646647044242444 14, pn 65771874112729 13, pn 615087329436925 14, pn 534977880528962 14, pn 571758638142947 14, pn 633725490408862 14, pn 710580962719998 14, pn 827223961234327 14, pn 854518932298853 14, pn 820843801067746 14, pn 816608141169708 14, pn 810982541964485 14, pn 755868200634493 14, pn 727441488563201 14, pn 653695979028396 14, pn 628534685511087 14, pn 589070949208488 14, pn 577589039896562 14, pn 581788069739559 14, pn 633828785774011 14, pn 683619681625962 14, pn 650726280711991 14, pn 608688789791755 14, pn 567459044912239 14, pn 561208414528042 14, pn 521499840213542 14, pn 527972658978082 14, pn 487388133502636 14, pn 483010833322668 14, pn 4676713228069 12, pn 460844068580014 14, pn 487837613254963 14, pn 531162341657829 14, pn 516884731434986 14, pn 497902067622137 14, pn 452361893257602 14, pn 407266102333234 14, pn 409386816082206 14, pn 443703262940789 14, pn 456681029282089 14, pn 453750216969654 14, pn 41069449815675 13, pn 347683974395228 14, pn 355036326450263 14, pn 3869939531218 12, pn 403586377822991 14, pn 401259844107923 14, pn 341374567255376 14, pn 306303937445421 14, pn 339662756674879 14, pn 414268590561571 14, pn 437778663119636 14, pn 426460470008121 14, pn 343931557743281 14, pn 284893096423649 14, pn 290026347343356 14, pn 344407639823311 14, pn 381088516403793 14, pn 37920574097581 13, pn 34168359641049 13, pn 297148329944834 14, pn 311217239211973 14, pn 339382155452187 14, pn 420949780539445 14, pn 405406533156939 14, pn 318779014623005 14, pn 229910459740717 14, pn 2373108082246 12, pn 31085020745919 13, pn 407807608795591 14, pn 405775190382202 14, pn 345063849689118 14, pn 300087762760537 14, pn 308478371667017 14, pn 369597783750681 14, pn 416213884386239 14, pn 35673784418279 13, pn 261088270593267 14, pn 20841204638453 13, pn 217349193744004 14, pn 327051500737282 14, pn 430934827503372 14, pn 423438857629996 14, pn 370150089910681 14, pn 342785217891785 14, pn 346413286727789 14, pn 388217941446816 14, pn 415270708063935 14, pn 349864476608232 14, pn 283136535533392 14, pn 292162278737474 14, pn 285190579039329 14, pn 378904646399308 14, pn 480046378209707 14, pn 476505625357688 14, pn 437905938224189 14, pn 388326244550295 14, pn 403945554491463 14, pn 427047613698725 14, pn 457654226002208 14, pn 423444946558973 14, pn 30901188433574 13, pn 274798000248855 14, pn 280908906252639 14, pn 393828629819519 14, pn 552466284019736 14, pn 638494859265154 14, pn 562808407419351 14, pn 455094432883848 14, pn 418448007315187 14, pn 454716994967059 14, pn 796 3, pn 13832001 4, pn 423 1, pn 8458 4]⟩

def row73 : Row := ⟨"LBY", "Libya", [pp 6871287 0, pp 587 1, pp 11 2, pp 321 1, pn 976412732952426 15, pp 227 3, pp 129748 0, pp 0 0, pp 701 1, pp 36548 3, pp 10022881 0, pp 348027 0, pp 128353 0, pp 0 0, pp 0 0, pp 0 0, pp 0 0, pp 0 0, pp 0 0, pn 502909420798306 9, pn 5160124603919674 11, pn 517273185231466 10, pn 358 3, pn 6679999999999999 16, pn 6679999999999999 16, pn 182 2, pn 4122249256294504 15, pn 528092317215736 14, pn 318064305167536 15, nn 270167794067792 15, nn 345500331274634 15, nn 226662667864446 15, pn 177405604517609 16, nn 259559560771138 15, nn 823717181250875 15, nn 91895003462722 14, nn 959526719776324 15, nn 6564678662237869 16, nn 667768663535611 15, nn 791836958130877 15, nn 7823700036051701 16, nn 7514272580778381 16, pn 8735544904 11, pp 0 0, pp 0 0, pp 0 0, pp 0 0, pp 0 0, pn 162644551 9, pn 162644551 9, pn 162644551 9, pn 25 2, pn 8735544904 11, pn 8735544904 11, pn 3603655 1, pn 3392945 1, pn 3182235 1, pn 2971525 1, pn 2760815 1, pn 2550105 1, pn 2750645 1, pn 2951185 1, pn 3151725 1, pn 3573145 1, pn 3583315 1, pn 3593485 1, pn 473963423146726 16, pp 0 0, pp 0 0, pn 449352627570449 16, pn 17464103009754 16, pn 287774595401537 15, pn 125757074169433 15, pn 728880763353117 16, pp 0 0, pp 0 0, pp 0 0, pp 0 0, pp 205 1, pp 1 0, pn 13230932739797 16, pn 14327985891547 16, pn 14327985891547 16, pn 14327985891547 16, pn 14327985891547 16, pn 125307230730804 14, pn 125367846568973 14, pn 116446966839296 14, pn 103527954468509 14, pn 961512922389098 15, pn 932072750118132 15, pn 804617605532861 15, pn 780306824251848 15, pn 820221624164208 15, pn 823418956292081 15, pn 775359495051149 15, pn 637903450301987 15, pn 588870255322997 15, pn 625494423262561 15, pn 699798427051329 15, pn 756385592285336 15, pn 77247750350272 14, pn 690685779521733 15, pn 623627098494677 15, pn 633497019919744 15, pn 654585219628031 15, pn 678221661285326 15, pn 642235920927908 15, pn 558452461567825 15, pn 550726354911298 15, pn 533241914274222 15, pn 559077587932166 15, pn 571602426565577 15, pn 585972414384307 15, pn 507581060856766 15, pn 476498579339626 15, pn 460375197883433 15, pn 495445346912131 15, pn 555511373771659 15, pn 535378583926726 15, pn 522042355245346 15, pn 509751643933992 15, pn 505917636988734 15, pn 503919661751173 15, pn 513327853544145 15, pn 514175353449103 15, pn 470236486652447 15, pn 433099151096754 15, pn 417731034252111 15, pn 4589048904543 13, pn 511477485927674 15, pn 521946469376341 15, pn 540108889789081 15, pn 539886903447276 15, pn 545419791111906 15, pn 546698827321603 15, pn 533937100159938 15, pn 532207116287776 15, pn 472239303610618 15, pn 395591548892984 15, pn 381781037642599 15, pn 433423576206002 15, pn 492862261945019 15, pn 537514092314661 15, pn 559213168164554 15, pn 587997598217513 15, pn 627624656363427 15, pn 632472485464784 15, pn 582125310182791 15, pn 531199123198026 15, pn 470782512469459 15, pn 410639172226025 15, pn 403227449169194 15, pn 453669790475513 15, pn 525221394490141 15, pn 571830375386405 15, pn 580750441197102 15, pn 635296453090261 15, pn 701827805097738 15, pn 671723616673777 15, pn 60179402313819 14, pn 521390490430414 15, pn 469530619023012 15, pn 427651558855648 15, pn 42963081978582 14, pn 46603564184307 14, pn 542606388967509 15, pn 59108300019918 14, pn 624642198498689 15, pn 69867140533179 14, pn 779970043657163 15, pn 753118024156137 15, pn 640722574308407 15, pn 571390153768085 15, pn 520382505764622 15, pn 489644817171928 15, pn 461562953165597 15, pn 530046869432579 15, pn 577838810697034 15, pn 641354741404765 15, pn 706086788708845 15, pn 843711957844599 15, pn 913032033112738 15, pn 861700119798149 15, pn 770884355522217 15, pn 661651634721807 15, pn 618783982018184 15, pn 582799506486546 15, pn 517420687334327 15, pn 556261710999006 15, pn 599625826339062 15, pn 691953757070279 15, pn 869444160023993 15, pn 101924075948968 14, pn 107132482822279 14, pn 102067889731294 14, pn 846024469766208 15, pn 756059933939122 15, pn 66355912632032 14, pn 627535784479301 15, pn 600794739829099 15, pn 594746238383821 15, pn 648169213504355 15, pn 767347509266252 15, pn 906179412169381 15, pn 796 3, pn 845 1, pp 0 0, pn 11882 4]⟩

def row74 : Row := ⟨"MDG", "Madagascar", [pp 27691019 0, pp 2738 1, pp 358 1, pp 1856 1, pn 157281550584766 14, pp 481 3, pp 5144 1, pp 26947 0, pp 34887 0, pp 51272 3, pp 4115475 0, pp 8949273 0, pp 1666216 0, pp 51 4, pp 15 4, pp 0 0, pp 62 4, pp 1 4, pp 5 4, pn 5732596735716931 9, pn 8843966167304831 11, pn 4050169757444635 10, pn 1756830532071337 16, nn 637277981543087 15, nn 941591856192616 15, nn 9476262033369368 16, nn 9344417051554288 16, nn 8315131698190811 16, nn 6936176959634737 16, nn 566296306315741 15, nn 489592498805752 15, nn 2004046365251997 16, nn 61590297902208 15, nn 383457302758771 15, nn 576360851546092 15, nn 677482215836267 15, nn 7314502508293501 16, nn 7356319835615621 16, nn 6905503528798129 16, nn 6154574486580681 16, nn 550551183847506 15, nn 393048360628919 15, pp 0 0, pp 0 0, pp 0 0, pp 0 0, pn 25 2, pn 25 2, pn 25 2, pn 25 2, pp 0 0, pp 0 0, pp 0 0, pp 0 0, pn 689075125 3, pn 47698241666666704 11, pn 26488970833333296 11, pp 52797 0, pn 47698241666666704 11, pn 9011678333333328 10, pn 132535325 2, pn 174953866666667 8, pn 153744595833333 8, pn 132535325 2, pn 111326054166667 8, pn 9011678333333328 10, pn 713703326229964 16, pp 0 0, pp 0 0, pn 804224207961007 16, pn 17464103009754 16, pp 0 0, pp 0 0, pp 0 0, pp 0 0, pp 0 0, pn 546126569274168 16, pn 1187570759403 16, pp 36 2, pp 1 0, pn 23234808713791 16, pn 39082212364064 16, pn 39082212364064 16, pn 39082212364064 16, pn 39082212364064 16, pn 19214482332504 13, pn 19112793052309 13, pn 137886624831733 14, pn 110746120082084 14, pn 139351623581752 14, pn 379046480574155 14, pn 522445710681225 14, pn 524658702001134 14, pn 470194291566706 14, pn 458545328038032 14, pn 464324477253232 14, pn 431321667968016 14, pn 376280928863408 14, pn 402022239537383 14, pn 445810274507619 14, pn 49893349488951 13, pn 577231890939642 14, pn 592702147516626 14, pn 568016770661653 14, pn 56552199477713 13, pn 562474535297258 14, pn 52651952246584 13, pn 506368856406398 14, pn 454412401404525 14, pn 437380668837768 14, pn 410488696614799 14, pn 40369527952878 13, pn 406912127378559 14, pn 442084937662151 14, pn 472665823112533 14, pn 449700806452648 14, pn 421138366457284 14, pn 394820874838564 14, pn 392655988811083 14, pn 365512512939919 14, pn 369383184493566 14, pn 341917143799557 14, pn 338871143448069 14, pn 328578203929639 14, pn 324340307504814 14, pn 342364253951612 14, pn 369782777326968 14, pn 359026459326549 14, pn 345859079556495 14, pn 316871425186878 14, pn 288559984419745 14, pn 290322759700682 14, pn 313805804953496 14, pn 322450249636302 14, pn 320680804350166 14, pn 292019626348553 14, pn 24958721960215 13, pn 254431121509768 14, pn 27373727886822 13, pn 282243970178427 14, pn 280232597326702 14, pn 242030497377117 14, pn 220631367028448 14, pn 244358974193741 14, pn 294819499313199 14, pn 311452362020341 14, pn 305227801884195 14, pn 250370121344346 14, pn 209332907955192 14, pn 211057535668838 14, pn 245297843631189 14, pn 267746983343396 14, pn 266244742289513 14, pn 242911390622844 14, pn 215606266446227 14, pn 226539171987529 14, pn 245613118341361 14, pn 301809735462638 14, pn 29366528227455 13, pn 234910130304463 14, pn 173333440598418 14, pn 175586888497414 14, pn 22288449227356 13, pn 286126791158916 14, pn 284837820914329 14, pn 245577087854181 14, pn 218145388139275 14, pn 225355014451317 14, pn 267219929117077 14, pn 300764969768552 14, pn 263824230910432 14, pn 199162781200716 14, pn 160298783399967 14, pn 163945800954939 14, pn 235380417350342 14, pn 303611378907979 14, pn 297678003525517 14, pn 264434955588207 14, pn 247784772284425 14, pn 252320682532018 14, pn 282348187254839 14, pn 304970870637443 14, pn 263677385509246 14, pn 2174810276822 12, pn 220470997675723 14, pn 212182107183613 14, pn 273229230333478 14, pn 339457569022689 14, pn 334917773149603 14, pn 31047934918276 13, pn 278871690578165 14, pn 292362161563318 14, pn 313679881133283 14, pn 339077509317795 14, pn 318007458646742 14, pn 240030552800924 14, pn 211399482491444 14, pn 212474601966396 14, pn 28467105742369 13, pn 389228715495801 14, pn 445689730837739 14, pn 395030479559028 14, pn 325001929039377 14, pn 304543588519 11, pn 333350643717018 14, pn 796 3, pn 2952 1, pn 70200005 6, pn 79999995 8]⟩

def row75 : Row := ⟨"MWI", "Malawi", [pp 19129955 0, pp 3653 1, pp 53 2, pp 2308 1, pn 2099762843320519 16, pp 203 3, pp 109186 0, pp 226441 0, pp 55626 0, pp 18813 3, pp 18888218 0, pp 1953248 0, pp 110394 0, pp 8 4, pp 3 4, pp 0 0, pp 224 4, pp 5 4, pp 19 4, pn 8867349436275471 9, pn 3710934409022779 10, pn 8279081920117742 10, pn 692304912952323 16, nn 7145524471716139 16, nn 9650870860465384 16, nn 9729567041360968 16, nn 79252036798007 14, nn 8850098238663483 16, nn 7313627423970253 16, nn 6101989112051168 16, nn 3335343622096834 16, nn 195412149115221 15, nn 132094025183137 15, nn 356965991636262 15, nn 59163166161921 14, nn 718701581808704 15, nn 785832184124378 15, nn 797174028787867 15, nn 7750636565993111 16, nn 722575817889448 15, nn 615722362908049 15, nn 51957075527494 14, pp 0 0, pp 0 0, pp 0 0, pp 0 0, pn 2499328096 10, pn 2499328096 10, pn 25 2, pn 25 2, pn 6719035661 14, pn 6719035661 14, pp 0 0, pp 0 0, pn 103150733333333 8, pn 776479416666667 9, pn 5214515 1, pn 26642358333333296 11, pn 776273791666667 9, pp 1286124 0, pn 179617983333333 8, pn 230623566666667 8, pn 2051413375 3, pn 179659108333333 8, pn 154156316666667 8, pn 128653525 2, pn 849864955898185 16, pp 0 0, pp 0 0, pn 306784660766962 16, pn 17464103009754 16, pp 0 0, pp 0 0, pp 0 0, pp 0 0, pp 0 0, pp 0 0, pp 0 0, pp 38 2, pp 1 0, pn 24525631420112 16, pp 0 0, pp 0 0, pp 0 0, pp 0 0, pp 0 0, pp 0 0, pp 0 0, pp 0 0, pp 0 0, pp 0 0, pp 0 0, pp 0 0, pp 0 0, pp 0 0, pp 0 0, pp 0 0, pp 0 0, pp 0 0, pp 0 0, pp 0 0, pp 0 0, pp 0 0, pp 0 0, pp 0 0, pp 0 0, pp 0 0, pp 0 0, pp 0 0, pp 0 0, pp 0 0, pp 0 0, pp 0 0, pp 0 0, pp 0 0, pp 0 0, pp 0 0, pp 0 0, pp 0 0, pp 0 0, pp 0 0, pp 0 0, pp 0 0, pp 0 0, pp 0 0, pp 0 0, pp 0 0, pp 0 0, pp 0 0, pp 0 0, pp 0 0, pp 0 0, pp 0 0, pp 0 0, pp 0 0, pp 0 0, pp 0 0, pp 0 0, pp 0 0, pp 0 0, pp 0 0, pp 0 0, pp 0 0, pp 0 0, pp 0 0, pp 0 0, pp 0 0, pp 0 0, pp 0 0, pp 0 0, pp 0 0, pp 0 0, pp 0 0, pp 0 0, pp 0 0, pp 0 0, pp 0 0, pp 0 0, pp 0 0, pp 0 0, pp 0 0, pp 0 0, pp 0 0, pp 0 0, pp 0 0, pp 0 0, pp 0 0, pp 0 0, pp 0 0, pp 0 0, pp 0 0, pp 0 0, pp 0 0, pp 0 0, pp 0 0, pp 0 0, pp 0 0, pp 0 0, pp 0 0, pp 0 0, pp 0 0, pp 0 0, pp 0 0, pp 0 0, pp 0 0, pp 0 0, pp 0 0, pp 0 0, pp 0 0, pp 0 0, pp 0 0, pp 0 0, pp 0 0, pp 0 0, pp 0 0, pp 0 0, pp 0 0, pp 0 0, pp 0 0, pp 0 0, pp 0 0, pp 0 0, pp 0 0, pp 0 0, pp 0 0, pn 796 3, pn 889 1, pn 264 1, pn 25525 4]⟩

def row76 : Row := ⟨"MYS", "Malaysia", [pp 32365998 0, pp 29894 1, pp 4694 1, pp 18315 1, pn 349036407125931 14, pp 48 3, pp 1532028 0, pp 221325 0, pp 36944 0, pp 305177 3, pp 2309773 0, pp 762672 0, pp 45434 0, pp 1159 4, pp 501 4, pp 8 4, pp 68 5, pp 29 4, pp 206 4, pn 4113714431653638 8, pn 12979710189730234 9, pn 5169213113613768 10, nn 2420998301676473 16, nn 7628115934395509 16, nn 8535967027561575 16, nn 8268375266839076 16, nn 7497896987952696 16, nn 5616211467826194 16, nn 515749313398764 15, nn 2657774117563933 16, nn 316629126007648 16, pn 338547384312186 16, nn 256811619851918 16, nn 42585288234605 14, nn 660007409138466 15, nn 743647228024507 15, nn 759922850168128 15, nn 8069250540630201 16, nn 80656785870795 14, nn 7580168583192081 16, nn 675848239565362 15, nn 568380892010039 15, pn 2491005024 10, pn 2412209031 10, pn 2412209031 10, pn 2412209031 10, pn 8994976306 13, pn 8994976306 13, pn 8994976306 13, pn 8994976306 13, pp 0 0, pn 7879599244 12, pn 7879599244 12, pn 7879599244 12, pn 6560653041666671 9, pn 682394595833333 8, pn 7087238875 3, pn 735053179166667 8, pn 721306533333333 8, pn 7075598875 3, pn 693813241666667 8, pn 680066595833333 8, pn 66616995 1, pn 653587304166667 8, pn 641004658333333 8, pn 66864795 1, pn 56103091519909 16, pp 0 0, pp 0 0, pn 218474511307014 16, pn 17464103009754 16, pn 363044256011886 15, pn 168686539980709 15, pn 998306426784969 16, pp 131 3, pn 8646970733146 16, pn 189861877914795 14, pn 41286109708372 16, pp 8286 0, pp 1 0, pn 53478784722909 16, pn 3784369154971 15, pn 3784369154971 15, pn 3784369154971 15, pn 3784369154971 15, pn 175435425176481 14, pn 174687909534561 14, pn 132526710333623 14, pn 10894157867869 13, pn 128551540746042 14, pn 307586679183569 14, pn 411949723149241 14, pn 413001697107147 14, pn 373151259279135 14, pn 364494469935826 14, pn 367627345316203 14, pn 339438837233562 14, pn 296932453030631 14, pn 317154040234602 14, pn 351852666556997 14, pn 393109760974266 14, pn 452235855792299 14, pn 461793755125513 14, pn 441603255458607 14, pn 439978921580841 14, pn 438220531963644 14, pn 411845183381513 14, pn 395832540327996 14, pn 354770612592589 14, pn 341803660501108 14, pn 321197570317955 14, pn 316748399344889 14, pn 319474156198058 14, pn 346213013606221 14, pn 367188893855819 14, pn 349188069322977 14, pn 327363154790049 14, pn 308501789801726 14, pn 308379775952604 14, pn 287518849303107 14, pn 290088447251308 14, pn 269181648948018 14, pn 26680129851077 13, pn 259031644491008 14, pn 256088426967214 14, pn 269627574299937 14, pn 289092995161537 14, pn 280097323272331 14, pn 269837585523674 14, pn 249126191151516 14, pn 229206925463001 14, pn 23079073150992 13, pn 248857075959849 14, pn 255334859813408 14, pn 254146098040422 14, pn 232682190444455 14, pn 200538842205611 14, pn 20412851903952 13, pn 217108941741431 14, pn 221572766356145 14, pn 219718973936091 14, pn 192358462437988 14, pn 177795081819962 14, pn 196707082953172 14, pn 235094953689013 14, pn 248289211470693 14, pn 244611467822232 14, pn 203589403144879 14, pn 171552813720964 14, pn 171573129831579 14, pn 195742945535128 14, pn 211076216813198 14, pn 209764242946365 14, pn 193525287729021 14, pn 174835234696924 14, pn 184200138375307 14, pn 198728599785949 14, pn 242239712924235 14, pn 237794656833356 14, pn 192975688145191 14, pn 145044931027268 14, pn 144724928633821 14, pn 178901634680745 14, pn 225286382340578 14, pn 224369136180392 14, pn 195833706936713 14, pn 177174200828644 14, pn 183793335843467 14, pn 216031001800275 14, pn 243040512459709 14, pn 217367424274253 14, pn 16820003650444 13, pn 136242151907685 14, pn 137244104560406 14, pn 189544875656872 14, pn 239949654610283 14, pn 234797576473278 14, pn 21157738842697 13, pn 200284549480744 14, pn 205274380434133 14, pn 22941331015885 13, pn 249820951924197 14, pn 220583839959753 14, pn 184653273756604 14, pn 184625357144848 14, pn 175677871255755 14, pn 220391522300563 14, pn 269163164429181 14, pn 264123847045561 14, pn 246766054662045 14, pn 224144413592101 14, pn 236570465099245 14, pn 256996014850562 14, pn 279789150975588 14, pn 265288714690626 14, pn 205539887033517 14, pn 179700223612738 14, pn 178257449823275 14, pn 230092271225776 14, pn 307609931233833 14, pn 349287166624032 14, pn 311141515628867 14, pn 259955677117142 14, pn 247591379120906 14, pn 272667468091998 14, pn 796 3, pn 11544 1, pn 1185 1, pn 25028 4]⟩

def row77 : Row := ⟨"MLI", "Mali", [pp 20250834 0, pp 1901 1, pp 276 1, pp 1201 1, pn 6800497756537199 16, pp 967 3, pp 57844 0, pp 56 1, pp 71252 0, pp 52098 3, pp 48040445 0, pp 15503493 0, pp 1995914 0, pp 184 4, pp 14 4, pp 17 4, pp 168 4, pp 8 4, pp 31 4, pn 106413932657214 7, pn 51190581209754216 11, pn 11072024965503963 10, nn 2387731462222381 16, nn 7730673828967072 16, nn 817439109556864 15, nn 6850275840539244 16, nn 6885733026349241 16, nn 2366907201519998 16, nn 1679998209141436 16, nn 1536454288766767 16, pn 80968246749437 16, nn 1403781674722234 16, nn 362001458745952 15, nn 461835652636693 15, nn 781901427490223 15, nn 8476732733534 13, nn 829204751880883 15, nn 724208481602889 15, nn 496734117566309 15, nn 297918925400618 15, nn 234534377749175 15, nn 183815758495257 15, pn 2430093679 10, pp 0 0, pp 0 0, pp 0 0, pn 5237966783 12, pn 5237966783 12, pn 6990632134 12, pn 6990632134 12, pn 1752665351 12, pn 2447620332 10, pn 2430093679 10, pn 2430093679 10, pn 3462044125 3, pn 311203554166667 8, pn 276202695833333 8, pn 2412018375 3, pn 208400979166667 8, pn 175600120833333 8, pp 1435354 0, pn 111470679166667 8, pn 772059583333333 9, pn 145007675 2, pn 21207325416666702 10, pn 27913883333333298 10, pn 115408119521694 15, pn 5102040816326 16, pp 0 0, pn 309797729152568 16, pn 17464103009754 16, pp 0 0, pp 0 0, pp 0 0, pp 0 0, pp 0 0, pn 573179291832175 16, pn 1246397822725 16, pp 6561 0, pp 1 0, pn 42345438880884 16, pp 0 0, pp 0 0, pp 0 0, pp 0 0, pp 0 0, pp 0 0, pp 0 0, pp 0 0, pp 0 0, pp 0 0, pp 0 0, pp 0 0, pp 0 0, pp 0 0, pp 0 0, pp 0 0, pp 0 0, pp 0 0, pp 0 0, pp 0 0, pp 0 0, pp 0 0, pp 0 0, pp 0 0, pp 0 0, pp 0 0, pp 0 0, pp 0 0, pp 0 0, pp 0 0, pp 0 0, pp 0 0, pp 0 0, pp 0 0, pp 0 0, pp 0 0, pp 0 0, pp 0 0, pp 0 0, pp 0 0, pp 0 0, pp 0 0, pp 0 0, pp 0 0, pp 0 0, pp 0 0, pp 0 0, pp 0 0, pp 0 0, pp 0 0, pp 0 0, pp 0 0, pp 0 0, pp 0 0, pp 0 0, pp 0 0, pp 0 0, pp 0 0, pp 0 0, pp 0 0, pp 0 0, pp 0 0, pp 0 0, pp 0 0, pp 0 0, pp 0 0, pp 0 0, pp 0 0, pp 0 0, pp 0 0, pp 0 0, pp 0 0, pp 0 0, pp 0 0, pp 0 0, pp 0 0, pp 0 0, pp 0 0, pp 0 0, pp 0 0, pp 0 0, pp 0 0, pp 0 0, pp 0 0, pp 0 0, pp 0 0, pp 0 0, pp 0 0, pp 0 0, pp 0 0, pp 0 0, pp 0 0, pp 0 0, pp 0 0, pp 0 0, pp 0 0, pp 0 0, pp 0 0, pp 0 0, pp 0 0, pp 0 0, pp 0 0, pp 0 0, pp 0 0, pp 0 0, pp 0 0, pp 0 0, pp 0 0, pp 0 0, pp 0 0, pp 0 0, pp 0 0, pp 0 0, pp 0 0, pp 0 0, pp 0 0, pp 0 0, pp 0 0, pp 0 0, pp 0 0, pp 0 0, pp 0 0, pp 0 0, pp 0 0, pn 796 3, pn 25800001 6, pn 497 1, pn 7561 4]⟩

def row78 : Row := ⟨"MRT", "Mauritania", [pp 464966 1, pp 15714 1, pp 2606 1, pp 9303 1, pn 26288027067175097 16, pp 362 3, pp 4624 0, pp 0 0, pp 29716 0, pp 4733 3, pp 18672728 0, pp 3855747 0, pp 422577 0, pp 3 5, pp 11 4, pp 0 0, pp 9 4, pp 1 4, pp 2 4, pn 490702680460914 9, pn 7595928581862173 12, pn 4840827541435154 11, nn 301449251428084 16, nn 7439260054772923 16, nn 4831433523425514 16, pn 1447067320667856 15, nn 7792726127909414 16, nn 5481274593850104 16, nn 3997320734550013 16, nn 895308504461729 16, nn 1723352079473658 16, nn 921110589737857 16, nn 766246069996588 15, nn 219319950901469 15, nn 719085117914529 15, nn 861869254439564 15, nn 857085070769146 15, nn 743154055640983 15, nn 599642861227611 15, nn 372251422838087 15, nn 2407518361792449 16, nn 137565412964498 15, pn 25 2, pp 0 0, pp 0 0, pp 0 0, pp 0 0, pp 0 0, pp 0 0, pp 0 0, pp 0 0, pn 25 2, pn 25 2, pn 25 2, pn 253200833333333 9, pn 24021541666666695 11, pp 22723 1, pn 214244583333333 9, pn 20125916666666695 11, pn 18827375 2, pn 175288333333333 9, pn 16230291666666698 11, pn 1493175 1, pn 175288333333333 9, pn 20125916666666695 11, pp 22723 1, pn 304555314533623 16, pp 0 0, pp 0 0, pn 941203281677302 16, pn 17464103009754 16, pn 107021312091874 15, pn 40921237418668 15, pn 227880557998372 16, pp 0 0, pp 0 0, pn 553609194502571 16, pn 1203841981909 16, pp 411 0, pp 1 0, pn 2652640661491 16, pn 6103560091653 16, pn 6103560091653 16, pn 6103560091653 16, pn 6103560091653 16, pn 104462928928399 13, pn 107353565103232 13, pn 103932608079095 13, pn 100638214829153 13, pn 982932004629659 14, pn 114634503153017 13, pn 120526954443097 13, pn 117953723063019 13, pn 112609105076942 13, pn 108188162608913 13, pn 108923969502021 13, pn 106651249690074 13, pn 101094295235941 13, pn 106044455826692 13, pn 109671213470669 13, pn 112207097480749 13, pn 117010408027705 13, pn 112696083941088 13, pn 109466330865936 13, pn 108948534875927 13, pn 111131410401486 13, pn 105757769033842 13, pn 101486538753365 13, pn 926620088269116 14, pn 950795107489292 14, pn 944841786603207 14, pn 916579621268551 14, pn 939518053875552 14, pn 930831360797472 14, pn 951656216000671 14, pn 878261004294571 14, pn 842637110619779 14, pn 834535387647427 14, pn 811469814842215 14, pn 777873547403519 14, pn 799740831814672 14, pn 768162271492863 14, pn 775535678940707 14, pn 78456136695809 13, pn 788234241479958 14, pn 790781078607326 14, pn 796992828403785 14, pn 782723808395923 14, pn 73534558997615 13, pn 717735916257441 14, pn 709751757661668 14, pn 706669404843699 14, pn 707586049124551 14, pn 738572226635145 14, pn 752309127446057 14, pn 720838496609505 14, pn 655027553428903 14, pn 655448253473075 14, pn 645888118921901 14, pn 648965517527458 14, pn 64968067065901 13, pn 619850339649028 14, pn 604824136772273 14, pn 620631693653891 14, pn 689453906291949 14, pn 70713105533393 13, pn 724203367529441 14, pn 674423792822874 14, pn 605796302054787 14, pn 572105131885089 14, pn 610616217783801 14, pn 63466366735931 13, pn 617758778533267 14, pn 576987213429858 14, pn 560349207201704 14, pn 570229446048452 14, pn 618772250294256 14, pn 693159124987793 14, pn 674423743185867 14, pn 600210654335467 14, pn 512814169916847 14, pn 502593930465891 14, pn 534594022484031 14, pn 616879271037409 14, pn 639560287210772 14, pn 61202969661372 13, pn 582416971345373 14, pn 581482119544764 14, pn 649798348780194 14, pn 70734729062574 13, pn 671505722565057 14, pn 615883871482525 14, pn 559425102865466 14, pn 580431582857677 14, pn 666395616128984 14, pn 740532622296824 14, pn 762025318598269 14, pn 740149605611624 14, pn 731408057637338 14, pn 751655107975059 14, pn 813141637822371 14, pn 842689570286338 14, pn 808231205312287 14, pn 772271234389035 14, pn 766848468409568 14, pn 763426272878731 14, pn 828948314457289 14, pn 887088450069435 14, pn 908617933429853 14, pn 8982552869375 12, pn 898784203220411 14, pn 914822261669797 14, pn 969679902785242 14, pn 104383691960851 13, pn 104894561200081 13, pn 983465839803647 14, pn 925178884892611 14, pn 889368814313954 14, pn 930558460937762 14, pn 102161333252708 13, pn 106828489858603 13, pn 104031667734145 13, pn 100547590738195 13, pn 101101242926437 13, pn 108567151114467 13, pn 796 3, pn 81200005 6, pp 0 0, pn 7094 4]⟩

def row79 : Row := ⟨"MUS", "Mauritius", [pp 126574 1, pp 525 1, pp 9 2, pp 307 1, pn 138230458181057 15, pp 3 3, pp 475 2, pp 606 0, pp 1446 0, pp 1655 4, pp 51599 0, pp 4016 0, pp 3067 0, pp 6 4, pp 2 4, pp 0 0, pp 9 4, pp 0 0, pp 1 4, pn 20801513510064865 11, pn 5625032781128468 13, pn 6564705917588695 12, np 1 0, np 1 0, np 1 0, np 1 0, np 1 0, np 1 0, np 1 0, np 1 0, np 1 0, np 1 0, np 1 0, np 1 0, np 1 0, np 1 0, np 1 0, np 1 0, np 1 0, np 1 0, np 1 0, np 1 0, pp 0 0, pp 0 0, pp 0 0, pp 0 0, pn 25 2, pn 25 2, pn 25 2, pn 25 2, pp 0 0, pp 0 0, pp 0 0, pp 0 0, pp 130269 0, pn 961023333333334 10, pn 619356666666667 10, pp 27769 0, pn 961023333333334 10, pn 164435666666667 9, pp 232769 0, pn 301102333333333 9, pn 26693566666666704 11, pp 232769 0, pn 198602333333333 9, pn 164435666666667 9, pn 66619081608375 16, pp 0 0, pp 0 0, pp 0 0, pn 17464103009754 16, pn 339001301319709 15, pn 154395113553056 15, pn 907360870080948 16, pp 0 0, pp 0 0, pn 513767696654153 16, pn 1117205292691 16, pp 79 0, pp 1 0, pn 509874968997085 19, pn 1432798589154 16, pn 1432798589154 16, pn 1432798589154 16, pn 5 4, pn 225563619622158 14, pn 224007972500148 14, pn 148606453827951 14, pn 114355202888872 14, pn 160951789253174 14, pn 521966083355326 14, pn 743437685745195 14, pn 747972711789109 14, pn 664280356141849 14, pn 646647044242444 14, pn 65771874112729 13, pn 615087329436925 14, pn 534977880528962 14, pn 571758638142947 14, pn 633725490408862 14, pn 710580962719998 14, pn 827223961234327 14, pn 854518932298853 14, pn 820843801067746 14, pn 816608141169708 14, pn 810982541964485 14, pn 755868200634493 14, pn 727441488563201 14, pn 653695979028396 14, pn 628534685511087 14, pn 589070949208488 14, pn 577589039896562 14, pn 581788069739559 14, pn 633828785774011 14, pn 683619681625962 14, pn 650726280711991 14, pn 608688789791755 14, pn 567459044912239 14, pn 561208414528042 14, pn 521499840213542 14, pn 527972658978082 14, pn 487388133502636 14, pn 483010833322668 14, pn 4676713228069 12, pn 460844068580014 14, pn 487837613254963 14, pn 531162341657829 14, pn 516884731434986 14, pn 497902067622137 14, pn 452361893257602 14, pn 407266102333234 14, pn 409386816082206 14, pn 443703262940789 14, pn 456681029282089 14, pn 453750216969654 14, pn 41069449815675 13, pn 347683974395228 14, pn 355036326450263 14, pn 3869939531218 12, pn 403586377822991 14, pn 401259844107923 14, pn 341374567255376 14, pn 306303937445421 14, pn 339662756674879 14, pn 414268590561571 14, pn 437778663119636 14, pn 426460470008121 14, pn 343931557743281 14, pn 284893096423649 14, pn 290026347343356 14, pn 344407639823311 14, pn 381088516403793 14, pn 37920574097581 13, pn 34168359641049 13, pn 297148329944834 14, pn 311217239211973 14, pn 339382155452187 14, pn 420949780539445 14, pn 405406533156939 14, pn 318779014623005 14, pn 229910459740717 14, pn 2373108082246 12, pn 31085020745919 13, pn 407807608795591 14, pn 405775190382202 14, pn 345063849689118 14, pn 300087762760537 14, pn 308478371667017 14, pn 369597783750681 14, pn 416213884386239 14, pn 35673784418279 13, pn 261088270593267 14, pn 20841204638453 13, pn 217349193744004 14, pn 327051500737282 14, pn 430934827503372 14, pn 423438857629996 14, pn 370150089910681 14, pn 342785217891785 14, pn 346413286727789 14, pn 388217941446816 14, pn 415270708063935 14, pn 349864476608232 14, pn 283136535533392 14, pn 292162278737474 14, pn 285190579039329 14, pn 378904646399308 14, pn 480046378209707 14, pn 476505625357688 14, pn 437905938224189 14, pn 388326244550295 14, pn 403945554491463 14, pn 427047613698725 14, pn 457654226002208 14, pn 423444946558973 14, pn 30901188433574 13, pn 274798000248855 14, pn 280908906252639 14, pn 393828629819519 14, pn 552466284019736 14, pn 638494859265154 14, pn 562808407419351 14, pn 455094432883848 14, pn 418448007315187 14, pn 454716994967059 14, pn 796 3, pn 43680002 5, pn 684 1, pn 98819995 8]⟩

def row80 : Row := ⟨"MEX", "Mexico", [pp 129 6, pp 32421 1, pp 476 2, pp 1991 2, pn 14680644815728002 14, pp 12494 3, pp 3578694 0, pp 1652362 0, pp 2081262 0, pp 605259 3, pp 36344604 0, pp 48600526 0, pp 2594901 0, pp 794 4, pp 159 4, pp 85 4, pp 3146 4, pp 157 4, pp 646 4, pn 4274291050177862 8, pn 2401685659008051 9, pn 4502643682050425 9, nn 8806239234952479 16, nn 9542464211564337 16, nn 961420466212182 15, nn 9435811564709584 16, nn 9302502545160202 16, nn 851054678472247 15, nn 7277182438293718 16, nn 51266011134774 14, nn 2403777731559374 16, nn 884002868928907 16, nn 105472221010375 15, nn 580933220496375 15, nn 7815105947887611 16, nn 898400114766104 15, nn 943806175436064 15, nn 962553808214647 15, nn 9651228915142532 16, nn 950032163232909 15, nn 9192360888794292 16, nn 834274667397205 15, pn 2203873913 10, pp 0 0, pp 0 0, pp 0 0, pp 0 0, pp 0 0, pn 264189326 10, pn 264189326 10, pn 2961260871 11, pn 25 2, pn 2235810674 10, pn 2235810674 10, pn 303197285 1, pn 27385603208333302 9, pn 244514779166667 7, pn 21517352625 3, pn 18583227333333302 9, pn 156491020416667 7, pn 1364517425 2, pn 115287987083333 7, pn 9637318666666672 9, pn 1550556925 2, pn 204436223333333 7, pn 25381675416666698 9, pn 707773066828185 16, pn 4601438716505 16, pp 0 0, pn 7647406969002 14, pn 17464103009754 16, pn 320735386148404 15, pn 143910466408274 15, pn 841442233547896 16, pp 87 3, pn 5742644685371 16, pn 322229332624172 14, pn 70069861965377 16, pp 22129 0, pp 1 0, pn 142823078340968 16, pn 75525484953752 16, pn 75525484953752 16, pn 75525484953752 16, pn 75525484953752 16, pn 738188603099597 14, pn 757479716211206 14, pn 731699709473729 14, pn 705430750350524 14, pn 687338433832743 14, pn 795299112690715 14, pn 830333616471744 14, pn 812368381228524 14, pn 778068087985086 14, pn 748701715935825 14, pn 752005113181844 14, pn 732271779610562 14, pn 693590976750372 14, pn 727812852953366 14, pn 754468037372836 14, pn 773260169614504 14, pn 805818636968126 14, pn 774330085591313 14, pn 750563109056063 14, pn 747440133170175 14, pn 762695576664173 14, pn 727659182268458 14, pn 697984789053364 14, pn 636361807565005 14, pn 652220950156572 14, pn 647669254877945 14, pn 62968900044344 13, pn 64539878346922 13, pn 640086654344458 14, pn 651356846029006 14, pn 601390622174368 14, pn 577103913675967 14, pn 572871769995356 14, pn 559496922353865 14, pn 536428317733237 14, pn 550561966384626 14, pn 529099902459708 14, pn 533887707193429 14, pn 539838233363766 14, pn 542600422771444 14, pn 544326564186521 14, pn 547003101824272 14, pn 536252510633841 14, pn 504154761125837 14, pn 493787440520104 14, pn 490217087972034 14, pn 488511152208344 14, pn 489727662409337 14, pn 510377714538339 14, pn 519720078001101 14, pn 498782291983723 14, pn 454482938957933 14, pn 454705739524976 14, pn 446333389401621 14, pn 445830063314738 14, pn 445846481694094 14, pn 427681012306218 14, pn 419644833246349 14, pn 431671598846416 14, pn 478276376466785 14, pn 491020623496537 14, pn 503723066898408 14, pn 470698278064076 14, pn 423268378375951 14, pn 39911005869666 13, pn 422770228938183 14, pn 436797083980407 14, pn 425280100661151 14, pn 399780468635756 14, pn 391073517950807 14, pn 399213976545181 14, pn 431873181569407 14, pn 483282631761537 14, pn 473010088960502 14, pn 422531223446104 14, pn 361935914049171 14, pn 352442303324941 14, pn 372047035623454 14, pn 425507899320128 14, pn 440694552133375 14, pn 423554319137249 14, pn 406364860529166 14, pn 407357513036482 14, pn 454020305803419 14, pn 494853907261553 14, pn 473669483165277 14, pn 435693181793555 14, pn 394307487720591 14, pn 406000727030721 14, pn 461609827611477 14, pn 51000990877028 13, pn 523402310837699 14, pn 511101299388835 14, pn 506866665448126 14, pn 522481896696865 14, pn 565630651505209 14, pn 589916778785712 14, pn 569255204645282 14, pn 543570826919295 14, pn 536928457457119 14, pn 531005903076548 14, pn 573258342372132 14, pn 610818950262508 14, pn 622992645197713 14, pn 617378914991634 14, pn 619176996358243 14, pn 632946633015541 14, pn 675434740524295 14, pn 729865971721998 14, pn 735007902274633 14, pn 689666523112863 14, pn 644986738920614 14, pn 61811454067394 13, pn 642490944835852 14, pn 701993414500697 14, pn 73221642371832 13, pn 713369326173758 14, pn 691922912038113 14, pn 699586536485121 14, pn 753986987835428 14, pn 796 3, pn 26712 1, pn 824 1, pn 18220999 7]⟩

def row81 : Row := ⟨"MDA", "Republic of Moldova", [pp 261782 1, pp 209 1, pp 3 2, pp 132 1, pp 0 0, pp 367 3, pp 45463 0, pp 73639 0, pp 7881 0, pp 41365 3, pp 1218795 0, pp 151149 0, pp 87321 0, pp 7 4, pp 1 4, pp 0 0, pp 194 4, pp 8 4, pp 32 4, pn 2035628969351794 9, pn 2186517308611048 10, pn 26192426842137537 11, nn 10000000000000002 16, nn 10000000000000002 16, nn 10000000000000002 16, nn 9999999999999996 16, nn 10000000000000002 16, nn 8274683728476805 16, nn 7106491545815382 16, nn 7415165558049304 16, nn 340440893957582 15, nn 5061051684223117 16, nn 3995763238004799 16, nn 999950597850896 15, nn 999897163805522 15, nn 979337309176487 15, nn 999247159242068 15, nn 9999762362845368 16, nn 999976706838583 15, nn 9546763333967192 16, nn 937116399806133 15, nn 957055978533402 15, pp 0 0, pp 0 0, pp 0 0, pp 0 0, pn 1221557378 11, pn 1221557378 11, pn 25 2, pn 25 2, pn 2377844262 10, pn 2377844262 10, pp 0 0, pp 0 0, pn 169976679166667 8, pn 147464433333333 8, pn 1249521875 3, pn 102439941666667 8, pn 832276958333333 9, pn 6401545 1, pn 109039941666667 8, pn 154064433333333 8, pn 195788925 2, pn 237513416666667 8, pn 21500117083333298 10, pn 192488925 2, pn 237578864353312 16, pp 0 0, pp 0 0, pn 18691588785046 16, pn 17464103009754 16, pn 266582912814148 15, pn 114576986871747 15, pn 660530425669019 16, pp 0 0, pp 0 0, pn 472001393498548 16, pn 1026383049009 16, pp 1922 0, pp 1 0, pn 12404806207751 16, pp 0 0, pp 0 0, pp 0 0, pp 0 0, pp 0 0, pp 0 0, pp 0 0, pp 0 0, pp 0 0, pp 0 0, pp 0 0, pp 0 0, pp 0 0, pp 0 0, pp 0 0, pp 0 0, pp 0 0, pp 0 0, pp 0 0, pp 0 0, pp 0 0, pp 0 0, pp 0 0, pp 0 0, pp 0 0, pp 0 0, pp 0 0, pp 0 0, pp 0 0, pp 0 0, pp 0 0, pp 0 0, pp 0 0, pp 0 0, pp 0 0, pp 0 0, pp 0 0, pp 0 0, pp 0 0, pp 0 0, pp 0 0, pp 0 0, pp 0 0, pp 0 0, pp 0 0, pp 0 0, pp 0 0, pp 0 0, pp 0 0, pp 0 0, pp 0 0, pp 0 0, pp 0 0, pp 0 0, pp 0 0, pp 0 0, pp 0 0, pp 0 0, pp 0 0, pp 0 0, pp 0 0, pp 0 0, pp 0 0, pp 0 0, pp 0 0, pp 0 0, pp 0 0, pp 0 0, pp 0 0, pp 0 0, pp 0 0, pp 0 0, pp 0 0, pp 0 0, pp 0 0, pp 0 0, pp 0 0, pp 0 0, pp 0 0, pp 0 0, pp 0 0, pp 0 0, pp 0 0, pp 0 0, pp 0 0, pp 0 0, pp 0 0, pp 0 0, pp 0 0, pp 0 0, pp 0 0, pp 0 0, pp 0 0, pp 0 0, pp 0 0, pp 0 0, pp 0 0, pp 0 0, pp 0 0, pp 0 0, pp 0 0, pp 0 0, pp 0 0, pp 0 0, pp 0 0, pp 0 0, pp 0 0, pp 0 0, pp 0 0, pp 0 0, pp 0 0, pp 0 0, pp 0 0, pp 0 0, pp 0 0, pp 0 0, pp 0 0, pp 0 0, pp 0 0, pp 0 0, pp 0 0, pp 0 0, pp 0 0, pp 0 0, pn 796 3, pn 4261 1, pn 785 1, pn 1288 3]⟩

def row82 : Row := ⟨"MNG", "Mongolia", [pp 3278292 0, pp 0 0, pp 0 0, pp 0 0, pn 155969256064465 13, pp 1074 3, pp 286 0, pp 417 0, pp 158477 0, pp 985 3, pp 57794212 0, pp 9298835 0, pp 1314828 0, pp 6 4, pp 1 4, pp 1 4, pp 7 4, pp 1 4, pp 2 4, pn 4441898673883188 10, pn 22634685273822823 12, pn 62617554847438005 12, np 1 0, np 1 0, np 1 0, np 1 0, np 1 0, nn 9916687074999712 16, nn 9314472237803418 16, nn 3567088702428462 16, pn 1792419752769422 16, nn 3332621432388341 16, nn 399688798079627 15, nn 999955271959304 15, nn 99995615763518 14, nn 992836808561693 15, nn 950809942342714 15, nn 8466065694430711 16, nn 8056794729089379 16, nn 7404505820582991 16, nn 484093808340723 15, nn 422601843757708 15, pp 0 0, pp 0 0, pp 0 0, pp 0 0, pp 0 0, pp 0 0, pn 25 2, pn 25 2, pn 25 2, pn 25 2, pp 0 0, pp 0 0, pn 125757083333333 9, pn 100725666666667 9, pn 7569425 2, pn 506628333333333 10, pn 256314166666666 10, pp 6 2, pn 506628333333333 10, pn 100725666666667 9, pn 1507885 1, pn 200851333333333 9, pn 175819916666667 9, pn 1507885 1, pn 250687190764156 16, pp 0 0, pn 801774138519277 16, pn 221827861579414 16, pn 17464103009754 16, pn 258552458844526 15, pn 110436018189153 15, pn 635399444582412 16, pp 0 0, pp 0 0, pn 670826898734321 16, pn 1458735857911 16, pp 1334 0, pp 1 0, pn 8609787451165 16, pp 0 0, pp 0 0, pp 0 0, pp 0 0, pp 0 0, pp 0 0, pp 0 0, pp 0 0, pp 0 0, pp 0 0, pp 0 0, pp 0 0, pp 0 0, pp 0 0, pp 0 0, pp 0 0, pp 0 0, pp 0 0, pp 0 0, pp 0 0, pp 0 0, pp 0 0, pp 0 0, pp 0 0, pp 0 0, pp 0 0, pp 0 0, pp 0 0, pp 0 0, pp 0 0, pp 0 0, pp 0 0, pp 0 0, pp 0 0, pp 0 0, pp 0 0, pp 0 0, pp 0 0, pp 0 0, pp 0 0, pp 0 0, pp 0 0, pp 0 0, pp 0 0, pp 0 0, pp 0 0, pp 0 0, pp 0 0, pp 0 0, pp 0 0, pp 0 0, pp 0 0, pp 0 0, pp 0 0, pp 0 0, pp 0 0, pp 0 0, pp 0 0, pp 0 0, pp 0 0, pp 0 0, pp 0 0, pp 0 0, pp 0 0, pp 0 0, pp 0 0, pp 0 0, pp 0 0, pp 0 0, pp 0 0, pp 0 0, pp 0 0, pp 0 0, pp 0 0, pp 0 0, pp 0 0, pp 0 0, pp 0 0, pp 0 0, pp 0 0, pp 0 0, pp 0 0, pp 0 0, pp 0 0, pp 0 0, pp 0 0, pp 0 0, pp 0 0, pp 0 0, pp 0 0, pp 0 0, pp 0 0, pp 0 0, pp 0 0, pp 0 0, pp 0 0, pp 0 0, pp 0 0, pp 0 0, pp 0 0, pp 0 0, pp 0 0, pp 0 0, pp 0 0, pp 0 0, pp 0 0, pp 0 0, pp 0 0, pp 0 0, pp 0 0, pp 0 0, pp 0 0, pp 0 0, pp 0 0, pp 0 0, pp 0 0, pp 0 0, pp 0 0, pp 0 0, pp 0 0, pp 0 0, pp 0 0, pp 0 0, pp 0 0, pn 796 3, pn 60100002 6, pn 403 1, pn 1443 3]⟩

def row83 : Row := ⟨"MAR", "Morocco", [pp 36910558 0, pp 28241 1, pp 4602 1, pp 16776 1, pn 210394929807315 13, pp 2641 3, pp 821525 0, pp 627 0, pp 282 3, pp 218221 3, pp 28057349 0, pp 4730676 0, pp 1668447 0, pp 189 4, pp 41 4, pp 14 4, pp 476 4, pp 18 4, pp 86 4, pn 5518878460595368 9, pn 42194206419793016 11, pn 6346122673179442 10, nn 8364568382596534 16, nn 4801663787538986 16, nn 4801663787538986 16, nn 3097468599895254 16, pn 1805787308965598 16, pn 6972164987080518 16, pn 6824660623829941 16, nn 2145363304597233 16, nn 4212017749510561 16, nn 3370268508445315 16, nn 434310837146663 16, nn 593413918447361 15, nn 8926598745604071 16, nn 757190474373469 15, nn 9119394455456892 16, nn 922099928289362 15, nn 932570227505584 15, nn 929161288309605 15, nn 909240557738 12, nn 8808105408522761 16, pn 1919449804 11, pp 0 0, pp 0 0, pp 0 0, pp 0 0, pn 1637353443 10, pn 230805502 9, pn 230805502 9, pn 230805502 9, pn 8626465566 11, pn 1919449804 11, pn 1919449804 11, pn 8219631375000001 9, pn 758428220833334 8, pn 6948933041666671 9, pn 6313583875 3, pn 567823470833333 8, pn 629123491666667 8, pn 741559075 2, pn 853994658333333 8, pn 966430241666667 8, pn 9686651375 3, pn 919764470833333 8, pn 870863804166667 8, pn 576835127439747 16, pp 0 0, pp 0 0, pn 747323340471092 16, pn 17464103009754 16, pn 179292748787894 15, pn 721625172935086 16, pn 40774126869592 15, pp 0 0, pp 0 0, pn 711176629326277 15, pn 15464777164782 16, pp 8612 0, pp 1 0, pn 55582825734213 16, pn 23839501949496 16, pn 23839501949496 16, pn 23839501949496 16, pn 23839501949496 16, pn 125307230730804 14, pn 125367846568973 14, pn 116446966839296 14, pn 103527954468509 14, pn 961512922389098 15, pn 932072750118132 15, pn 804617605532861 15, pn 780306824251848 15, pn 820221624164208 15, pn 823418956292081 15, pn 775359495051149 15, pn 637903450301987 15, pn 588870255322997 15, pn 625494423262561 15, pn 699798427051329 15, pn 756385592285336 15, pn 77247750350272 14, pn 690685779521733 15, pn 623627098494677 15, pn 633497019919744 15, pn 654585219628031 15, pn 678221661285326 15, pn 642235920927908 15, pn 558452461567825 15, pn 550726354911298 15, pn 533241914274222 15, pn 559077587932166 15, pn 571602426565577 15, pn 585972414384307 15, pn 507581060856766 15, pn 476498579339626 15, pn 460375197883433 15, pn 495445346912131 15, pn 555511373771659 15, pn 535378583926726 15, pn 522042355245346 15, pn 509751643933992 15, pn 505917636988734 15, pn 503919661751173 15, pn 513327853544145 15, pn 514175353449103 15, pn 470236486652447 15, pn 433099151096754 15, pn 417731034252111 15, pn 4589048904543 13, pn 511477485927674 15, pn 521946469376341 15, pn 540108889789081 15, pn 539886903447276 15, pn 545419791111906 15, pn 546698827321603 15, pn 533937100159938 15, pn 532207116287776 15, pn 472239303610618 15, pn 395591548892984 15, pn 381781037642599 15, pn 433423576206002 15, pn 492862261945019 15, pn 537514092314661 15, pn 559213168164554 15, pn 587997598217513 15, pn 627624656363427 15, pn 632472485464784 15, pn 582125310182791 15, pn 531199123198026 15, pn 470782512469459 15, pn 410639172226025 15, pn 403227449169194 15, pn 453669790475513 15, pn 525221394490141 15, pn 571830375386405 15, pn 580750441197102 15, pn 635296453090261 15, pn 701827805097738 15, pn 671723616673777 15, pn 60179402313819 14, pn 521390490430414 15, pn 469530619023012 15, pn 427651558855648 15, pn 42963081978582 14, pn 46603564184307 14, pn 542606388967509 15, pn 59108300019918 14, pn 624642198498689 15, pn 69867140533179 14, pn 779970043657163 15, pn 753118024156137 15, pn 640722574308407 15, pn 571390153768085 15, pn 520382505764622 15, pn 489644817171928 15, pn 461562953165597 15, pn 530046869432579 15, pn 577838810697034 15, pn 641354741404765 15, pn 706086788708845 15, pn 843711957844599 15, pn 913032033112738 15, pn 861700119798149 15, pn 770884355522217 15, pn 661651634721807 15, pn 618783982018184 15, pn 582799506486546 15, pn 517420687334327 15, pn 556261710999006 15, pn 599625826339062 15, pn 691953757070279 15, pn 869444160023993 15, pn 101924075948968 14, pn 107132482822279 14, pn 102067889731294 14, pn 846024469766208 15, pn 756059933939122 15, pn 66355912632032 14, pn 627535784479301 15, pn 600794739829099 15, pn 594746238383821 15, pn 648169213504355 15, pn 767347509266252 15, pn 906179412169381 15, pn 796 3, pn 5827 1, pn 498 1, pn 7223 4]⟩

end Allfed.Gen.CountryTable
