-- GENERATED on every check run by harness/translators/tr_country.py (run): rows 147..163 of the combined country table
-- REGENERATED in the scratch copy by re-running the import scripts of scripts/run_all_imports.sh.  Do not edit.
import AllfedModel.Model.CountryTable
namespace Allfed.Gen.CountryTable
open Allfed.CountryTable


def row147 : Row := ⟨"GRC", "Greece", [pp 10715549 0, pn 1096931952 4, pn 1783809258 5, pn 6498495771 5, pn 171802098287212 14, pn 19672131147541 7, pp 23652 1, pp 8089 1, pp 3474 1, pp 0 0, pp 12571 3, pp 543 3, pp 86 3, pp 114 4, pp 37 4, pp 5 4, pp 299 4, pp 13 4, pp 44 4, pn 3736203162950269 9, pn 20555205583689845 11, pn 461682562560869 9, nn 9597262996645078 16, nn 8488119525143675 16, nn 8488119525143675 16, nn 6705530722019152 16, nn 4132850724837936 16, nn 2581842661580479 16, nn 3900955577320208 16, nn 404801608533802 15, nn 2504166608358661 16, nn 2990699696614364 16, pn 105481312863607 15, nn 8327716960740951 16, nn 961113241074176 15, nn 741262744569113 15, nn 987222701094128 15, nn 990997253551587 15, nn 9757067930585812 16, nn 977340944362898 15, nn 86193824861699 14, nn 8696750456080321 16, pn 7978254932 11, pp 0 0, pp 0 0, pp 0 0, pp 0 0, pp 0 0, pn 1683928576 10, pn 1683928576 10, pn 1702174507 10, pn 25 2, pn 8160714242 11, pn 8160714242 11, pn 328868924777904 8, pn 286337607474953 8, pn 243806290171999 8, pn 201274972869046 8, pn 158743655566093 8, pn 11621233826314 7, pn 159624661648924 8, pn 202105756858242 8, pn 246449308420492 8, pn 33151194302639803 10, pn 330630936943568 8, pn 329749930860736 8, pn 416617537240105 16, pn 13717421124828 16, pp 0 0, pn 104668429249212 16, pn 17464103009754 16, pn 547557398700686 15, pn 194937305180084 15, pn 106541542966143 15, pp 0 0, pp 0 0, pn 272210240756487 15, pn 5919304068328 16, pn 32201601 4, pp 1 0, pn 20783278875356 16, pp 0 0, pp 0 0, pp 0 0, pp 0 0, pp 0 0, pp 0 0, pp 0 0, pp 0 0, pp 0 0, pp 0 0, pp 0 0, pp 0 0, pp 0 0, pp 0 0, pp 0 0, pp 0 0, pp 0 0, pp 0 0, pp 0 0, pp 0 0, pp 0 0, pp 0 0, pp 0 0, pp 0 0, pp 0 0, pp 0 0, pp 0 0, pp 0 0, pp 0 0, pp 0 0, pp 0 0, pp 0 0, pp 0 0, pp 0 0, pp 0 0, pp 0 0, pp 0 0, pp 0 0, pp 0 0, pp 0 0, pp 0 0, pp 0 0, pp 0 0, pp 0 0, pp 0 0, pp 0 0, pp 0 0, pp 0 0, pp 0 0, pp 0 0, pp 0 0, pp 0 0, pp 0 0, pp 0 0, pp 0 0, pp 0 0, pp 0 0, pp 0 0, pp 0 0, pp 0 0, pp 0 0, pp 0 0, pp 0 0, pp 0 0, pp 0 0, pp 0 0, pp 0 0, pp 0 0, pp 0 0, pp 0 0, pp 0 0, pp 0 0, pp 0 0, pp 0 0, pp 0 0, pp 0 0, pp 0 0, pp 0 0, pp 0 0, pp 0 0, pp 0 0, pp 0 0, pp 0 0, pp 0 0, pp 0 0, pp 0 0, pp 0 0, pp 0 0, pp 0 0, pp 0 0, pp 0 0, pp 0 0, pp 0 0, pp 0 0, pp 0 0, pp 0 0, pp 0 0, pp 0 0, pp 0 0, pp 0 0, pp 0 0, pp 0 0, pp 0 0, pp 0 0, pp 0 0, pp 0 0, pp 0 0, pp 0 0, pp 0 0, pp 0 0, pp 0 0, pp 0 0, pp 0 0, pp 0 0, pp 0 0, pp 0 0, pp 0 0, pp 0 0, pp 0 0, pp 0 0, pp 0 0, pp 0 0, pp 0 0, pp 0 0, pn 796 3, pn 2696 1, pn 588 1, pn 16561999 7]⟩

def row148 : Row := ⟨"HUN", "Hungary", [pp 9749763 0, pn 1299302459 5, pn 2114545799 6, pn 7722261902 6, pn 9123973455109472 16, pn 19672131147541 7, pp 35448 1, pp 45572 1, pp 2915 1, pp 40418 3, pp 3841 3, pp 9404 2, pp 226 3, pp 26 4, pp 1 5, pp 1 4, pp 607 4, pp 3 5, pp 6 5, pn 16387733917295467 9, pn 141576796385186 8, pn 2130165559989994 9, np 1 0, np 1 0, np 1 0, np 1 0, nn 9674336816924416 16, nn 7522763355052406 16, nn 622830411576461 15, nn 6437486174751952 16, nn 4496049472864271 16, nn 4386227927491584 16, nn 307622849698306 15, nn 99468366103994 14, nn 987469271256282 15, nn 992318481664957 15, nn 978678271033968 15, nn 936274177754956 15, nn 995496803090794 15, nn 960439849329567 15, nn 8707372622667551 16, nn 9366801833635492 16, pn 1742323097 10, pn 3949710725 11, pn 3949710725 11, pn 3949710725 11, pp 0 0, pp 0 0, pn 7576769025 11, pn 7576769025 11, pn 7576769025 11, pn 2105028927 10, pn 1347352025 10, pn 1347352025 10, pn 299228165971654 8, pn 260530170770328 8, pn 221832175569 5, pn 183134180367672 8, pn 144436185166345 8, pn 105738189965017 8, pn 145237786699702 8, pn 18389008629455096 10, pn 224236980169071 8, pn 301632970571725 8, pn 30083136903837 7, pn 300029767505012 8, pn 220986182845539 16, pn 69569120287253 16, pn 185762535723565 16, pn 235527520602299 16, pn 17464103009754 16, pn 571370267944532 15, pn 20341498545619 14, pn 111174956445187 15, pp 0 0, pp 0 0, pn 456204199786335 15, pn 9920315151549 16, pp 4488 0, pp 1 0, pn 28966061529859 16, pp 0 0, pp 0 0, pp 0 0, pp 0 0, pp 0 0, pp 0 0, pp 0 0, pp 0 0, pp 0 0, pp 0 0, pp 0 0, pp 0 0, pp 0 0, pp 0 0, pp 0 0, pp 0 0, pp 0 0, pp 0 0, pp 0 0, pp 0 0, pp 0 0, pp 0 0, pp 0 0, pp 0 0, pp 0 0, pp 0 0, pp 0 0, pp 0 0, pp 0 0, pp 0 0, pp 0 0, pp 0 0, pp 0 0, pp 0 0, pp 0 0, pp 0 0, pp 0 0, pp 0 0, pp 0 0, pp 0 0, pp 0 0, pp 0 0, pp 0 0, pp 0 0, pp 0 0, pp 0 0, pp 0 0, pp 0 0, pp 0 0, pp 0 0, pp 0 0, pp 0 0, pp 0 0, pp 0 0, pp 0 0, pp 0 0, pp 0 0, pp 0 0, pp 0 0, pp 0 0, pp 0 0, pp 0 0, pp 0 0, pp 0 0, pp 0 0, pp 0 0, pp 0 0, pp 0 0, pp 0 0, pp 0 0, pp 0 0, pp 0 0, pp 0 0, pp 0 0, pp 0 0, pp 0 0, pp 0 0, pp 0 0, pp 0 0, pp 0 0, pp 0 0, pp 0 0, pp 0 0, pp 0 0, pp 0 0, pp 0 0, pp 0 0, pp 0 0, pp 0 0, pp 0 0, pp 0 0, pp 0 0, pp 0 0, pp 0 0, pp 0 0, pp 0 0, pp 0 0, pp 0 0, pp 0 0, pp 0 0, pp 0 0, pp 0 0, pp 0 0, pp 0 0, pp 0 0, pp 0 0, pp 0 0, pp 0 0, pp 0 0, pp 0 0, pp 0 0, pp 0 0, pp 0 0, pp 0 0, pp 0 0, pp 0 0, pp 0 0, pp 0 0, pp 0 0, pp 0 0, pp 0 0, pp 0 0, pp 0 0, pp 0 0, pn 796 3, pn 62745 1, pn 955 1, pn 19466 4]⟩

def row149 : Row := ⟨"IRL", "Ireland", [pp 4994724 0, pn 2564524493 5, pn 46227001230000005 13, pn 13192684 3, pn 480740962274717 13, pn 786885245901639 8, pp 15214 1, pp 32013 1, pp 63338 1, pp 0 0, pp 555579 1, pp 652944 1, pp 145605 1, pp 86 4, pp 26 4, pp 4 4, pp 449 4, pp 4 5, pp 57 4, pn 1769313988489129 9, pn 6811184091256435 11, pn 24660112954724164 11, np 1 0, np 1 0, np 1 0, np 1 0, nn 997787109159499 15, nn 908572754627966 15, nn 426779087597922 15, nn 5598481459177461 16, nn 407577078728475 15, nn 407925147392858 16, nn 137831242351034 15, nn 51507975423064 14, nn 737073442261815 15, nn 88059974886011 14, nn 9165773282836892 16, nn 980290818591558 15, nn 98222916478499 14, nn 9925663213754892 16, nn 998024954943426 15, nn 9977896378149852 16, pn 7978254932 11, pp 0 0, pp 0 0, pp 0 0, pp 0 0, pp 0 0, pn 1683928576 10, pn 1683928576 10, pn 1702174507 10, pn 25 2, pn 8160714242 11, pn 8160714242 11, pn 15329214690188898 10, pn 133467479842398 8, pn 113642812782905 8, pn 938181457234131 9, pn 739934786639208 9, pn 541688116044287 9, pn 744041325861849 9, pn 942053901594802 9, pn 114874774549697 8, pn 154524108668682 8, pn 154113454746418 8, pn 153702800824154 8, pn 147887750772774 16, pp 0 0, pp 0 0, pp 0 0, pn 17464103009754 16, pn 813260262260918 15, pn 289530858885996 15, pn 158240950409825 15, pp 0 0, pp 0 0, pn 185254191625943 14, pn 40284152687233 16, pp 444 0, pp 1 0, pn 2865626408034 16, pp 0 0, pp 0 0, pp 0 0, pp 0 0, pp 0 0, pp 0 0, pp 0 0, pp 0 0, pp 0 0, pp 0 0, pp 0 0, pp 0 0, pp 0 0, pp 0 0, pp 0 0, pp 0 0, pp 0 0, pp 0 0, pp 0 0, pp 0 0, pp 0 0, pp 0 0, pp 0 0, pp 0 0, pp 0 0, pp 0 0, pp 0 0, pp 0 0, pp 0 0, pp 0 0, pp 0 0, pp 0 0, pp 0 0, pp 0 0, pp 0 0, pp 0 0, pp 0 0, pp 0 0, pp 0 0, pp 0 0, pp 0 0, pp 0 0, pp 0 0, pp 0 0, pp 0 0, pp 0 0, pp 0 0, pp 0 0, pp 0 0, pp 0 0, pp 0 0, pp 0 0, pp 0 0, pp 0 0, pp 0 0, pp 0 0, pp 0 0, pp 0 0, pp 0 0, pp 0 0, pp 0 0, pp 0 0, pp 0 0, pp 0 0, pp 0 0, pp 0 0, pp 0 0, pp 0 0, pp 0 0, pp 0 0, pp 0 0, pp 0 0, pp 0 0, pp 0 0, pp 0 0, pp 0 0, pp 0 0, pp 0 0, pp 0 0, pp 0 0, pp 0 0, pp 0 0, pp 0 0, pp 0 0, pp 0 0, pp 0 0, pp 0 0, pp 0 0, pp 0 0, pp 0 0, pp 0 0, pp 0 0, pp 0 0, pp 0 0, pp 0 0, pp 0 0, pp 0 0, pp 0 0, pp 0 0, pp 0 0, pp 0 0, pp 0 0, pp 0 0, pp 0 0, pp 0 0, pp 0 0, pp 0 0, pp 0 0, pp 0 0, pp 0 0, pp 0 0, pp 0 0, pp 0 0, pp 0 0, pp 0 0, pp 0 0, pp 0 0, pp 0 0, pp 0 0, pp 0 0, pp 0 0, pp 0 0, pp 0 0, pp 0 0, pn 796 3, pn 60056 1, pn 908 1, pn 148 2]⟩

def row150 : Row := ⟨"ITA", "Italy", [pp 59554023 0, pn 3345275871 4, pn 4958602541 5, pn 2032650213 4, pn 66314114183876 12, pn 131147540983607 7, pp 106691 1, pp 128669 1, pp 73228 1, pp 0 0, pp 166429 2, pp 680707 1, pp 187127 1, pp 465 4, pp 168 4, pp 7 4, pp 1415 4, pp 77 4, pp 203 4, pn 20214222686554164 9, pn 1318762155707206 9, pn 25405493918607626 10, nn 9811482998431554 16, nn 9152150538026936 16, nn 9152150538026936 16, nn 8552133669554972 16, nn 7321881218263019 16, nn 5747220844986126 16, nn 4558864431472413 16, nn 3236897315535958 16, nn 3396759834181593 16, nn 2833856172714128 16, nn 547631115843883 16, nn 828154162193764 15, nn 8558929615918219 16, nn 959819515781853 15, nn 891117332780232 15, nn 933907269872336 15, nn 95702903016986 14, nn 949861048163492 15, nn 939694222867361 15, nn 934711633970627 15, pn 7978254932 11, pp 0 0, pp 0 0, pp 0 0, pp 0 0, pp 0 0, pn 1683928576 10, pn 1683928576 10, pn 1702174507 10, pn 25 2, pn 8160714242 11, pn 8160714242 11, pn 182776146235798 7, pn 159138430157226 7, pn 135500714078653 7, pn 11186299800008 6, pn 882252819215066 8, pn 645875658429338 8, pn 887149204507137 8, pn 11232472449492 6, pn 136969629666274 7, pn 184245061823419 7, pn 183755423294213 7, pn 183265784765005 7, pn 50556752138152 16, pn 2364625206904 16, pn 5727962686414 16, pp 0 0, pn 17464103009754 16, pn 640874860069931 15, pn 228159492458958 15, pn 124698883810326 15, pp 14204 0, pn 9375692541496647 20, pn 396973267769877 14, pn 86323184329785 16, pn 932907 2, pp 1 0, pn 60210876924324 16, pp 0 0, pp 0 0, pp 0 0, pp 0 0, pp 0 0, pp 0 0, pp 0 0, pp 0 0, pp 0 0, pp 0 0, pp 0 0, pp 0 0, pp 0 0, pp 0 0, pp 0 0, pp 0 0, pp 0 0, pp 0 0, pp 0 0, pp 0 0, pp 0 0, pp 0 0, pp 0 0, pp 0 0, pp 0 0, pp 0 0, pp 0 0, pp 0 0, pp 0 0, pp 0 0, pp 0 0, pp 0 0, pp 0 0, pp 0 0, pp 0 0, pp 0 0, pp 0 0, pp 0 0, pp 0 0, pp 0 0, pp 0 0, pp 0 0, pp 0 0, pp 0 0, pp 0 0, pp 0 0, pp 0 0, pp 0 0, pp 0 0, pp 0 0, pp 0 0, pp 0 0, pp 0 0, pp 0 0, pp 0 0, pp 0 0, pp 0 0, pp 0 0, pp 0 0, pp 0 0, pp 0 0, pp 0 0, pp 0 0, pp 0 0, pp 0 0, pp 0 0, pp 0 0, pp 0 0, pp 0 0, pp 0 0, pp 0 0, pp 0 0, pp 0 0, pp 0 0, pp 0 0, pp 0 0, pp 0 0, pp 0 0, pp 0 0, pp 0 0, pp 0 0, pp 0 0, pp 0 0, pp 0 0, pp 0 0, pp 0 0, pp 0 0, pp 0 0, pp 0 0, pp 0 0, pp 0 0, pp 0 0, pp 0 0, pp 0 0, pp 0 0, pp 0 0, pp 0 0, pp 0 0, pp 0 0, pp 0 0, pp 0 0, pp 0 0, pp 0 0, pp 0 0, pp 0 0, pp 0 0, pp 0 0, pp 0 0, pp 0 0, pp 0 0, pp 0 0, pp 0 0, pp 0 0, pp 0 0, pp 0 0, pp 0 0, pp 0 0, pp 0 0, pp 0 0, pp 0 0, pp 0 0, pp 0 0, pp 0 0, pp 0 0, pn 796 3, pn 18626 1, pn 1218 1, pn 18364999 7]⟩

def row151 : Row := ⟨"LVA", "Latvia", [pp 1901548 0, pn 1372484658 5, pn 225073483 5, pn 8323960455 6, pn 921905007694838 15, pn 6557377049180331 10, pp 3514 1, pp 3726 1, pp 1603 1, pp 0 0, pp 41019 1, pp 39899 1, pp 13604 1, pp 2 5, pp 8 4, pp 0 0, pp 54 4, pp 3 4, pp 9 4, pn 36714930549338274 10, pn 3007869894325032 10, pn 5454434176533131 10, np 1 0, np 1 0, np 1 0, np 1 0, np 1 0, np 1 0, np 1 0, nn 818541979104417 15, nn 644368287784983 15, nn 862607394890271 15, nn 5331546347309309 16, nn 99999857643764 14, nn 999998604626153 15, nn 999998632256425 15, nn 99964145827645 14, nn 999998752027425 15, nn 8991466318515571 16, nn 991717296393771 15, nn 965209178865429 15, nn 976130458710025 15, pn 5893234672 11, pp 0 0, pp 0 0, pp 0 0, pp 0 0, pp 0 0, pn 1382135307 10, pn 1382135307 10, pn 1910676533 10, pn 25 2, pn 1117864693 10, pn 1117864693 10, pn 583600566031264 9, pn 5081258130766621 10, pn 432651060122057 9, pn 357176307167452 9, pn 281701554212848 9, pn 206226801258244 9, pn 283264960208001 9, pn 35865059059715696 11, pn 437341278107515 9, pn 5882907840167229 10, pn 586727378021572 9, pn 585163972026418 9, pn 178165509614794 16, pp 0 0, pn 162122328666175 16, pn 27839643652561 16, pn 17464103009754 16, pn 556565955381645 15, pn 198144464405976 15, pn 108294392130385 15, pp 14 3, pn 9241037424736204 20, pn 919969795149239 16, pn 200050554161 15, pp 1328 0, pp 1 0, pn 8571062769976 16, pp 0 0, pp 0 0, pp 0 0, pp 0 0, pp 0 0, pp 0 0, pp 0 0, pp 0 0, pp 0 0, pp 0 0, pp 0 0, pp 0 0, pp 0 0, pp 0 0, pp 0 0, pp 0 0, pp 0 0, pp 0 0, pp 0 0, pp 0 0, pp 0 0, pp 0 0, pp 0 0, pp 0 0, pp 0 0, pp 0 0, pp 0 0, pp 0 0, pp 0 0, pp 0 0, pp 0 0, pp 0 0, pp 0 0, pp 0 0, pp 0 0, pp 0 0, pp 0 0, pp 0 0, pp 0 0, pp 0 0, pp 0 0, pp 0 0, pp 0 0, pp 0 0, pp 0 0, pp 0 0, pp 0 0, pp 0 0, pp 0 0, pp 0 0, pp 0 0, pp 0 0, pp 0 0, pp 0 0, pp 0 0, pp 0 0, pp 0 0, pp 0 0, pp 0 0, pp 0 0, pp 0 0, pp 0 0, pp 0 0, pp 0 0, pp 0 0, pp 0 0, pp 0 0, pp 0 0, pp 0 0, pp 0 0, pp 0 0, pp 0 0, pp 0 0, pp 0 0, pp 0 0, pp 0 0, pp 0 0, pp 0 0, pp 0 0, pp 0 0, pp 0 0, pp 0 0, pp 0 0, pp 0 0, pp 0 0, pp 0 0, pp 0 0, pp 0 0, pp 0 0, pp 0 0, pp 0 0, pp 0 0, pp 0 0, pp 0 0, pp 0 0, pp 0 0, pp 0 0, pp 0 0, pp 0 0, pp 0 0, pp 0 0, pp 0 0, pp 0 0, pp 0 0, pp 0 0, pp 0 0, pp 0 0, pp 0 0, pp 0 0, pp 0 0, pp 0 0, pp 0 0, pp 0 0, pp 0 0, pp 0 0, pp 0 0, pp 0 0, pp 0 0, pp 0 0, pp 0 0, pp 0 0, pp 0 0, pp 0 0, pp 0 0, pn 796 3, pn 71296 1, pn 856 1, pn 16537 4]⟩

def row152 : Row := ⟨"LTU", "Lithuania", [pp 27947 2, pn 1872820254 5, pn 3047590033 6, pn 1110187949 5, pn 341855562537719 14, pn 131147540983607 8, pp 9706 1, pp 8037 1, pp 4341 1, pp 0 0, pp 7357 2, pp 6295 2, pp 2329 2, pp 45 4, pp 17 4, pp 1 4, pp 109 4, pp 9 4, pp 18 4, pn 7282498312142931 9, pn 6128372689475737 10, pn 10841274423326144 10, nn 10000000000000002 16, nn 10000000000000002 16, nn 10000000000000002 16, nn 10000000000000002 16, np 1 0, nn 10000000000000002 16, nn 934024860391122 15, nn 8157865877122855 16, nn 6420096927809247 16, nn 959472748930073 15, nn 409875574016893 15, nn 999987979971937 15, nn 999988217984294 15, nn 999988451283731 15, nn 980103867370849 15, nn 999992430023929 15, nn 949254183412272 15, nn 988110709710136 15, nn 9837076774868392 16, nn 959788802794537 15, pn 5893234672 11, pp 0 0, pp 0 0, pp 0 0, pp 0 0, pp 0 0, pn 1382135307 10, pn 1382135307 10, pn 1910676533 10, pn 25 2, pn 1117864693 10, pn 1117864693 10, pn 857716188015014 9, pn 7467911458481969 10, pn 6358661036813749 10, pn 524941061514555 9, pn 41401601934773504 11, pn 303090977180915 9, pn 416313752949334 9, pn 527107811920537 9, pn 642759304486173 9, pn 8646093888198109 10, pn 862311655218215 9, pn 860013921616615 9, pn 359273914955091 16, pp 0 0, pn 262295081967213 16, pn 136387711864407 16, pn 17464103009754 16, pn 604449175144082 15, pn 215191491523104 15, pn 117611318771834 15, pp 0 0, pp 0 0, pn 132324422589959 15, pn 2877439477659 16, pp 2247 0, pp 1 0, pn 14502393105524 16, pp 0 0, pp 0 0, pp 0 0, pp 0 0, pp 0 0, pp 0 0, pp 0 0, pp 0 0, pp 0 0, pp 0 0, pp 0 0, pp 0 0, pp 0 0, pp 0 0, pp 0 0, pp 0 0, pp 0 0, pp 0 0, pp 0 0, pp 0 0, pp 0 0, pp 0 0, pp 0 0, pp 0 0, pp 0 0, pp 0 0, pp 0 0, pp 0 0, pp 0 0, pp 0 0, pp 0 0, pp 0 0, pp 0 0, pp 0 0, pp 0 0, pp 0 0, pp 0 0, pp 0 0, pp 0 0, pp 0 0, pp 0 0, pp 0 0, pp 0 0, pp 0 0, pp 0 0, pp 0 0, pp 0 0, pp 0 0, pp 0 0, pp 0 0, pp 0 0, pp 0 0, pp 0 0, pp 0 0, pp 0 0, pp 0 0, pp 0 0, pp 0 0, pp 0 0, pp 0 0, pp 0 0, pp 0 0, pp 0 0, pp 0 0, pp 0 0, pp 0 0, pp 0 0, pp 0 0, pp 0 0, pp 0 0, pp 0 0, pp 0 0, pp 0 0, pp 0 0, pp 0 0, pp 0 0, pp 0 0, pp 0 0, pp 0 0, pp 0 0, pp 0 0, pp 0 0, pp 0 0, pp 0 0, pp 0 0, pp 0 0, pp 0 0, pp 0 0, pp 0 0, pp 0 0, pp 0 0, pp 0 0, pp 0 0, pp 0 0, pp 0 0, pp 0 0, pp 0 0, pp 0 0, pp 0 0, pp 0 0, pp 0 0, pp 0 0, pp 0 0, pp 0 0, pp 0 0, pp 0 0, pp 0 0, pp 0 0, pp 0 0, pp 0 0, pp 0 0, pp 0 0, pp 0 0, pp 0 0, pp 0 0, pp 0 0, pp 0 0, pp 0 0, pp 0 0, pp 0 0, pp 0 0, pp 0 0, pp 0 0, pp 0 0, pn 796 3, pn 63142 1, pn 83700005 6, pn 18118999 7]⟩

def row153 : Row := ⟨"LUX", "Luxembourg", [pp 632275 0, pn 3037908514 6, pn 452002252 6, pn 1853149886 6, pn 13114662288355 13, pn 6557377049180331 10, pp 0 0, pp 1249 1, pp 1034 1, pp 0 0, pp 91648 0, pp 19069 1, pp 5423 1, pp 2 4, pp 1 4, pp 0 0, pp 12 4, pp 1 4, pp 2 4, pn 14015894905443012 11, pn 7779462297756157 12, pn 1960083539608 8, nn 10000000000000002 16, nn 10000000000000002 16, nn 10000000000000002 16, nn 10000000000000002 16, np 1 0, nn 9859236934396434 16, nn 6655917138097118 16, nn 5263355973082157 16, nn 6931167114190534 16, nn 5173576814041876 16, nn 3553357874963659 16, nn 9982850734722172 16, nn 893742474093766 15, nn 992500138793902 15, nn 963552210798607 15, nn 993219653316544 15, nn 969765299007435 15, nn 991340571543307 15, nn 9910642246038708 16, nn 9959298734752288 16, pn 7978254932 11, pp 0 0, pp 0 0, pp 0 0, pp 0 0, pp 0 0, pn 1683928576 10, pn 1683928576 10, pn 1702174507 10, pn 25 2, pn 8160714242 11, pn 8160714242 11, pn 19405034629019 8, pn 168954582510169 9, pn 143858818730147 9, pn 118763054950125 9, pn 936672911701038 10, pn 6857152739008231 11, pn 941871321236771 10, pn 119253262168411 9, pn 145418341590867 9, pn 195609869150909 9, pn 195090028197337 9, pn 19457018724376295 11, pn 181171142025235 16, pp 0 0, pp 0 0, pp 0 0, pn 17464103009754 16, pn 888697723743142 15, pn 316387541830773 15, pn 17291927192066 14, pp 0 0, pp 0 0, pn 139885818166528 15, pn 3041864590668 16, pn 63515 3, pp 1 0, pn 409933020960125 19, pp 0 0, pp 0 0, pp 0 0, pp 0 0, pp 0 0, pp 0 0, pp 0 0, pp 0 0, pp 0 0, pp 0 0, pp 0 0, pp 0 0, pp 0 0, pp 0 0, pp 0 0, pp 0 0, pp 0 0, pp 0 0, pp 0 0, pp 0 0, pp 0 0, pp 0 0, pp 0 0, pp 0 0, pp 0 0, pp 0 0, pp 0 0, pp 0 0, pp 0 0, pp 0 0, pp 0 0, pp 0 0, pp 0 0, pp 0 0, pp 0 0, pp 0 0, pp 0 0, pp 0 0, pp 0 0, pp 0 0, pp 0 0, pp 0 0, pp 0 0, pp 0 0, pp 0 0, pp 0 0, pp 0 0, pp 0 0, pp 0 0, pp 0 0, pp 0 0, pp 0 0, pp 0 0, pp 0 0, pp 0 0, pp 0 0, pp 0 0, pp 0 0, pp 0 0, pp 0 0, pp 0 0, pp 0 0, pp 0 0, pp 0 0, pp 0 0, pp 0 0, pp 0 0, pp 0 0, pp 0 0, pp 0 0, pp 0 0, pp 0 0, pp 0 0, pp 0 0, pp 0 0, pp 0 0, pp 0 0, pp 0 0, pp 0 0, pp 0 0, pp 0 0, pp 0 0, pp 0 0, pp 0 0, pp 0 0, pp 0 0, pp 0 0, pp 0 0, pp 0 0, pp 0 0, pp 0 0, pp 0 0, pp 0 0, pp 0 0, pp 0 0, pp 0 0, pp 0 0, pp 0 0, pp 0 0, pp 0 0, pp 0 0, pp 0 0, pp 0 0, pp 0 0, pp 0 0, pp 0 0, pp 0 0, pp 0 0, pp 0 0, pp 0 0, pp 0 0, pp 0 0, pp 0 0, pp 0 0, pp 0 0, pp 0 0, pp 0 0, pp 0 0, pp 0 0, pp 0 0, pp 0 0, pp 0 0, pp 0 0, pp 0 0, pn 796 3, pn 70222 1, pn 848 1, pn 136 2]⟩

def row154 : Row := ⟨"MLT", "Malta", [pp 525285 0, pn 1590332208 5, pn 2633749243 6, pn 9374895418 6, pn 190165746384445 16, pp 0 0, pp 415 1, pp 456 1, pp 114 1, pp 0 0, pp 6395 1, pp 1401 1, pp 606 1, pp 1 4, pp 0 0, pp 0 0, pp 5 4, pp 0 0, pp 1 4, pn 4342372865926921 12, pn 1040427000250821 13, pn 6032143657381382 13, np 1 0, np 1 0, np 1 0, np 1 0, np 1 0, np 1 0, np 1 0, np 1 0, np 1 0, np 1 0, np 1 0, np 1 0, np 1 0, np 1 0, np 1 0, np 1 0, np 1 0, np 1 0, np 1 0, np 1 0, pn 2065274841 10, pn 1117864693 10, pn 1117864693 10, pn 1117864693 10, pp 0 0, pp 0 0, pn 4347251586 11, pn 4347251586 11, pn 4347251586 11, pn 1382135307 10, pn 947410148 10, pn 947410148 10, pn 16121424404103 8, pn 14036504349192 8, pn 11951584294281 8, pn 986666423936999 10, pn 778174418445897 10, pn 569682412954797 10, pn 7824931825168751 11, pn 990738995186172 10, pn 120811472164103 9, pn 162509873262323 9, pn 162077996855226 9, pn 161646120448128 9, pn 192738682205289 16, pp 0 0, pp 0 0, pn 67175572519084 15, pn 17464103009754 16, pn 651323127933872 15, pn 231879206932782 15, pn 126731866255983 15, pp 0 0, pp 0 0, pn 378069778828455 16, pn 822125565045578 19, pn 1038 2, pp 1 0, pn 66993698458098 19, pp 0 0, pp 0 0, pp 0 0, pp 0 0, pp 0 0, pp 0 0, pp 0 0, pp 0 0, pp 0 0, pp 0 0, pp 0 0, pp 0 0, pp 0 0, pp 0 0, pp 0 0, pp 0 0, pp 0 0, pp 0 0, pp 0 0, pp 0 0, pp 0 0, pp 0 0, pp 0 0, pp 0 0, pp 0 0, pp 0 0, pp 0 0, pp 0 0, pp 0 0, pp 0 0, pp 0 0, pp 0 0, pp 0 0, pp 0 0, pp 0 0, pp 0 0, pp 0 0, pp 0 0, pp 0 0, pp 0 0, pp 0 0, pp 0 0, pp 0 0, pp 0 0, pp 0 0, pp 0 0, pp 0 0, pp 0 0, pp 0 0, pp 0 0, pp 0 0, pp 0 0, pp 0 0, pp 0 0, pp 0 0, pp 0 0, pp 0 0, pp 0 0, pp 0 0, pp 0 0, pp 0 0, pp 0 0, pp 0 0, pp 0 0, pp 0 0, pp 0 0, pp 0 0, pp 0 0, pp 0 0, pp 0 0, pp 0 0, pp 0 0, pp 0 0, pp 0 0, pp 0 0, pp 0 0, pp 0 0, pp 0 0, pp 0 0, pp 0 0, pp 0 0, pp 0 0, pp 0 0, pp 0 0, pp 0 0, pp 0 0, pp 0 0, pp 0 0, pp 0 0, pp 0 0, pp 0 0, pp 0 0, pp 0 0, pp 0 0, pp 0 0, pp 0 0, pp 0 0, pp 0 0, pp 0 0, pp 0 0, pp 0 0, pp 0 0, pp 0 0, pp 0 0, pp 0 0, pp 0 0, pp 0 0, pp 0 0, pp 0 0, pp 0 0, pp 0 0, pp 0 0, pp 0 0, pp 0 0, pp 0 0, pp 0 0, pp 0 0, pp 0 0, pp 0 0, pp 0 0, pp 0 0, pp 0 0, pp 0 0, pp 0 0, pn 796 3, pn 19289 1, pn 875 1, pn 16317999 7]⟩

def row155 : Row := ⟨"NLD", "Netherlands", [pp 17441139 0, pn 7677257618999999 11, pn 1295139124 5, pn 44218121470000006 12, pn 633225206055224 13, pn 144262295081967 7, pp 99575 1, pp 166165 1, pp 43284 1, pp 101863 3, pp 12808 3, pp 3691 3, pp 1569 3, pp 603 4, pp 218 4, pp 11 4, pp 1154 4, pp 58 4, pp 168 4, pn 3920423921291874 9, pn 6372442178590727 11, pn 4172842143420597 10, np 1 0, np 1 0, np 1 0, np 1 0, np 1 0, np 1 0, nn 8025019480088804 16, nn 8104825320770863 16, nn 6882763186672675 16, nn 6449874905427779 16, nn 116554544549624 15, nn 972528787813638 15, nn 766257467231136 15, nn 993977892206153 15, nn 974554670623218 15, nn 9997831361788552 16, nn 972884837269393 15, nn 998420353284392 15, nn 987588645290117 15, nn 987758405498521 15, pn 7978254932 11, pp 0 0, pp 0 0, pp 0 0, pp 0 0, pp 0 0, pn 1683928576 10, pn 1683928576 10, pn 1702174507 10, pn 25 2, pn 8160714242 11, pn 8160714242 11, pn 535282758711847 8, pn 4660567566718319 9, pn 396830754631813 8, pn 32760475259179496 10, pn 25837875055177803 10, pn 18915274851176 7, pn 259812718102158 8, pn 328956976265501 8, pn 401132657282952 8, pn 5395846613629861 9, pn 538150693812609 8, pn 536716726262228 8, pn 124622993199828 16, pp 0 0, pp 0 0, pp 0 0, pn 17464103009754 16, pn 711343029159877 15, pn 253247044952934 15, pn 138410300152535 15, pp 0 0, pp 0 0, pn 216760006528314 14, pn 47135199062613 16, pn 10488 1, pp 1 0, pn 6769074271951 16, pp 0 0, pp 0 0, pp 0 0, pp 0 0, pp 0 0, pp 0 0, pp 0 0, pp 0 0, pp 0 0, pp 0 0, pp 0 0, pp 0 0, pp 0 0, pp 0 0, pp 0 0, pp 0 0, pp 0 0, pp 0 0, pp 0 0, pp 0 0, pp 0 0, pp 0 0, pp 0 0, pp 0 0, pp 0 0, pp 0 0, pp 0 0, pp 0 0, pp 0 0, pp 0 0, pp 0 0, pp 0 0, pp 0 0, pp 0 0, pp 0 0, pp 0 0, pp 0 0, pp 0 0, pp 0 0, pp 0 0, pp 0 0, pp 0 0, pp 0 0, pp 0 0, pp 0 0, pp 0 0, pp 0 0, pp 0 0, pp 0 0, pp 0 0, pp 0 0, pp 0 0, pp 0 0, pp 0 0, pp 0 0, pp 0 0, pp 0 0, pp 0 0, pp 0 0, pp 0 0, pp 0 0, pp 0 0, pp 0 0, pp 0 0, pp 0 0, pp 0 0, pp 0 0, pp 0 0, pp 0 0, pp 0 0, pp 0 0, pp 0 0, pp 0 0, pp 0 0, pp 0 0, pp 0 0, pp 0 0, pp 0 0, pp 0 0, pp 0 0, pp 0 0, pp 0 0, pp 0 0, pp 0 0, pp 0 0, pp 0 0, pp 0 0, pp 0 0, pp 0 0, pp 0 0, pp 0 0, pp 0 0, pp 0 0, pp 0 0, pp 0 0, pp 0 0, pp 0 0, pp 0 0, pp 0 0, pp 0 0, pp 0 0, pp 0 0, pp 0 0, pp 0 0, pp 0 0, pp 0 0, pp 0 0, pp 0 0, pp 0 0, pp 0 0, pp 0 0, pp 0 0, pp 0 0, pp 0 0, pp 0 0, pp 0 0, pp 0 0, pp 0 0, pp 0 0, pp 0 0, pp 0 0, pp 0 0, pp 0 0, pp 0 0, pn 796 3, pn 69462 1, pn 998 1, pn 16693 4]⟩

def row156 : Row := ⟨"POL", "Poland", [pp 37950802 0, pn 110263076 3, pn 1969957409 5, pn 6205319883 5, pn 7309965634186821 14, pn 144262295081967 7, pp 220028 1, pp 198512 1, pp 55946 1, pp 204771 3, pp 12049454 0, pp 62789 2, pp 21257 2, pp 346 4, pp 117 4, pp 8 4, pp 1454 4, pp 59 4, pp 181 4, pn 3871726159898832 8, pn 23926937416759296 10, pn 4874438710151224 9, np 1 0, np 1 0, np 1 0, np 1 0, nn 9994294980307206 16, nn 9654019098428784 16, nn 5544846504120585 16, nn 4186727535768951 16, nn 6121517482717272 16, nn 7633458202323699 16, nn 192504114148459 15, nn 999903193834309 15, nn 999905110723078 15, nn 999897328972546 15, nn 984168314125427 15, nn 969876384467554 15, nn 9982802146989 13, nn 97918147217408 14, nn 8579560090911901 16, nn 9454807752591512 16, pn 891188251 10, pn 3949710725 11, pn 3949710725 11, pn 3949710725 11, pp 0 0, pp 0 0, pn 1163773921 10, pn 1163773921 10, pn 1608811749 10, pn 2105028927 10, pn 9412550067 11, pn 9412550067 11, pn 116474101776765 7, pn 101410966870999 7, pn 863478319652319 8, pn 712846970594651 8, pn 562215621536983 8, pn 411584272479316 8, pn 565335843133685 8, pn 715789322748401 8, pn 872838984442425 8, pn 117410168255776 7, pn 117098146096106 7, pn 116786123936436 7, pn 438762594299023 16, pn 520643515385 15, pn 59061710354065 16, pn 222356424515404 16, pn 17464103009754 16, pn 572800373496832 15, pn 20392412097906 14, pn 11145322070115 14, pp 995 3, pn 65677373125803 16, pn 121738468782762 14, pn 26472443194467 16, pp 11395 0, pp 1 0, pn 7354462369268 15, pp 0 0, pp 0 0, pp 0 0, pp 0 0, pp 0 0, pp 0 0, pp 0 0, pp 0 0, pp 0 0, pp 0 0, pp 0 0, pp 0 0, pp 0 0, pp 0 0, pp 0 0, pp 0 0, pp 0 0, pp 0 0, pp 0 0, pp 0 0, pp 0 0, pp 0 0, pp 0 0, pp 0 0, pp 0 0, pp 0 0, pp 0 0, pp 0 0, pp 0 0, pp 0 0, pp 0 0, pp 0 0, pp 0 0, pp 0 0, pp 0 0, pp 0 0, pp 0 0, pp 0 0, pp 0 0, pp 0 0, pp 0 0, pp 0 0, pp 0 0, pp 0 0, pp 0 0, pp 0 0, pp 0 0, pp 0 0, pp 0 0, pp 0 0, pp 0 0, pp 0 0, pp 0 0, pp 0 0, pp 0 0, pp 0 0, pp 0 0, pp 0 0, pp 0 0, pp 0 0, pp 0 0, pp 0 0, pp 0 0, pp 0 0, pp 0 0, pp 0 0, pp 0 0, pp 0 0, pp 0 0, pp 0 0, pp 0 0, pp 0 0, pp 0 0, pp 0 0, pp 0 0, pp 0 0, pp 0 0, pp 0 0, pp 0 0, pp 0 0, pp 0 0, pp 0 0, pp 0 0, pp 0 0, pp 0 0, pp 0 0, pp 0 0, pp 0 0, pp 0 0, pp 0 0, pp 0 0, pp 0 0, pp 0 0, pp 0 0, pp 0 0, pp 0 0, pp 0 0, pp 0 0, pp 0 0, pp 0 0, pp 0 0, pp 0 0, pp 0 0, pp 0 0, pp 0 0, pp 0 0, pp 0 0, pp 0 0, pp 0 0, pp 0 0, pp 0 0, pp 0 0, pp 0 0, pp 0 0, pp 0 0, pp 0 0, pp 0 0, pp 0 0, pp 0 0, pp 0 0, pp 0 0, pp 0 0, pp 0 0, pp 0 0, pn 796 3, pn 59848003 4, pn 936 1, pn 18704 4]⟩

def row157 : Row := ⟨"PRT", "Portugal", [pp 10305564 0, pn 1022746324 4, pn 1793150619 5, pn 5761018516 5, pn 831455243279669 14, pn 19672131147541 7, pp 29738 1, pp 37929 1, pp 9778 1, pp 0 0, pp 474138 1, pp 169132 1, pp 23275 1, pp 77 4, pp 31 4, pp 1 4, pp 357 4, pp 21 4, pp 45 4, pn 17307026457356217 10, pn 187337936554236 9, pn 15739917830858572 11, nn 9596787377918946 16, nn 8500484951395864 16, nn 8500484951395864 16, nn 668618087451529 15, nn 5883696675088086 16, nn 489889459694425 15, nn 3378105125018795 16, nn 180251081854004 16, nn 8749561672052 16, pn 471391347713888 16, pn 348180460394089 15, nn 352818848800038 15, nn 746782223228132 15, nn 889182539148193 15, nn 952352066887865 15, nn 983616053861249 15, nn 990845101986038 15, nn 995200692347533 15, nn 998036305476652 15, nn 999039250447404 15, pn 7978254932 11, pp 0 0, pp 0 0, pp 0 0, pp 0 0, pp 0 0, pn 1683928576 10, pn 1683928576 10, pn 1702174507 10, pn 25 2, pn 8160714242 11, pn 8160714242 11, pn 31628615126578 7, pn 27538211429391103 10, pn 23447807732204 7, pn 193574040350169 8, pn 152670003378299 8, pn 111765966406429 8, pn 153517301502829 8, pn 194373037916308 8, pn 237019971695629 8, pn 31882804563936903 10, pn 31798074751484096 10, pn 31713344939031 7, pn 146731054977712 16, pn 16084558823529 16, pp 0 0, pn 13839379324806 16, pn 17464103009754 16, pn 591942387027075 15, pn 210738918007026 15, pn 115177797634692 15, pp 2712 3, pn 179012096399175 16, pn 485189549496517 15, pn 10550611418084 16, pn 18434951 4, pp 1 0, pn 11898126670364 16, pp 0 0, pp 0 0, pp 0 0, pp 0 0, pp 0 0, pp 0 0, pp 0 0, pp 0 0, pp 0 0, pp 0 0, pp 0 0, pp 0 0, pp 0 0, pp 0 0, pp 0 0, pp 0 0, pp 0 0, pp 0 0, pp 0 0, pp 0 0, pp 0 0, pp 0 0, pp 0 0, pp 0 0, pp 0 0, pp 0 0, pp 0 0, pp 0 0, pp 0 0, pp 0 0, pp 0 0, pp 0 0, pp 0 0, pp 0 0, pp 0 0, pp 0 0, pp 0 0, pp 0 0, pp 0 0, pp 0 0, pp 0 0, pp 0 0, pp 0 0, pp 0 0, pp 0 0, pp 0 0, pp 0 0, pp 0 0, pp 0 0, pp 0 0, pp 0 0, pp 0 0, pp 0 0, pp 0 0, pp 0 0, pp 0 0, pp 0 0, pp 0 0, pp 0 0, pp 0 0, pp 0 0, pp 0 0, pp 0 0, pp 0 0, pp 0 0, pp 0 0, pp 0 0, pp 0 0, pp 0 0, pp 0 0, pp 0 0, pp 0 0, pp 0 0, pp 0 0, pp 0 0, pp 0 0, pp 0 0, pp 0 0, pp 0 0, pp 0 0, pp 0 0, pp 0 0, pp 0 0, pp 0 0, pp 0 0, pp 0 0, pp 0 0, pp 0 0, pp 0 0, pp 0 0, pp 0 0, pp 0 0, pp 0 0, pp 0 0, pp 0 0, pp 0 0, pp 0 0, pp 0 0, pp 0 0, pp 0 0, pp 0 0, pp 0 0, pp 0 0, pp 0 0, pp 0 0, pp 0 0, pp 0 0, pp 0 0, pp 0 0, pp 0 0, pp 0 0, pp 0 0, pp 0 0, pp 0 0, pp 0 0, pp 0 0, pp 0 0, pp 0 0, pp 0 0, pp 0 0, pp 0 0, pp 0 0, pp 0 0, pp 0 0, pn 796 3, pn 26683 1, pn 654 1, pn 14550999 7]⟩

def row158 : Row := ⟨"ROU", "Romania", [pp 19286123 0, pn 3355143719 5, pn 5408197413 6, pn 1999552804 5, pp 0 0, pn 459016393442623 8, pp 0 0, pp 38817 1, pp 8749 1, pp 0 0, pp 158452 2, pp 19308 2, pp 11398 2, pp 165 4, pp 3 5, pp 9 4, pp 952 4, pp 47 4, pp 115 4, pn 20916333650499675 9, pn 17074298732873562 10, pn 2726391658038029 9, nn 10000000000000002 16, nn 10000000000000002 16, nn 10000000000000002 16, nn 10000000000000002 16, nn 997992232671204 15, nn 777087305038151 15, nn 7154990570581004 16, nn 7632406793370353 16, nn 3366415349092932 16, nn 7705792606784695 16, nn 369518168695947 15, nn 996585458757129 15, nn 999814276364022 15, nn 972917803706942 15, nn 998275225493974 15, nn 994900574669238 15, nn 991568452739987 15, nn 951922324315671 15, nn 915161647022138 15, nn 952448233115598 15, pn 1297285269 10, pn 3949710725 11, pn 3949710725 11, pn 3949710725 11, pp 0 0, pp 0 0, pn 7576769025 11, pn 1202714731 10, pn 1202714731 10, pn 2105028927 10, pn 1347352025 10, pn 9023141967 11, pn 591906820093344 8, pn 51535785215369295 10, pn 4388088842140391 9, pn 362259916274386 8, pn 28571094833473302 10, pn 209161980395081 8, pn 287296605931673 8, pn 363755182844683 8, pn 443565857004858 8, pn 596663792884163 8, pn 5950781352872261 9, pn 593492477690285 8, pn 206227563204929 16, pn 154075546719682 16, pn 133945954364925 16, pn 55946791862284 16, pn 17464103009754 16, pn 558875031399686 15, pn 198966524444761 15, pn 108743682967057 15, pp 0 0, pp 0 0, pn 684306299679503 15, pn 14880472727324 16, pp 9378 0, pp 1 0, pn 60526676699426 16, pp 0 0, pp 0 0, pp 0 0, pp 0 0, pp 0 0, pp 0 0, pp 0 0, pp 0 0, pp 0 0, pp 0 0, pp 0 0, pp 0 0, pp 0 0, pp 0 0, pp 0 0, pp 0 0, pp 0 0, pp 0 0, pp 0 0, pp 0 0, pp 0 0, pp 0 0, pp 0 0, pp 0 0, pp 0 0, pp 0 0, pp 0 0, pp 0 0, pp 0 0, pp 0 0, pp 0 0, pp 0 0, pp 0 0, pp 0 0, pp 0 0, pp 0 0, pp 0 0, pp 0 0, pp 0 0, pp 0 0, pp 0 0, pp 0 0, pp 0 0, pp 0 0, pp 0 0, pp 0 0, pp 0 0, pp 0 0, pp 0 0, pp 0 0, pp 0 0, pp 0 0, pp 0 0, pp 0 0, pp 0 0, pp 0 0, pp 0 0, pp 0 0, pp 0 0, pp 0 0, pp 0 0, pp 0 0, pp 0 0, pp 0 0, pp 0 0, pp 0 0, pp 0 0, pp 0 0, pp 0 0, pp 0 0, pp 0 0, pp 0 0, pp 0 0, pp 0 0, pp 0 0, pp 0 0, pp 0 0, pp 0 0, pp 0 0, pp 0 0, pp 0 0, pp 0 0, pp 0 0, pp 0 0, pp 0 0, pp 0 0, pp 0 0, pp 0 0, pp 0 0, pp 0 0, pp 0 0, pp 0 0, pp 0 0, pp 0 0, pp 0 0, pp 0 0, pp 0 0, pp 0 0, pp 0 0, pp 0 0, pp 0 0, pp 0 0, pp 0 0, pp 0 0, pp 0 0, pp 0 0, pp 0 0, pp 0 0, pp 0 0, pp 0 0, pp 0 0, pp 0 0, pp 0 0, pp 0 0, pp 0 0, pp 0 0, pp 0 0, pp 0 0, pp 0 0, pp 0 0, pp 0 0, pp 0 0, pp 0 0, pp 0 0, pn 796 3, pn 42880002 5, pn 953 1, pn 16628 4]⟩

def row159 : Row := ⟨"SVK", "Slovakia", [pp 5458827 0, pn 9804499589 6, pn 1745415739 6, pn 5576840901 6, pn 610901869714016 15, pn 6557377049180331 10, pp 0 0, pp 7048 1, pp 1092 1, pp 10572 3, pp 832562 0, pp 44229 1, pp 12205 1, pp 12 4, pp 5 4, pp 0 0, pp 78 4, pp 4 4, pp 1 5, pn 4980520458517854 9, pn 4031565197904145 10, pn 687972292951937 9, np 1 0, np 1 0, np 1 0, np 1 0, nn 9754523772101944 16, nn 7414287722704165 16, nn 5388281898709926 16, nn 5360273293991278 16, nn 518387253764945 15, nn 5329225637122746 16, nn 236925477654405 15, nn 999841604307855 15, nn 999516116141839 15, nn 998417955903295 15, nn 9584613117601448 16, nn 942516341411336 15, nn 996997835201085 15, nn 928121734698945 15, nn 883776218598935 15, nn 941688009048587 15, pn 1488062188 10, pn 4927817879 11, pn 4927817879 11, pn 4927817879 11, pp 0 0, pp 0 0, pn 4566907274 11, pn 4566907274 11, pn 1011937812 10, pn 2007218212 10, pn 1550527485 10, pn 1550527485 10, pn 167535845903798 8, pn 145869097588903 8, pn 124202349274008 8, pn 102535600959112 8, pn 808688526442172 9, pn 592021043293221 9, pn 813176639736342 9, pn 10295882762453 7, pn 125548783262259 8, pn 168882279892049 8, pn 16843346856263198 10, pn 167984657233215 8, pn 451000913432071 16, pn 11014039445705 16, pn 37776501041637 16, pn 297483136625652 16, pn 17464103009754 16, pn 560856331288034 15, pn 199671892068145 15, pn 109129196426804 15, pp 768685 0, pn 50738906091666 16, pn 240704425854116 15, pn 523419943079 15, pp 1367 0, pp 1 0, pn 8822773197709 16, pp 0 0, pp 0 0, pp 0 0, pp 0 0, pp 0 0, pp 0 0, pp 0 0, pp 0 0, pp 0 0, pp 0 0, pp 0 0, pp 0 0, pp 0 0, pp 0 0, pp 0 0, pp 0 0, pp 0 0, pp 0 0, pp 0 0, pp 0 0, pp 0 0, pp 0 0, pp 0 0, pp 0 0, pp 0 0, pp 0 0, pp 0 0, pp 0 0, pp 0 0, pp 0 0, pp 0 0, pp 0 0, pp 0 0, pp 0 0, pp 0 0, pp 0 0, pp 0 0, pp 0 0, pp 0 0, pp 0 0, pp 0 0, pp 0 0, pp 0 0, pp 0 0, pp 0 0, pp 0 0, pp 0 0, pp 0 0, pp 0 0, pp 0 0, pp 0 0, pp 0 0, pp 0 0, pp 0 0, pp 0 0, pp 0 0, pp 0 0, pp 0 0, pp 0 0, pp 0 0, pp 0 0, pp 0 0, pp 0 0, pp 0 0, pp 0 0, pp 0 0, pp 0 0, pp 0 0, pp 0 0, pp 0 0, pp 0 0, pp 0 0, pp 0 0, pp 0 0, pp 0 0, pp 0 0, pp 0 0, pp 0 0, pp 0 0, pp 0 0, pp 0 0, pp 0 0, pp 0 0, pp 0 0, pp 0 0, pp 0 0, pp 0 0, pp 0 0, pp 0 0, pp 0 0, pp 0 0, pp 0 0, pp 0 0, pp 0 0, pp 0 0, pp 0 0, pp 0 0, pp 0 0, pp 0 0, pp 0 0, pp 0 0, pp 0 0, pp 0 0, pp 0 0, pp 0 0, pp 0 0, pp 0 0, pp 0 0, pp 0 0, pp 0 0, pp 0 0, pp 0 0, pp 0 0, pp 0 0, pp 0 0, pp 0 0, pp 0 0, pp 0 0, pp 0 0, pp 0 0, pp 0 0, pp 0 0, pp 0 0, pp 0 0, pn 796 3, pn 28435 1, pn 93700005 6, pn 151 2]⟩

def row160 : Row := ⟨"SVN", "Slovenia", [pp 2100126 0, pn 4469984699 6, pn 677034231 6, pn 2722349477 6, pn 417445846011814 14, pn 6557377049180331 10, pp 6704 1, pp 2895 1, pp 365 2, pp 4321 3, pp 368894 0, pp 48561 1, pp 9921 1, pp 11 4, pp 3 4, pp 0 0, pp 29 4, pp 1 4, pp 5 4, pn 7184524166274418 10, pn 33237577831892595 12, pn 8651590270158103 11, np 1 0, np 1 0, np 1 0, np 1 0, nn 9790326135619414 16, nn 8527042428957557 16, nn 6301653841872075 16, nn 5788938672195767 16, nn 494001434667262 15, nn 3037603336036096 16, nn 596695823570661 16, nn 940058954739985 15, nn 833850773321372 15, nn 924635717795643 15, nn 916297743660735 15, nn 93624377590641 14, nn 95883134820419 14, nn 9504200551522888 16, nn 946904889688172 15, nn 9265142642806228 16, pn 1297285269 10, pn 3949710725 11, pn 3949710725 11, pn 3949710725 11, pp 0 0, pp 0 0, pn 7576769025 11, pn 7576769025 11, pn 1202714731 10, pn 2105028927 10, pn 1347352025 10, pn 1347352025 10, pn 644545771306838 9, pn 561189216003718 9, pn 477832660700595 9, pn 394476105397473 9, pn 31111955009435 8, pn 227762994791229 9, pn 312846222036882 9, pn 396104347735868 9, pn 4830126765281881 10, pn 649725787134431 9, pn 647999115191903 9, pn 6462724432493701 10, pn 110738516727755 15, pp 0 0, pp 0 0, pn 209668025626092 16, pn 17464103009754 16, pn 619629014748876 15, pn 220595704912689 15, pn 120564951646325 15, pp 0 0, pp 0 0, pn 114303096465803 15, pn 2485559624987 16, pn 23446 2, pp 1 0, pn 151323145862 15, pp 0 0, pp 0 0, pp 0 0, pp 0 0, pp 0 0, pp 0 0, pp 0 0, pp 0 0, pp 0 0, pp 0 0, pp 0 0, pp 0 0, pp 0 0, pp 0 0, pp 0 0, pp 0 0, pp 0 0, pp 0 0, pp 0 0, pp 0 0, pp 0 0, pp 0 0, pp 0 0, pp 0 0, pp 0 0, pp 0 0, pp 0 0, pp 0 0, pp 0 0, pp 0 0, pp 0 0, pp 0 0, pp 0 0, pp 0 0, pp 0 0, pp 0 0, pp 0 0, pp 0 0, pp 0 0, pp 0 0, pp 0 0, pp 0 0, pp 0 0, pp 0 0, pp 0 0, pp 0 0, pp 0 0, pp 0 0, pp 0 0, pp 0 0, pp 0 0, pp 0 0, pp 0 0, pp 0 0, pp 0 0, pp 0 0, pp 0 0, pp 0 0, pp 0 0, pp 0 0, pp 0 0, pp 0 0, pp 0 0, pp 0 0, pp 0 0, pp 0 0, pp 0 0, pp 0 0, pp 0 0, pp 0 0, pp 0 0, pp 0 0, pp 0 0, pp 0 0, pp 0 0, pp 0 0, pp 0 0, pp 0 0, pp 0 0, pp 0 0, pp 0 0, pp 0 0, pp 0 0, pp 0 0, pp 0 0, pp 0 0, pp 0 0, pp 0 0, pp 0 0, pp 0 0, pp 0 0, pp 0 0, pp 0 0, pp 0 0, pp 0 0, pp 0 0, pp 0 0, pp 0 0, pp 0 0, pp 0 0, pp 0 0, pp 0 0, pp 0 0, pp 0 0, pp 0 0, pp 0 0, pp 0 0, pp 0 0, pp 0 0, pp 0 0, pp 0 0, pp 0 0, pp 0 0, pp 0 0, pp 0 0, pp 0 0, pp 0 0, pp 0 0, pp 0 0, pp 0 0, pp 0 0, pp 0 0, pp 0 0, pp 0 0, pn 796 3, pn 58201 1, pn 965 1, pn 17026999 7]⟩

def row161 : Row := ⟨"ESP", "Spain", [pp 47351567 0, pn 3438439652 4, pn 5529256912 5, pn 1991621672 4, pn 742426538471333 13, pn 852459016393443 8, pp 140141 1, pp 500343 1, pp 67774 1, pp 0 0, pp 5088633 1, pp 663739 1, pp 81074 1, pp 827 4, pp 323 4, pp 4 4, pp 2366 4, pp 107 4, pp 314 4, pn 32005441870476395 9, pn 26827615790112824 10, pn 3750428557813101 9, nn 959699755814148 15, nn 8490716345196517 16, nn 8490716345196517 16, nn 5907787439435284 16, nn 2665377880701544 16, pn 2046735631162114 16, pn 2854354796275469 16, pn 2927781816192154 16, nn 2612323019766528 16, nn 1335158884209313 16, pn 2372606906107769 16, nn 5535387393012701 16, nn 855981265147998 15, nn 946073398350728 15, nn 938107553902514 15, nn 97133869358933 14, nn 97926978940464 14, nn 931752274963492 15, nn 95602006490718 14, nn 971896633823134 15, pn 7978254932 11, pp 0 0, pp 0 0, pp 0 0, pp 0 0, pp 0 0, pn 1683928576 10, pn 1683928576 10, pn 1702174507 10, pn 25 2, pn 8160714242 11, pn 8160714242 11, pn 145325815092058 7, pn 126531402217189 7, pn 107736989342318 7, pn 889425764674476 8, pn 701481635925773 8, pn 5135375071770701 9, pn 705374765298667 8, pn 893096964696702 8, pn 108904928154186 7, pn 146493753903927 7, pn 146104440966638 7, pn 145715128029348 7, pn 134873173864184 16, pn 7017543859649 16, pp 0 0, pp 0 0, pn 17464103009754 16, pn 625571456060686 15, pn 222711288590791 15, pn 121721208264989 15, pp 1279783 0, pn 84475161418151 16, pn 298675125274479 14, pn 649479196386 14, pn 167598066 4, pp 1 0, pn 108169694564204 16, pp 0 0, pp 0 0, pp 0 0, pp 0 0, pp 0 0, pp 0 0, pp 0 0, pp 0 0, pp 0 0, pp 0 0, pp 0 0, pp 0 0, pp 0 0, pp 0 0, pp 0 0, pp 0 0, pp 0 0, pp 0 0, pp 0 0, pp 0 0, pp 0 0, pp 0 0, pp 0 0, pp 0 0, pp 0 0, pp 0 0, pp 0 0, pp 0 0, pp 0 0, pp 0 0, pp 0 0, pp 0 0, pp 0 0, pp 0 0, pp 0 0, pp 0 0, pp 0 0, pp 0 0, pp 0 0, pp 0 0, pp 0 0, pp 0 0, pp 0 0, pp 0 0, pp 0 0, pp 0 0, pp 0 0, pp 0 0, pp 0 0, pp 0 0, pp 0 0, pp 0 0, pp 0 0, pp 0 0, pp 0 0, pp 0 0, pp 0 0, pp 0 0, pp 0 0, pp 0 0, pp 0 0, pp 0 0, pp 0 0, pp 0 0, pp 0 0, pp 0 0, pp 0 0, pp 0 0, pp 0 0, pp 0 0, pp 0 0, pp 0 0, pp 0 0, pp 0 0, pp 0 0, pp 0 0, pp 0 0, pp 0 0, pp 0 0, pp 0 0, pp 0 0, pp 0 0, pp 0 0, pp 0 0, pp 0 0, pp 0 0, pp 0 0, pp 0 0, pp 0 0, pp 0 0, pp 0 0, pp 0 0, pp 0 0, pp 0 0, pp 0 0, pp 0 0, pp 0 0, pp 0 0, pp 0 0, pp 0 0, pp 0 0, pp 0 0, pp 0 0, pp 0 0, pp 0 0, pp 0 0, pp 0 0, pp 0 0, pp 0 0, pp 0 0, pp 0 0, pp 0 0, pp 0 0, pp 0 0, pp 0 0, pp 0 0, pp 0 0, pp 0 0, pp 0 0, pp 0 0, pp 0 0, pp 0 0, pp 0 0, pp 0 0, pn 796 3, pn 17627001 4, pn 88700005 6, pn 19559 4]⟩

def row162 : Row := ⟨"SWE", "Sweden", [pp 10353442 0, pn 6118907962 5, pn 929354308 5, pn 3734185669 5, pn 16599673546093598 15, pn 262295081967213 8, pp 16683 1, pp 24777 1, pp 14252 1, pp 10869 3, pp 1884353 0, pp 139096 1, pp 3044 2, pp 143 4, pp 46 4, pp 1 4, pp 157 4, pp 6 4, pp 25 4, pn 61334214334543925 10, pn 32947566559269605 11, pn 8463295194166426 10, np 1 0, np 1 0, np 1 0, np 1 0, np 1 0, np 1 0, nn 9993120127780624 16, nn 9082371064078926 16, nn 7412949893005424 16, nn 643648815168365 15, nn 891997910197578 15, nn 992940263346048 15, nn 999981403108632 15, nn 996489466618049 15, nn 996525100638049 15, nn 999468472403363 15, nn 98700249489352 14, nn 991104304039921 15, nn 865111043537151 15, nn 726777506899341 15, pn 7978254932 11, pp 0 0, pp 0 0, pp 0 0, pp 0 0, pp 0 0, pn 1683928576 10, pn 1683928576 10, pn 1702174507 10, pn 25 2, pn 8160714242 11, pn 8160714242 11, pn 31775556607416 7, pn 276661495496935 8, pn 235567424919709 8, pn 194473354342483 8, pn 153379283765258 8, pn 112285213188032 8, pn 154230518301187 8, pn 195276063923362 8, pn 238121128527496 8, pn 320309269681947 8, pn 319458035146019 8, pn 318606800610089 8, pn 332409543420706 16, pp 0 0, pp 0 0, pp 0 0, pn 17464103009754 16, pn 692140909157933 15, pn 246410849266772 15, pn 134674027940557 15, pp 854093 1, pn 563764669800372 16, pn 167610935280615 14, pn 3644756671702 15, pn 25435 1, pp 1 0, pn 16416037767646 16, pp 0 0, pp 0 0, pp 0 0, pp 0 0, pp 0 0, pp 0 0, pp 0 0, pp 0 0, pp 0 0, pp 0 0, pp 0 0, pp 0 0, pp 0 0, pp 0 0, pp 0 0, pp 0 0, pp 0 0, pp 0 0, pp 0 0, pp 0 0, pp 0 0, pp 0 0, pp 0 0, pp 0 0, pp 0 0, pp 0 0, pp 0 0, pp 0 0, pp 0 0, pp 0 0, pp 0 0, pp 0 0, pp 0 0, pp 0 0, pp 0 0, pp 0 0, pp 0 0, pp 0 0, pp 0 0, pp 0 0, pp 0 0, pp 0 0, pp 0 0, pp 0 0, pp 0 0, pp 0 0, pp 0 0, pp 0 0, pp 0 0, pp 0 0, pp 0 0, pp 0 0, pp 0 0, pp 0 0, pp 0 0, pp 0 0, pp 0 0, pp 0 0, pp 0 0, pp 0 0, pp 0 0, pp 0 0, pp 0 0, pp 0 0, pp 0 0, pp 0 0, pp 0 0, pp 0 0, pp 0 0, pp 0 0, pp 0 0, pp 0 0, pp 0 0, pp 0 0, pp 0 0, pp 0 0, pp 0 0, pp 0 0, pp 0 0, pp 0 0, pp 0 0, pp 0 0, pp 0 0, pp 0 0, pp 0 0, pp 0 0, pp 0 0, pp 0 0, pp 0 0, pp 0 0, pp 0 0, pp 0 0, pp 0 0, pp 0 0, pp 0 0, pp 0 0, pp 0 0, pp 0 0, pp 0 0, pp 0 0, pp 0 0, pp 0 0, pp 0 0, pp 0 0, pp 0 0, pp 0 0, pp 0 0, pp 0 0, pp 0 0, pp 0 0, pp 0 0, pp 0 0, pp 0 0, pp 0 0, pp 0 0, pp 0 0, pp 0 0, pp 0 0, pp 0 0, pp 0 0, pp 0 0, pp 0 0, pp 0 0, pp 0 0, pn 796 3, pn 92864 1, pn 953 1, pn 15985999 7]⟩

def row163 : Row := ⟨"GBR", "United Kingdom of Great Britain and Northern Ireland", [pp 67215293 0, pn 2589842179 4, pn 4272129266 5, pn 1511636479 4, pn 982499457494069 13, pn 150819672131148 7, pp 1784 3, pp 984 3, pp 932 3, pp 177866 3, pp 37949 3, pp 10033615 0, pp 1859 3, pp 406 4, pp 97 4, pp 9 4, pp 1402 4, pp 61 4, pp 232 4, pn 20247295084847644 9, pn 9701865783817556 10, pn 28277509703965606 10, np 1 0, np 1 0, np 1 0, np 1 0, nn 992985449838386 15, nn 98183150403383 14, nn 610744936047983 15, nn 5295990994023969 16, nn 5788883245365269 16, nn 3321820150427039 16, nn 226661943870069 16, nn 427122468634077 15, nn 816603042859478 15, nn 9433859307885588 16, nn 960083913611015 15, nn 987980326902782 15, nn 977704340690819 15, nn 9794025116177808 16, nn 994387884562553 15, nn 994446253702244 15, pn 7978254932 11, pp 0 0, pp 0 0, pp 0 0, pp 0 0, pp 0 0, pn 1683928576 10, pn 1683928576 10, pn 1702174507 10, pn 25 2, pn 8160714242 11, pn 8160714242 11, pn 206289207744202 7, pn 17961064041933797 9, pn 152932073094472 7, pn 126253505769606 7, pn 995749384447407 8, pn 728963711198752 8, pn 100127566051523 7, pn 126774630625211 7, pn 154589955914818 7, pn 20794709056454897 9, pn 20739446295776803 9, pn 206841835350985 7, pn 451000913432071 16, pn 11014039445705 16, pn 37776501041637 16, pn 297483136625652 16, pn 17464103009754 16, pn 660482645332534 15, pn 235140110068566 15, pn 128514088756846 15, pp 0 0, pp 0 0, pn 631376530643519 14, pn 137294969362611 16, pn 61315423 4, pp 1 0, pn 3957367012806 15, pp 0 0, pp 0 0, pp 0 0, pp 0 0, pp 0 0, pp 0 0, pp 0 0, pp 0 0, pp 0 0, pp 0 0, pp 0 0, pp 0 0, pp 0 0, pp 0 0, pp 0 0, pp 0 0, pp 0 0, pp 0 0, pp 0 0, pp 0 0, pp 0 0, pp 0 0, pp 0 0, pp 0 0, pp 0 0, pp 0 0, pp 0 0, pp 0 0, pp 0 0, pp 0 0, pp 0 0, pp 0 0, pp 0 0, pp 0 0, pp 0 0, pp 0 0, pp 0 0, pp 0 0, pp 0 0, pp 0 0, pp 0 0, pp 0 0, pp 0 0, pp 0 0, pp 0 0, pp 0 0, pp 0 0, pp 0 0, pp 0 0, pp 0 0, pp 0 0, pp 0 0, pp 0 0, pp 0 0, pp 0 0, pp 0 0, pp 0 0, pp 0 0, pp 0 0, pp 0 0, pp 0 0, pp 0 0, pp 0 0, pp 0 0, pp 0 0, pp 0 0, pp 0 0, pp 0 0, pp 0 0, pp 0 0, pp 0 0, pp 0 0, pp 0 0, pp 0 0, pp 0 0, pp 0 0, pp 0 0, pp 0 0, pp 0 0, pp 0 0, pp 0 0, pp 0 0, pp 0 0, pp 0 0, pp 0 0, pp 0 0, pp 0 0, pp 0 0, pp 0 0, pp 0 0, pp 0 0, pp 0 0, pp 0 0, pp 0 0, pp 0 0, pp 0 0, pp 0 0, pp 0 0, pp 0 0, pp 0 0, pp 0 0, pp 0 0, pp 0 0, pp 0 0, pp 0 0, pp 0 0, pp 0 0, pp 0 0, pp 0 0, pp 0 0, pp 0 0, pp 0 0, pp 0 0, pp 0 0, pp 0 0, pp 0 0, pp 0 0, pp 0 0, pp 0 0, pp 0 0, pp 0 0, pp 0 0, pp 0 0, pp 0 0, pn 796 3, pn 81877 1, pn 898 1, pn 15725 4]⟩

end Allfed.Gen.CountryTable
