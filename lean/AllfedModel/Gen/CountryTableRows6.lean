-- GENERATED on every check run by harness/translators/tr_country.py (run): rows 126..146 of the combined country table
-- REGENERATED in the scratch copy by re-running the import scripts of scripts/run_all_imports.sh.  Do not edit.
import AllfedModel.Model.CountryTable
namespace Allfed.Gen.CountryTable
open Allfed.CountryTable


def row126 : Row := ⟨"UKR", "Ukraine", [pp 44134693 0, pp 1966 1, pp 311 1, pp 1185 1, pn 863827709894932 14, pp 9663 3, pp 134391 1, pp 6972 2, pp 3454 2, pp 224107 3, pp 69319 2, pp 3329077 0, pp 17656 2, pp 325 4, pp 73 4, pp 27 4, pp 1828 4, pp 49 4, pp 539 4, pn 776114305929628 7, pn 7353439091242434 9, pn 10817222146794563 9, np 1 0, np 1 0, np 1 0, nn 9997062607610674 16, nn 9986678690806032 16, nn 8298445976969042 16, nn 6419655290871391 16, nn 6714296807603762 16, nn 3834398999796434 16, nn 4557439584558042 16, nn 295043279306604 15, nn 999924767413665 15, nn 999742368292208 15, nn 991359527571328 15, nn 987098145985975 15, nn 98626479412597 14, nn 99996838962029 14, nn 959594522512717 15, nn 94677239104189 14, nn 955992684471716 15, pn 1113445202 10, pn 146929424 12, pn 146929424 12, pn 146929424 12, pp 0 0, pp 0 0, pn 1196196653 10, pn 1196196653 10, pn 1386554798 10, pn 2498530706 10, pn 1302334053 10, pn 1302334053 10, pn 399701655 1, pn 34870073875 3, pn 2976998225 2, pn 24669890625 3, pn 19560790875 3, pn 14451691125 3, pn 16676376999999998 9, pn 17733992375 3, pn 2112574875 2, pn 31334940125 3, pn 34210345875 3, pn 3709475975 2, pn 687479180785444 16, pn 11721101149935 16, pn 7453851887578 16, pn 7283183413259 16, pn 17464103009754 16, pn 264220088138182 15, pn 113353218284282 15, pn 653093182142648 16, pp 0 0, pp 0 0, pn 367260642561454 15, pn 798620731391 15, pp 33777 0, pp 1 0, pn 218000592757146 16, pn 22520032062308 16, pn 22520032062308 16, pn 22520032062308 16, pn 22520032062308 16, pn 125307230730804 14, pn 125367846568973 14, pn 116446966839296 14, pn 103527954468509 14, pn 961512922389098 15, pn 932072750118132 15, pn 804617605532861 15, pn 780306824251848 15, pn 820221624164208 15, pn 823418956292081 15, pn 775359495051149 15, pn 637903450301987 15, pn 588870255322997 15, pn 625494423262561 15, pn 699798427051329 15, pn 756385592285336 15, pn 77247750350272 14, pn 690685779521733 15, pn 623627098494677 15, pn 633497019919744 15, pn 654585219628031 15, pn 678221661285326 15, pn 642235920927908 15, pn 558452461567825 15, pn 550726354911298 15, pn 533241914274222 15, pn 559077587932166 15, pn 571602426565577 15, pn 585972414384307 15, pn 507581060856766 15, pn 476498579339626 15, pn 460375197883433 15, pn 495445346912131 15, pn 555511373771659 15, pn 535378583926726 15, pn 522042355245346 15, pn 509751643933992 15, pn 505917636988734 15, pn 503919661751173 15, pn 513327853544145 15, pn 514175353449103 15, pn 470236486652447 15, pn 433099151096754 15, pn 417731034252111 15, pn 4589048904543 13, pn 511477485927674 15, pn 521946469376341 15, pn 540108889789081 15, pn 539886903447276 15, pn 545419791111906 15, pn 546698827321603 15, pn 533937100159938 15, pn 532207116287776 15, pn 472239303610618 15, pn 395591548892984 15, pn 381781037642599 15, pn 433423576206002 15, pn 492862261945019 15, pn 537514092314661 15, pn 559213168164554 15, pn 587997598217513 15, pn 627624656363427 15, pn 632472485464784 15, pn 582125310182791 15, pn 531199123198026 15, pn 470782512469459 15, pn 410639172226025 15, pn 403227449169194 15, pn 453669790475513 15, pn 525221394490141 15, pn 571830375386405 15, pn 580750441197102 15, pn 635296453090261 15, pn 701827805097738 15, pn 671723616673777 15, pn 60179402313819 14, pn 521390490430414 15, pn 469530619023012 15, pn 427651558855648 15, pn 42963081978582 14, pn 46603564184307 14, pn 542606388967509 15, pn 59108300019918 14, pn 624642198498689 15, pn 69867140533179 14, pn 779970043657163 15, pn 753118024156137 15, pn 640722574308407 15, pn 571390153768085 15, pn 520382505764622 15, pn 489644817171928 15, pn 461562953165597 15, pn 530046869432579 15, pn 577838810697034 15, pn 641354741404765 15, pn 706086788708845 15, pn 843711957844599 15, pn 913032033112738 15, pn 861700119798149 15, pn 770884355522217 15, pn 661651634721807 15, pn 618783982018184 15, pn 582799506486546 15, pn 517420687334327 15, pn 556261710999006 15, pn 599625826339062 15, pn 691953757070279 15, pn 869444160023993 15, pn 101924075948968 14, pn 107132482822279 14, pn 102067889731294 14, pn 846024469766208 15, pn 756059933939122 15, pn 66355912632032 14, pn 627535784479301 15, pn 600794739829099 15, pn 594746238383821 15, pn 648169213504355 15, pn 767347509266252 15, pn 906179412169381 15, pn 796 3, pn 38049001 4, pn 893 1, pn 18074 4]⟩

def row127 : Row := ⟨"ARE", "United Arab Emirates", [pp 98904 2, pp 1418 1, pp 27 2, pp 771 1, pp 0 0, pp 163 3, pp 51156 0, pp 0 0, pp 18086 0, pp 24631 3, pp 4384237 0, pp 612405 0, pp 40848 0, pp 65 4, pp 23 4, pp 0 0, pp 151 4, pp 5 4, pp 26 4, pn 15636636345811287 11, pn 27385080697073813 13, pn 8886905657434527 12, pn 873972313236211 14, nn 8884779808239922 16, np 1 0, pn 39672648005360327 16, pn 5610672434447901 15, nn 1244166768228915 16, nn 6401686786751185 16, nn 6120868891236901 16, pn 4983734559636252 16, nn 620382356344757 15, pn 127813057588921 15, nn 184092526028111 15, nn 547891282896441 15, nn 893455393052307 15, nn 464139428987143 15, nn 248001173637692 15, nn 837754919350574 16, pn 210923663546438 15, pn 369462755467186 15, pn 309772831222169 15, pn 1531615303 10, pn 4715727949 11, pn 4715727949 11, pn 4715727949 11, pn 5313496281 11, pn 5313496281 11, pn 9683846971 11, pn 9683846971 11, pn 4370350691 11, pn 1497077577 10, pn 1060042508 10, pn 1060042508 10, pn 9463395 1, pn 9463395 1, pn 9463395 1, pn 9463395 1, pn 9463395 1, pn 9463395 1, pn 9463395 1, pn 9463395 1, pn 9463395 1, pn 9463395 1, pn 9463395 1, pn 9463395 1, pn 226412931330964 16, pp 0 0, pn 110966998126531 16, pn 237473284255521 16, pn 17464103009754 16, pn 443958160021002 15, pn 221335173303568 15, pn 134464806945664 15, pp 0 0, pp 0 0, pn 192112459633173 14, pn 41775506341087 16, pp 9 1, pp 1 0, pn 58087021784478 18, pn 10669087799469 16, pn 10669087799469 16, pn 10669087799469 16, pn 10669087799469 16, pn 125307230730804 14, pn 125367846568973 14, pn 116446966839296 14, pn 103527954468509 14, pn 961512922389098 15, pn 932072750118132 15, pn 804617605532861 15, pn 780306824251848 15, pn 820221624164208 15, pn 823418956292081 15, pn 775359495051149 15, pn 637903450301987 15, pn 588870255322997 15, pn 625494423262561 15, pn 699798427051329 15, pn 756385592285336 15, pn 77247750350272 14, pn 690685779521733 15, pn 623627098494677 15, pn 633497019919744 15, pn 654585219628031 15, pn 678221661285326 15, pn 642235920927908 15, pn 558452461567825 15, pn 550726354911298 15, pn 533241914274222 15, pn 559077587932166 15, pn 571602426565577 15, pn 585972414384307 15, pn 507581060856766 15, pn 476498579339626 15, pn 460375197883433 15, pn 495445346912131 15, pn 555511373771659 15, pn 535378583926726 15, pn 522042355245346 15, pn 509751643933992 15, pn 505917636988734 15, pn 503919661751173 15, pn 513327853544145 15, pn 514175353449103 15, pn 470236486652447 15, pn 433099151096754 15, pn 417731034252111 15, pn 4589048904543 13, pn 511477485927674 15, pn 521946469376341 15, pn 540108889789081 15, pn 539886903447276 15, pn 545419791111906 15, pn 546698827321603 15, pn 533937100159938 15, pn 532207116287776 15, pn 472239303610618 15, pn 395591548892984 15, pn 381781037642599 15, pn 433423576206002 15, pn 492862261945019 15, pn 537514092314661 15, pn 559213168164554 15, pn 587997598217513 15, pn 627624656363427 15, pn 632472485464784 15, pn 582125310182791 15, pn 531199123198026 15, pn 470782512469459 15, pn 410639172226025 15, pn 403227449169194 15, pn 453669790475513 15, pn 525221394490141 15, pn 571830375386405 15, pn 580750441197102 15, pn 635296453090261 15, pn 701827805097738 15, pn 671723616673777 15, pn 60179402313819 14, pn 521390490430414 15, pn 469530619023012 15, pn 427651558855648 15, pn 42963081978582 14, pn 46603564184307 14, pn 542606388967509 15, pn 59108300019918 14, pn 624642198498689 15, pn 69867140533179 14, pn 779970043657163 15, pn 753118024156137 15, pn 640722574308407 15, pn 571390153768085 15, pn 520382505764622 15, pn 489644817171928 15, pn 461562953165597 15, pn 530046869432579 15, pn 577838810697034 15, pn 641354741404765 15, pn 706086788708845 15, pn 843711957844599 15, pn 913032033112738 15, pn 861700119798149 15, pn 770884355522217 15, pn 661651634721807 15, pn 618783982018184 15, pn 582799506486546 15, pn 517420687334327 15, pn 556261710999006 15, pn 599625826339062 15, pn 691953757070279 15, pn 869444160023993 15, pn 101924075948968 14, pn 107132482822279 14, pn 102067889731294 14, pn 846024469766208 15, pn 756059933939122 15, pn 66355912632032 14, pn 627535784479301 15, pn 600794739829099 15, pn 594746238383821 15, pn 648169213504355 15, pn 767347509266252 15, pn 906179412169381 15, pn 796 3, pn 1343 1, pp 0 0, pn 12716 4]⟩

def row128 : Row := ⟨"USA", "United States of America", [pp 329 6, pp 89195 1, pp 15612 1, pp 50012 1, pn 962858511987571 12, pp 99109 3, pp 20490251 0, pp 12845097 0, pp 12357232 0, pp 9453789 3, pp 85167 3, pp 104372926 0, pp 93426 2, pp 13915 4, pp 1589 4, pp 1199 4, pp 19219 4, pp 1042 4, pp 4335 4, pn 50455392721618414 8, pn 4055383163189578 8, pn 8837914487405024 8, nn 995116431523868 15, nn 9958379259570208 16, nn 9958438527957608 16, nn 9838874896324632 16, nn 9686136172755851 16, nn 953044607557482 15, nn 891439677643859 15, nn 648361662188622 15, nn 446422024900005 15, nn 2566669075720878 16, nn 478031492158455 15, nn 936191489922563 15, nn 954412216691788 15, nn 943092664117495 15, nn 94849251518122 14, nn 92178465151307 14, nn 934673423427451 15, nn 888924679140123 15, nn 860742840869258 15, nn 7941643660435009 16, pn 64742584 9, pp 0 0, pp 0 0, pp 0 0, pp 0 0, pn 2309078761 11, pn 2309078761 11, pn 2590081213 11, pn 185257416 9, pn 2269092124 10, pn 2269092124 10, pn 2240991879 10, pn 4902964525 1, pn 446711423583333 6, pn 403126394666667 6, pn 35954136575 2, pn 315956336833333 6, pn 284448259666667 6, pn 2514704825 1, pn 13808535908333302 8, pn 19139372816666695 8, pn 26648683425000003 8, pn 341579940333333 6, pn 415203346416667 6, pn 305747981956513 16, pn 8372784886232 16, pp 0 0, pp 0 0, pn 17464103009754 16, pn 438223831681977 15, pn 217352323425566 15, pn 131780604187522 15, pp 44411 3, pn 2931455093356854 16, pn 130683 3, pn 284174618637265 15, pp 154624 0, pp 1 0, pn 997960850711459 16, pn 31294911557471 16, pn 31294911557471 16, pn 31294911557471 16, pn 31294911557471 16, pn 56596643663938 13, pn 578771422673035 14, pn 543246447496558 14, pn 51637696266542 13, pn 513960819919765 14, pn 669351438961863 14, pn 74241437258676 13, pn 730975029191989 14, pn 688930337514472 14, pn 664929306886728 14, pn 669261013744288 14, pn 644867910518339 14, pn 599842186589318 14, pn 631867494075806 14, pn 664800349911233 14, pn 695594748921574 14, pn 744449766427003 14, pn 728440140966741 14, pn 703972320949028 14, pn 700970095790232 14, pn 710284700168665 14, pn 674085139520746 14, pn 647064839218275 14, pn 58752715913321 13, pn 592551497767558 14, pn 580320088730294 14, pn 565686169260038 14, pn 577465572093146 14, pn 58580173758699 13, pn 604089423215284 14, pn 562263202365609 14, pn 53600353153068 13, pn 524066401994271 14, pn 514072644668296 14, pn 489136349265982 14, pn 50012278462313 13, pn 476154069690709 14, pn 478388786450569 14, pn 478941547583692 14, pn 479358738871843 14, pn 486678254534657 14, pn 49795025149926 13, pn 487037779404631 14, pn 460698998265848 14, pn 443654638735474 14, pn 431449196746919 14, pn 430863211700521 14, pn 439656955854628 14, pn 456684011144318 14, pn 462438009685781 14, pn 438388483454724 14, pn 393747789835324 14, pn 395554961290159 14, pn 396564475788884 14, pn 39929550675521 13, pn 398652393339979 14, pn 373126033459607 14, pn 360216574468698 14, pn 376404117478798 14, pn 425333237883751 14, pn 439627372167716 14, pn 446076058399519 14, pn 404846657125932 14, pn 358632555445185 14, pn 34286465644574 13, pn 370806733440145 14, pn 388160303462285 14, pn 379812532028643 14, pn 354357225894722 14, pn 338949486267469 14, pn 348120996332494 14, pn 37687084495643 13, pn 430956712260833 14, pn 421024980055081 14, pn 366645824915516 14, pn 304497718821308 14, pn 298975758594691 14, pn 328584667975108 14, pn 386690311161409 14, pn 396600927175855 14, pn 371447325630588 14, pn 350201499978803 14, pn 353225961541916 14, pn 399237361159292 14, pn 43834601417822 13, pn 411123885323843 14, pn 36324830385004 13, pn 322037139208782 14, pn 33141067749702 13, pn 393794609955067 14, pn 450125078750248 14, pn 457297342788572 14, pn 437421787012384 14, pn 428749719696374 14, pn 44079844692604 13, pn 480307583525181 14, pn 504265800621558 14, pn 475943493606497 14, pn 442799322973455 14, pn 439496142120391 14, pn 432880534922237 14, pn 482597961999189 14, pn 530867093012885 14, pn 537768270100954 14, pn 525521170827057 14, pn 515873242426951 14, pn 529650819050204 14, pn 565484000380129 14, pn 610914038988134 14, pn 607118556025406 14, pn 549736047628829 14, pn 50990890813667 13, pn 492157937643642 14, pn 533600870313611 14, pn 609897263386591 14, pn 649812709093927 14, pn 619705962608177 14, pn 581088622167809 14, pn 579068526623 11, pn 625664803400027 14, pn 796 3, pn 10588101 3, pn 973 1, pn 22147 4]⟩

def row129 : Row := ⟨"URY", "Uruguay", [pp 3473727 0, pp 1066 1, pp 216 1, pp 555 1, pn 410486548361777 13, pp 2168 3, pp 30458 0, pp 10526 0, pp 506791 0, pp 40239 3, pp 6517045 0, pp 11614015 0, pp 749 3, pp 14 4, pp 5 4, pp 0 0, pp 115 4, pp 8 4, pp 2 5, pn 4998607461554252 9, pn 4905436363394988 10, pn 1119285984961679 9, nn 1540608344933795 16, nn 6768707006636816 16, nn 6255769369664531 16, nn 6659900404254206 16, nn 8395573008337436 16, nn 784553764073759 15, nn 6138394072191179 16, nn 6386838567970582 16, nn 2221497436899193 16, pn 1163611576248764 16, pn 244018145570398 15, nn 5106730403816939 16, nn 840619529331996 15, nn 967533097949052 15, nn 953631009711293 15, nn 87714120221946 14, nn 944901696378452 15, nn 973286756312785 15, nn 98239067142755 14, nn 97897952600296 14, pn 5231431542 11, pn 5231431542 11, pn 5231431542 11, pn 1966051738 10, pn 1976856846 10, pn 1976856846 10, pn 1976856846 10, pn 108051077 11, pp 0 0, pp 0 0, pp 0 0, pn 5231431542 11, pn 131555225 2, pn 115335354166667 8, pn 991154833333333 9, pn 158345425 2, pn 218140366666667 8, pn 27793530833333298 10, pn 33773025 1, pn 29472017916666702 10, pn 251145108333333 8, pn 2075700375 3, pn 191350166666667 8, pn 175130295833333 8, pn 109826845578141 15, pn 53163211057947 16, pp 0 0, pn 839095119822783 16, pn 17464103009754 16, pn 33982053677926 14, pn 1548727539172 13, pn 910379925907536 16, pp 2771 3, pn 1829065335996 14, pn 246369410180674 15, pn 5357386437561 16, pp 2047 0, pp 1 0, pn 13211570399202 16, pn 5342638807017 16, pn 5342638807017 16, pn 5342638807017 16, pn 5342638807017 16, pn 125307230730804 14, pn 125367846568973 14, pn 116446966839296 14, pn 103527954468509 14, pn 961512922389098 15, pn 932072750118132 15, pn 804617605532861 15, pn 780306824251848 15, pn 820221624164208 15, pn 823418956292081 15, pn 775359495051149 15, pn 637903450301987 15, pn 588870255322997 15, pn 625494423262561 15, pn 699798427051329 15, pn 756385592285336 15, pn 77247750350272 14, pn 690685779521733 15, pn 623627098494677 15, pn 633497019919744 15, pn 654585219628031 15, pn 678221661285326 15, pn 642235920927908 15, pn 558452461567825 15, pn 550726354911298 15, pn 533241914274222 15, pn 559077587932166 15, pn 571602426565577 15, pn 585972414384307 15, pn 507581060856766 15, pn 476498579339626 15, pn 460375197883433 15, pn 495445346912131 15, pn 555511373771659 15, pn 535378583926726 15, pn 522042355245346 15, pn 509751643933992 15, pn 505917636988734 15, pn 503919661751173 15, pn 513327853544145 15, pn 514175353449103 15, pn 470236486652447 15, pn 433099151096754 15, pn 417731034252111 15, pn 4589048904543 13, pn 511477485927674 15, pn 521946469376341 15, pn 540108889789081 15, pn 539886903447276 15, pn 545419791111906 15, pn 546698827321603 15, pn 533937100159938 15, pn 532207116287776 15, pn 472239303610618 15, pn 395591548892984 15, pn 381781037642599 15, pn 433423576206002 15, pn 492862261945019 15, pn 537514092314661 15, pn 559213168164554 15, pn 587997598217513 15, pn 627624656363427 15, pn 632472485464784 15, pn 582125310182791 15, pn 531199123198026 15, pn 470782512469459 15, pn 410639172226025 15, pn 403227449169194 15, pn 453669790475513 15, pn 525221394490141 15, pn 571830375386405 15, pn 580750441197102 15, pn 635296453090261 15, pn 701827805097738 15, pn 671723616673777 15, pn 60179402313819 14, pn 521390490430414 15, pn 469530619023012 15, pn 427651558855648 15, pn 42963081978582 14, pn 46603564184307 14, pn 542606388967509 15, pn 59108300019918 14, pn 624642198498689 15, pn 69867140533179 14, pn 779970043657163 15, pn 753118024156137 15, pn 640722574308407 15, pn 571390153768085 15, pn 520382505764622 15, pn 489644817171928 15, pn 461562953165597 15, pn 530046869432579 15, pn 577838810697034 15, pn 641354741404765 15, pn 706086788708845 15, pn 843711957844599 15, pn 913032033112738 15, pn 861700119798149 15, pn 770884355522217 15, pn 661651634721807 15, pn 618783982018184 15, pn 582799506486546 15, pn 517420687334327 15, pn 556261710999006 15, pn 599625826339062 15, pn 691953757070279 15, pn 869444160023993 15, pn 101924075948968 14, pn 107132482822279 14, pn 102067889731294 14, pn 846024469766208 15, pn 756059933939122 15, pn 66355912632032 14, pn 627535784479301 15, pn 600794739829099 15, pn 594746238383821 15, pn 648169213504355 15, pn 767347509266252 15, pn 906179412169381 15, pn 796 3, pp 3056 0, pn 906 1, pn 23711 4]⟩

def row130 : Row := ⟨"UZB", "Uzbekistan", [pp 3423205 1, pp 1448 1, pp 21 2, pp 915 1, pn 672836905932691 13, pp 10662 3, pp 66369 0, pp 4844 0, pp 961772 0, pp 62592 3, pp 2251123 1, pp 13579243 0, pp 4024308 0, pp 22 4, pp 8 4, pp 2 4, pp 428 4, pp 28 4, pp 97 4, pn 8068415667397562 9, pn 266634692357828 9, pn 10636294652403304 10, nn 9978175216428558 16, np 1 0, np 1 0, nn 9979168614560198 16, nn 7128024101845842 16, nn 3640449425035212 16, nn 2922751424609921 16, nn 2525223250206546 16, nn 1562399592782808 16, nn 617925567836474 16, nn 242089738965219 15, nn 999924613983592 15, nn 997105098224945 15, nn 976767507242245 15, nn 7502930589118919 16, nn 708341278933856 15, nn 594655752844341 15, nn 4257638871970969 16, nn 162396511882268 15, nn 980000214834072 16, pn 4998057013 12, pn 4998057013 12, pn 4998057013 12, pn 4998057013 12, pp 0 0, pp 0 0, pn 245001943 9, pn 245001943 9, pn 245001943 9, pn 245001943 9, pp 0 0, pp 0 0, pn 447654866666666 8, pn 39883105833333298 10, pn 35000725 1, pn 301183441666666 8, pn 249244508333333 8, pn 197305575 2, pn 29806831666666702 10, pn 39883105833333298 10, pp 4995938 0, pn 600356541666667 8, pn 548417608333333 8, pp 4995938 0, pn 253713123092574 16, pn 786905886056 15, pp 0 0, pn 20084029733598 16, pn 17464103009754 16, pn 166236993580118 15, pn 662777944559964 16, pn 373460423437898 16, pp 0 0, pp 0 0, pn 520374067263148 15, pn 11315710697889 16, pp 4437 0, pp 1 0, pn 28636901739747 16, pp 0 0, pp 0 0, pp 0 0, pp 0 0, pp 0 0, pp 0 0, pp 0 0, pp 0 0, pp 0 0, pp 0 0, pp 0 0, pp 0 0, pp 0 0, pp 0 0, pp 0 0, pp 0 0, pp 0 0, pp 0 0, pp 0 0, pp 0 0, pp 0 0, pp 0 0, pp 0 0, pp 0 0, pp 0 0, pp 0 0, pp 0 0, pp 0 0, pp 0 0, pp 0 0, pp 0 0, pp 0 0, pp 0 0, pp 0 0, pp 0 0, pp 0 0, pp 0 0, pp 0 0, pp 0 0, pp 0 0, pp 0 0, pp 0 0, pp 0 0, pp 0 0, pp 0 0, pp 0 0, pp 0 0, pp 0 0, pp 0 0, pp 0 0, pp 0 0, pp 0 0, pp 0 0, pp 0 0, pp 0 0, pp 0 0, pp 0 0, pp 0 0, pp 0 0, pp 0 0, pp 0 0, pp 0 0, pp 0 0, pp 0 0, pp 0 0, pp 0 0, pp 0 0, pp 0 0, pp 0 0, pp 0 0, pp 0 0, pp 0 0, pp 0 0, pp 0 0, pp 0 0, pp 0 0, pp 0 0, pp 0 0, pp 0 0, pp 0 0, pp 0 0, pp 0 0, pp 0 0, pp 0 0, pp 0 0, pp 0 0, pp 0 0, pp 0 0, pp 0 0, pp 0 0, pp 0 0, pp 0 0, pp 0 0, pp 0 0, pp 0 0, pp 0 0, pp 0 0, pp 0 0, pp 0 0, pp 0 0, pp 0 0, pp 0 0, pp 0 0, pp 0 0, pp 0 0, pp 0 0, pp 0 0, pp 0 0, pp 0 0, pp 0 0, pp 0 0, pp 0 0, pp 0 0, pp 0 0, pp 0 0, pp 0 0, pp 0 0, pp 0 0, pp 0 0, pp 0 0, pp 0 0, pp 0 0, pp 0 0, pp 0 0, pn 796 3, pn 27947 1, pn 70200005 6, pp 3 0]⟩

def row131 : Row := ⟨"VEN", "Venezuela (Bolivarian Republic of)", [pp 28435943 0, pp 5497 1, pp 862 1, pp 3281 1, pn 40813998385483295 15, pp 2066 3, pp 406074 0, pp 12743 1, pp 408573 0, pp 129803 3, pp 5099104 0, pp 17278957 0, pp 2191928 0, pp 35 4, pp 8 4, pp 0 0, pp 167 4, pp 1 5, pp 25 4, pn 31766656501804045 10, pn 2146453043342531 10, pn 2658460007561644 10, nn 2650619688933615 16, nn 7489464915895386 16, nn 7725919236941964 16, nn 7492633680263304 16, nn 7382719058110115 16, nn 4675999862241759 16, nn 2971566737969498 16, nn 1201913782367736 16, pn 1414797155942996 16, pn 2404447379143014 16, nn 225322287247689 15, nn 575202912362059 15, nn 6574780318213039 16, nn 6597925503382229 16, nn 711799496715428 15, nn 698554933881652 15, nn 643134087281733 15, nn 522811159289689 15, nn 406787560154751 15, nn 323656007921887 15, pn 2081612914 10, pp 0 0, pp 0 0, pn 4183870863 11, pn 4183870863 11, pn 4183870863 11, pn 4183870863 11, pp 0 0, pp 0 0, pn 2081612914 10, pn 2081612914 10, pn 2081612914 10, pn 148808266666667 8, pn 135992433333333 8, pp 1231766 0, pn 116795141666667 8, pn 110413683333333 8, pn 104032225 2, pn 976507666666667 9, pn 848349333333334 9, pp 720191 0, pn 912163916666667 9, pn 110413683333333 8, pn 129610975 2, pn 393827614663392 16, pn 81257728316551 16, pn 157507276151344 16, pn 66884831783212 16, pn 17464103009754 16, pp 0 0, pp 0 0, pp 0 0, pp 17928 0, pn 1183380849647 16, pp 0 0, pp 0 0, pp 33 2, pp 1 0, pn 21298574654308 16, pn 22665740393409 16, pn 22665740393409 16, pn 22665740393409 16, pn 22665740393409 16, pn 104462928928399 13, pn 107353565103232 13, pn 103932608079095 13, pn 100638214829153 13, pn 982932004629659 14, pn 114634503153017 13, pn 120526954443097 13, pn 117953723063019 13, pn 112609105076942 13, pn 108188162608913 13, pn 108923969502021 13, pn 106651249690074 13, pn 101094295235941 13, pn 106044455826692 13, pn 109671213470669 13, pn 112207097480749 13, pn 117010408027705 13, pn 112696083941088 13, pn 109466330865936 13, pn 108948534875927 13, pn 111131410401486 13, pn 105757769033842 13, pn 101486538753365 13, pn 926620088269116 14, pn 950795107489292 14, pn 944841786603207 14, pn 916579621268551 14, pn 939518053875552 14, pn 930831360797472 14, pn 951656216000671 14, pn 878261004294571 14, pn 842637110619779 14, pn 834535387647427 14, pn 811469814842215 14, pn 777873547403519 14, pn 799740831814672 14, pn 768162271492863 14, pn 775535678940707 14, pn 78456136695809 13, pn 788234241479958 14, pn 790781078607326 14, pn 796992828403785 14, pn 782723808395923 14, pn 73534558997615 13, pn 717735916257441 14, pn 709751757661668 14, pn 706669404843699 14, pn 707586049124551 14, pn 738572226635145 14, pn 752309127446057 14, pn 720838496609505 14, pn 655027553428903 14, pn 655448253473075 14, pn 645888118921901 14, pn 648965517527458 14, pn 64968067065901 13, pn 619850339649028 14, pn 604824136772273 14, pn 620631693653891 14, pn 689453906291949 14, pn 70713105533393 13, pn 724203367529441 14, pn 674423792822874 14, pn 605796302054787 14, pn 572105131885089 14, pn 610616217783801 14, pn 63466366735931 13, pn 617758778533267 14, pn 576987213429858 14, pn 560349207201704 14, pn 570229446048452 14, pn 618772250294256 14, pn 693159124987793 14, pn 674423743185867 14, pn 600210654335467 14, pn 512814169916847 14, pn 502593930465891 14, pn 534594022484031 14, pn 616879271037409 14, pn 639560287210772 14, pn 61202969661372 13, pn 582416971345373 14, pn 581482119544764 14, pn 649798348780194 14, pn 70734729062574 13, pn 671505722565057 14, pn 615883871482525 14, pn 559425102865466 14, pn 580431582857677 14, pn 666395616128984 14, pn 740532622296824 14, pn 762025318598269 14, pn 740149605611624 14, pn 731408057637338 14, pn 751655107975059 14, pn 813141637822371 14, pn 842689570286338 14, pn 808231205312287 14, pn 772271234389035 14, pn 766848468409568 14, pn 763426272878731 14, pn 828948314457289 14, pn 887088450069435 14, pn 908617933429853 14, pn 8982552869375 12, pn 898784203220411 14, pn 914822261669797 14, pn 969679902785242 14, pn 104383691960851 13, pn 104894561200081 13, pn 983465839803647 14, pn 925178884892611 14, pn 889368814313954 14, pn 930558460937762 14, pn 102161333252708 13, pn 106828489858603 13, pn 104031667734145 13, pn 100547590738195 13, pn 101101242926437 13, pn 108567151114467 13, pn 796 3, pn 93860004 5, pn 703 1, pn 17619 4]⟩

def row132 : Row := ⟨"VNM", "Viet Nam", [pp 97338583 0, pp 114989 1, pp 14813 1, pp 77163 1, pn 178639960972467 13, pp 1013 3, pp 1146318 0, pp 3550105 0, pp 373611 0, pp 496063 3, pp 24682431 0, pp 8614214 0, pp 331368 0, pp 462 4, pp 88 4, pp 16 4, pp 2456 4, pp 128 4, pp 355 4, pn 5105493630410659 8, pn 9624389459333272 10, pn 4098983058857702 9, nn 4349836805977152 16, nn 9889060800029976 16, nn 9461549764128094 16, nn 8659025612862101 16, nn 8482096836854438 16, nn 80647293539076 14, nn 7390232501185907 16, nn 5415704895089278 16, nn 3092780942949784 16, nn 2199906180179447 16, nn 140250357287837 15, nn 6121752319431 13, nn 740541821898691 15, nn 753133396179248 15, nn 856442970976331 15, nn 87284928083564 14, nn 849517027038832 15, nn 853194966341711 15, nn 8034535179919401 16, nn 726050354212968 15, pn 2119830387 10, pn 1996317176 10, pn 1996317176 10, pn 1996317176 10, pn 380169613 10, pn 380169613 10, pn 380169613 10, pn 380169613 10, pp 0 0, pn 1235132107 11, pn 1235132107 11, pn 1235132107 11, pn 4271491375 3, pn 786129029166667 8, pn 114510892083333 7, pn 15040888125 3, pn 136421011666667 7, pn 122433142083333 7, pn 1084452725 2, pn 944574029166667 8, pn 68734783333333405 10, pn 4682466375 3, pn 24914544166666702 10, pn 6462503333333329 9, pn 967743088379041 16, pn 5017561465127 16, pp 0 0, pn 539663815983486 16, pn 17464103009754 16, pn 190688860310486 15, pn 773913846756828 16, pn 43836058424585 15, pp 11 4, pn 7260815119435 16, pn 124125238710631 14, pn 26991454415534 16, pp 11746 0, pp 1 0, pn 75810017542275 16, pn 27878860683893 16, pn 27878860683893 16, pn 27878860683893 16, pn 27878860683893 16, pn 738188603099597 14, pn 757479716211206 14, pn 731699709473729 14, pn 705430750350524 14, pn 687338433832743 14, pn 795299112690715 14, pn 830333616471744 14, pn 812368381228524 14, pn 778068087985086 14, pn 748701715935825 14, pn 752005113181844 14, pn 732271779610562 14, pn 693590976750372 14, pn 727812852953366 14, pn 754468037372836 14, pn 773260169614504 14, pn 805818636968126 14, pn 774330085591313 14, pn 750563109056063 14, pn 747440133170175 14, pn 762695576664173 14, pn 727659182268458 14, pn 697984789053364 14, pn 636361807565005 14, pn 652220950156572 14, pn 647669254877945 14, pn 62968900044344 13, pn 64539878346922 13, pn 640086654344458 14, pn 651356846029006 14, pn 601390622174368 14, pn 577103913675967 14, pn 572871769995356 14, pn 559496922353865 14, pn 536428317733237 14, pn 550561966384626 14, pn 529099902459708 14, pn 533887707193429 14, pn 539838233363766 14, pn 542600422771444 14, pn 544326564186521 14, pn 547003101824272 14, pn 536252510633841 14, pn 504154761125837 14, pn 493787440520104 14, pn 490217087972034 14, pn 488511152208344 14, pn 489727662409337 14, pn 510377714538339 14, pn 519720078001101 14, pn 498782291983723 14, pn 454482938957933 14, pn 454705739524976 14, pn 446333389401621 14, pn 445830063314738 14, pn 445846481694094 14, pn 427681012306218 14, pn 419644833246349 14, pn 431671598846416 14, pn 478276376466785 14, pn 491020623496537 14, pn 503723066898408 14, pn 470698278064076 14, pn 423268378375951 14, pn 39911005869666 13, pn 422770228938183 14, pn 436797083980407 14, pn 425280100661151 14, pn 399780468635756 14, pn 391073517950807 14, pn 399213976545181 14, pn 431873181569407 14, pn 483282631761537 14, pn 473010088960502 14, pn 422531223446104 14, pn 361935914049171 14, pn 352442303324941 14, pn 372047035623454 14, pn 425507899320128 14, pn 440694552133375 14, pn 423554319137249 14, pn 406364860529166 14, pn 407357513036482 14, pn 454020305803419 14, pn 494853907261553 14, pn 473669483165277 14, pn 435693181793555 14, pn 394307487720591 14, pn 406000727030721 14, pn 461609827611477 14, pn 51000990877028 13, pn 523402310837699 14, pn 511101299388835 14, pn 506866665448126 14, pn 522481896696865 14, pn 565630651505209 14, pn 589916778785712 14, pn 569255204645282 14, pn 543570826919295 14, pn 536928457457119 14, pn 531005903076548 14, pn 573258342372132 14, pn 610818950262508 14, pn 622992645197713 14, pn 617378914991634 14, pn 619176996358243 14, pn 632946633015541 14, pn 675434740524295 14, pn 729865971721998 14, pn 735007902274633 14, pn 689666523112863 14, pn 644986738920614 14, pn 61811454067394 13, pn 642490944835852 14, pn 701993414500697 14, pn 73221642371832 13, pn 713369326173758 14, pn 691922912038113 14, pn 699586536485121 14, pn 753986987835428 14, pn 796 3, pn 32251 1, pn 549 1, pn 18948 4]⟩

def row133 : Row := ⟨"YEM", "Yemen", [pp 29825968 0, pp 2632 1, pp 442 1, pp 1534 1, pn 8882968348158231 15, pp 37 4, pp 194546 0, pp 0 0, pp 90164 0, pp 70137 3, pp 18917608 0, pp 2850177 0, pp 390869 0, pp 12 4, pp 0 0, pp 0 0, pp 58 4, pp 3 4, pp 11 4, pn 6813461854868677 10, pn 3284877689300294 11, pn 8116167172421253 11, nn 3913097935934825 16, nn 6504485978548017 16, nn 6677319884248786 16, nn 5212719717077771 16, nn 48500693870455 14, nn 3985282181971963 16, nn 6866530550499 16, pn 1581574055118304 16, pn 2075799463163929 16, pn 3522564820090201 16, nn 65113559229333 15, nn 595799602135916 15, nn 797891475409283 15, nn 873280291216615 15, nn 908978474056814 15, nn 919583023762934 15, nn 901430581212209 15, nn 8376534185494919 16, nn 693398874711605 15, nn 481304933652364 15, pn 5670060057 11, pp 0 0, pp 0 0, pp 0 0, pn 2601569044 11, pn 2601569044 11, pn 1932993994 10, pn 1932993994 10, pn 167283709 9, pn 2239843096 10, pn 5670060057 11, pn 5670060057 11, pn 476381791666667 9, pn 46116020833333296 11, pn 445938625 3, pn 43071704166666704 11, pn 42024745833333296 11, pn 409777875 3, pn 429864166666667 9, pn 449950458333333 9, pn 46528475 2, pn 49097591666666704 11, pn 48611120833333296 11, pn 4812465 1, pn 24824072204185 15, pp 0 0, pp 0 0, pn 427180168216025 16, pn 17464103009754 16, pp 0 0, pp 0 0, pp 0 0, pp 0 0, pp 0 0, pp 0 0, pp 0 0, pp 1452 0, pp 1 0, pn 9371372847895 16, pn 15428893282085 16, pn 15428893282085 16, pn 15428893282085 16, pn 15428893282085 16, pn 738188603099597 14, pn 757479716211206 14, pn 731699709473729 14, pn 705430750350524 14, pn 687338433832743 14, pn 795299112690715 14, pn 830333616471744 14, pn 812368381228524 14, pn 778068087985086 14, pn 748701715935825 14, pn 752005113181844 14, pn 732271779610562 14, pn 693590976750372 14, pn 727812852953366 14, pn 754468037372836 14, pn 773260169614504 14, pn 805818636968126 14, pn 774330085591313 14, pn 750563109056063 14, pn 747440133170175 14, pn 762695576664173 14, pn 727659182268458 14, pn 697984789053364 14, pn 636361807565005 14, pn 652220950156572 14, pn 647669254877945 14, pn 62968900044344 13, pn 64539878346922 13, pn 640086654344458 14, pn 651356846029006 14, pn 601390622174368 14, pn 577103913675967 14, pn 572871769995356 14, pn 559496922353865 14, pn 536428317733237 14, pn 550561966384626 14, pn 529099902459708 14, pn 533887707193429 14, pn 539838233363766 14, pn 542600422771444 14, pn 544326564186521 14, pn 547003101824272 14, pn 536252510633841 14, pn 504154761125837 14, pn 493787440520104 14, pn 490217087972034 14, pn 488511152208344 14, pn 489727662409337 14, pn 510377714538339 14, pn 519720078001101 14, pn 498782291983723 14, pn 454482938957933 14, pn 454705739524976 14, pn 446333389401621 14, pn 445830063314738 14, pn 445846481694094 14, pn 427681012306218 14, pn 419644833246349 14, pn 431671598846416 14, pn 478276376466785 14, pn 491020623496537 14, pn 503723066898408 14, pn 470698278064076 14, pn 423268378375951 14, pn 39911005869666 13, pn 422770228938183 14, pn 436797083980407 14, pn 425280100661151 14, pn 399780468635756 14, pn 391073517950807 14, pn 399213976545181 14, pn 431873181569407 14, pn 483282631761537 14, pn 473010088960502 14, pn 422531223446104 14, pn 361935914049171 14, pn 352442303324941 14, pn 372047035623454 14, pn 425507899320128 14, pn 440694552133375 14, pn 423554319137249 14, pn 406364860529166 14, pn 407357513036482 14, pn 454020305803419 14, pn 494853907261553 14, pn 473669483165277 14, pn 435693181793555 14, pn 394307487720591 14, pn 406000727030721 14, pn 461609827611477 14, pn 51000990877028 13, pn 523402310837699 14, pn 511101299388835 14, pn 506866665448126 14, pn 522481896696865 14, pn 565630651505209 14, pn 589916778785712 14, pn 569255204645282 14, pn 543570826919295 14, pn 536928457457119 14, pn 531005903076548 14, pn 573258342372132 14, pn 610818950262508 14, pn 622992645197713 14, pn 617378914991634 14, pn 619176996358243 14, pn 632946633015541 14, pn 675434740524295 14, pn 729865971721998 14, pn 735007902274633 14, pn 689666523112863 14, pn 644986738920614 14, pn 61811454067394 13, pn 642490944835852 14, pn 701993414500697 14, pn 73221642371832 13, pn 713369326173758 14, pn 691922912038113 14, pn 699586536485121 14, pn 753986987835428 14, pn 796 3, pn 895 1, pp 0 0, pn 10447 4]⟩

def row134 : Row := ⟨"ZMB", "Zambia", [pp 18383956 0, pp 1973 1, pp 286 1, pp 1246 1, pn 130699484736862 13, pp 386 3, pp 51573 0, pp 29156 0, pp 19899 1, pp 41085 3, pp 4256638 0, pp 3742657 0, pp 27963 1, pp 9 4, pp 3 4, pp 0 0, pp 101 4, pp 7 4, pp 32 4, pn 5210451310294467 9, pn 26722932876230887 11, pn 5544185619205377 10, nn 16318855924328 15, nn 7576925607092845 16, nn 9820508218910454 16, nn 9759305502994924 16, nn 9564654578990114 16, nn 903007234643356 15, nn 7624262629545815 16, nn 6489989840456372 16, nn 3952328152519089 16, nn 2841854049385894 16, nn 533138779792023 16, nn 440233263476621 15, nn 662967683184289 15, nn 787067206969655 15, nn 846525977332633 15, nn 8646317968715 13, nn 850587567364777 15, nn 795433560840789 15, nn 66928565947276 14, nn 3881255963275 13, pp 0 0, pp 0 0, pp 0 0, pp 0 0, pn 2187136212 10, pn 2187136212 10, pn 25 2, pn 25 2, pn 3128637878 11, pn 3128637878 11, pp 0 0, pp 0 0, pn 188620083333333 8, pn 158711966666667 8, pn 12880385 1, pn 988957333333333 9, pn 147483366666667 8, pp 196071 1, pn 25588723333333298 10, pn 31570346666666702 10, pn 29702395 1, pn 278344433333333 8, pn 248436316666667 8, pp 2185282 0, pn 490954814634542 16, pp 0 0, pp 0 0, pn 816864295125165 16, pn 17464103009754 16, pn 125810012986224 16, pn 45155795973473 16, pn 24730204585048 16, pp 0 0, pp 0 0, pn 192105774340312 15, pn 4177405260146 16, pp 3836 0, pp 1 0, pn 2475797950725 15, pp 0 0, pp 0 0, pp 0 0, pp 0 0, pp 0 0, pp 0 0, pp 0 0, pp 0 0, pp 0 0, pp 0 0, pp 0 0, pp 0 0, pp 0 0, pp 0 0, pp 0 0, pp 0 0, pp 0 0, pp 0 0, pp 0 0, pp 0 0, pp 0 0, pp 0 0, pp 0 0, pp 0 0, pp 0 0, pp 0 0, pp 0 0, pp 0 0, pp 0 0, pp 0 0, pp 0 0, pp 0 0, pp 0 0, pp 0 0, pp 0 0, pp 0 0, pp 0 0, pp 0 0, pp 0 0, pp 0 0, pp 0 0, pp 0 0, pp 0 0, pp 0 0, pp 0 0, pp 0 0, pp 0 0, pp 0 0, pp 0 0, pp 0 0, pp 0 0, pp 0 0, pp 0 0, pp 0 0, pp 0 0, pp 0 0, pp 0 0, pp 0 0, pp 0 0, pp 0 0, pp 0 0, pp 0 0, pp 0 0, pp 0 0, pp 0 0, pp 0 0, pp 0 0, pp 0 0, pp 0 0, pp 0 0, pp 0 0, pp 0 0, pp 0 0, pp 0 0, pp 0 0, pp 0 0, pp 0 0, pp 0 0, pp 0 0, pp 0 0, pp 0 0, pp 0 0, pp 0 0, pp 0 0, pp 0 0, pp 0 0, pp 0 0, pp 0 0, pp 0 0, pp 0 0, pp 0 0, pp 0 0, pp 0 0, pp 0 0, pp 0 0, pp 0 0, pp 0 0, pp 0 0, pp 0 0, pp 0 0, pp 0 0, pp 0 0, pp 0 0, pp 0 0, pp 0 0, pp 0 0, pp 0 0, pp 0 0, pp 0 0, pp 0 0, pp 0 0, pp 0 0, pp 0 0, pp 0 0, pp 0 0, pp 0 0, pp 0 0, pp 0 0, pp 0 0, pp 0 0, pp 0 0, pp 0 0, pp 0 0, pp 0 0, pn 796 3, pn 13915 1, pp 44 0, pn 10351 4]⟩

def row135 : Row := ⟨"ZWE", "Zimbabwe", [pp 14862927 0, pp 463 1, pp 67 1, pp 292 1, pn 54999923525310095 16, pp 427 3, pp 67211 0, pp 10107 0, pp 52745 0, pp 7695 3, pp 5421653 0, pp 6118436 0, pp 990344 0, pp 6 4, pp 2 4, pp 0 0, pp 22 4, pp 1 4, pp 8 4, pn 19952276040372537 10, pn 10935874297136684 11, pn 22035683256199173 11, pn 378815747686941 16, nn 7168945766158217 16, nn 9395445587178948 16, nn 9367226931134568 16, nn 9341507769180576 16, nn 7307014724265324 16, nn 5053817210884164 16, nn 3378173087202109 16, nn 1386425414665887 16, pn 472431144592817 16, nn 198483741482686 15, nn 429203864703003 15, nn 632572583871983 15, nn 7435654298209271 16, nn 798439153231743 15, nn 7991131832441729 16, nn 725394228467553 15, nn 5620302750376159 16, nn 48236481157354 14, nn 443001769092444 15, pp 0 0, pp 0 0, pp 0 0, pn 7846109953 12, pn 2319139437 10, pn 2319139437 10, pn 25 2, pn 24215389 8, pn 1808605626 11, pn 1808605626 11, pp 0 0, pp 0 0, pn 8365615 1, pn 6843868333333341 10, pn 5322121666666671 10, pn 39436525 2, pn 665687708333333 9, pn 937010166666667 9, pn 12413595 1, pn 153138108333333 8, pn 141223329166667 8, pn 12930855 1, pn 114091083333333 8, pn 988736166666667 9, pn 301794203343046 16, pp 0 0, pp 0 0, pn 775790349417637 16, pn 17464103009754 16, pp 0 0, pp 0 0, pp 0 0, pp 0 0, pp 0 0, pn 632680336992847 16, pn 1375784864781 16, pp 41 2, pp 1 0, pn 26461865479595 16, pp 0 0, pp 0 0, pp 0 0, pp 0 0, pp 0 0, pp 0 0, pp 0 0, pp 0 0, pp 0 0, pp 0 0, pp 0 0, pp 0 0, pp 0 0, pp 0 0, pp 0 0, pp 0 0, pp 0 0, pp 0 0, pp 0 0, pp 0 0, pp 0 0, pp 0 0, pp 0 0, pp 0 0, pp 0 0, pp 0 0, pp 0 0, pp 0 0, pp 0 0, pp 0 0, pp 0 0, pp 0 0, pp 0 0, pp 0 0, pp 0 0, pp 0 0, pp 0 0, pp 0 0, pp 0 0, pp 0 0, pp 0 0, pp 0 0, pp 0 0, pp 0 0, pp 0 0, pp 0 0, pp 0 0, pp 0 0, pp 0 0, pp 0 0, pp 0 0, pp 0 0, pp 0 0, pp 0 0, pp 0 0, pp 0 0, pp 0 0, pp 0 0, pp 0 0, pp 0 0, pp 0 0, pp 0 0, pp 0 0, pp 0 0, pp 0 0, pp 0 0, pp 0 0, pp 0 0, pp 0 0, pp 0 0, pp 0 0, pp 0 0, pp 0 0, pp 0 0, pp 0 0, pp 0 0, pp 0 0, pp 0 0, pp 0 0, pp 0 0, pp 0 0, pp 0 0, pp 0 0, pp 0 0, pp 0 0, pp 0 0, pp 0 0, pp 0 0, pp 0 0, pp 0 0, pp 0 0, pp 0 0, pp 0 0, pp 0 0, pp 0 0, pp 0 0, pp 0 0, pp 0 0, pp 0 0, pp 0 0, pp 0 0, pp 0 0, pp 0 0, pp 0 0, pp 0 0, pp 0 0, pp 0 0, pp 0 0, pp 0 0, pp 0 0, pp 0 0, pp 0 0, pp 0 0, pp 0 0, pp 0 0, pp 0 0, pp 0 0, pp 0 0, pp 0 0, pp 0 0, pp 0 0, pp 0 0, pp 0 0, pp 0 0, pn 796 3, pn 43180002 5, pn 549 1, pn 15164 4]⟩

def row136 : Row := ⟨"AUT", "Austria", [pp 8917205 0, pn 2720633883 5, pn 4272048884 6, pn 1637151061 5, pn 272914729642419 13, pn 39344262295082 7, pp 125 3, pp 50317 1, pp 21836 1, pp 0 0, pp 329298 1, pp 185543 1, pp 52478 1, pp 114 4, pp 32 4, pp 3 4, pp 249 4, pp 11 4, pp 46 4, pn 5896341289286457 9, pn 2916906154155411 10, pn 7743567707566343 10, np 1 0, np 1 0, np 1 0, np 1 0, nn 9965850224545868 16, nn 9330816530882962 16, nn 7319313757954339 16, nn 6294195682358261 16, nn 5310440736419509 16, nn 2419784250470897 16, nn 134090079588407 15, nn 987254931140289 15, nn 933020112353674 15, nn 957200328685518 15, nn 826454949844699 15, nn 8847135380880189 16, nn 923330833628034 15, nn 925583625946992 15, nn 921501410740977 15, nn 895722304323161 15, pn 7978254932 11, pp 0 0, pp 0 0, pp 0 0, pp 0 0, pp 0 0, pn 1683928576 10, pn 1683928576 10, pn 1702174507 10, pn 25 2, pn 8160714242 11, pn 8160714242 11, pn 273676282976649 8, pn 238282811740554 8, pn 202889340504458 8, pn 167495869268361 8, pn 132102398032265 8, pn 967089267961693 9, pn 132835548694621 8, pn 168187226392703 8, pn 205088792491524 8, pn 275875734963716 8, pn 27514258430136098 10, pn 274409433639005 8, pn 287229554631471 16, pp 0 0, pp 0 0, pn 131043520242775 16, pn 17464103009754 16, pn 707877332753263 15, pn 252013213541504 15, pn 137735958716388 15, pp 1305542 0, pn 86175446296892 16, pn 123250747898076 14, pn 26801293420485 16, pn 13924 1, pp 1 0, pn 8986707681411 16, pp 0 0, pp 0 0, pp 0 0, pp 0 0, pp 0 0, pp 0 0, pp 0 0, pp 0 0, pp 0 0, pp 0 0, pp 0 0, pp 0 0, pp 0 0, pp 0 0, pp 0 0, pp 0 0, pp 0 0, pp 0 0, pp 0 0, pp 0 0, pp 0 0, pp 0 0, pp 0 0, pp 0 0, pp 0 0, pp 0 0, pp 0 0, pp 0 0, pp 0 0, pp 0 0, pp 0 0, pp 0 0, pp 0 0, pp 0 0, pp 0 0, pp 0 0, pp 0 0, pp 0 0, pp 0 0, pp 0 0, pp 0 0, pp 0 0, pp 0 0, pp 0 0, pp 0 0, pp 0 0, pp 0 0, pp 0 0, pp 0 0, pp 0 0, pp 0 0, pp 0 0, pp 0 0, pp 0 0, pp 0 0, pp 0 0, pp 0 0, pp 0 0, pp 0 0, pp 0 0, pp 0 0, pp 0 0, pp 0 0, pp 0 0, pp 0 0, pp 0 0, pp 0 0, pp 0 0, pp 0 0, pp 0 0, pp 0 0, pp 0 0, pp 0 0, pp 0 0, pp 0 0, pp 0 0, pp 0 0, pp 0 0, pp 0 0, pp 0 0, pp 0 0, pp 0 0, pp 0 0, pp 0 0, pp 0 0, pp 0 0, pp 0 0, pp 0 0, pp 0 0, pp 0 0, pp 0 0, pp 0 0, pp 0 0, pp 0 0, pp 0 0, pp 0 0, pp 0 0, pp 0 0, pp 0 0, pp 0 0, pp 0 0, pp 0 0, pp 0 0, pp 0 0, pp 0 0, pp 0 0, pp 0 0, pp 0 0, pp 0 0, pp 0 0, pp 0 0, pp 0 0, pp 0 0, pp 0 0, pp 0 0, pp 0 0, pp 0 0, pp 0 0, pp 0 0, pp 0 0, pp 0 0, pp 0 0, pp 0 0, pp 0 0, pn 796 3, pn 62471 1, pp 98 0, pn 12899 4]⟩

def row137 : Row := ⟨"BEL", "Belgium", [pp 11555997 0, pn 4739652141 5, pn 7856143354999999 12, pn 2755970805 5, pn 322975158050418 13, pn 459016393442623 8, pp 4413 2, pp 10988 2, pp 25451 1, pp 0 0, pp 621827 1, pp 233544 1, pp 53794 1, pp 383 4, pp 116 4, pp 2 4, pp 47 5, pp 43 4, pp 81 4, pn 392670130361017 8, pn 9888831491988574 11, pn 460717937915561 9, np 1 0, np 1 0, np 1 0, np 1 0, np 1 0, nn 9974755354227728 16, nn 7202250972121371 16, nn 6809451462116327 16, nn 6601304076357246 16, nn 5929060806921648 16, nn 247483313292133 15, nn 982384659026162 15, nn 813096346923035 15, nn 998347425995101 15, nn 965030057995692 15, nn 999187391251998 15, nn 9617496736737452 16, nn 991222708182117 15, nn 985523454669215 15, nn 988570237844002 15, pn 7978254932 11, pp 0 0, pp 0 0, pp 0 0, pp 0 0, pp 0 0, pn 1683928576 10, pn 1683928576 10, pn 1702174507 10, pn 25 2, pn 8160714242 11, pn 8160714242 11, pn 354662958297954 8, pn 308795800660118 8, pn 26292864302228 7, pn 217061485384442 8, pn 171194327746605 8, pn 125327170108767 8, pn 17214443339683102 10, pn 21795742989338 7, pn 265778959972959 8, pn 357513275248634 8, pn 356563169598409 8, pn 355613063948182 8, pn 242464283938251 16, pp 0 0, pp 0 0, pp 0 0, pn 17464103009754 16, pn 6905058117275 13, pn 245828734062865 15, pn 134355877179465 15, pp 27949 1, pn 18448411070282 16, pn 142406283358718 14, pn 30966729616716 16, pn 8809587 4, pp 1 0, pn 5685807466458 16, pp 0 0, pp 0 0, pp 0 0, pp 0 0, pp 0 0, pp 0 0, pp 0 0, pp 0 0, pp 0 0, pp 0 0, pp 0 0, pp 0 0, pp 0 0, pp 0 0, pp 0 0, pp 0 0, pp 0 0, pp 0 0, pp 0 0, pp 0 0, pp 0 0, pp 0 0, pp 0 0, pp 0 0, pp 0 0, pp 0 0, pp 0 0, pp 0 0, pp 0 0, pp 0 0, pp 0 0, pp 0 0, pp 0 0, pp 0 0, pp 0 0, pp 0 0, pp 0 0, pp 0 0, pp 0 0, pp 0 0, pp 0 0, pp 0 0, pp 0 0, pp 0 0, pp 0 0, pp 0 0, pp 0 0, pp 0 0, pp 0 0, pp 0 0, pp 0 0, pp 0 0, pp 0 0, pp 0 0, pp 0 0, pp 0 0, pp 0 0, pp 0 0, pp 0 0, pp 0 0, pp 0 0, pp 0 0, pp 0 0, pp 0 0, pp 0 0, pp 0 0, pp 0 0, pp 0 0, pp 0 0, pp 0 0, pp 0 0, pp 0 0, pp 0 0, pp 0 0, pp 0 0, pp 0 0, pp 0 0, pp 0 0, pp 0 0, pp 0 0, pp 0 0, pp 0 0, pp 0 0, pp 0 0, pp 0 0, pp 0 0, pp 0 0, pp 0 0, pp 0 0, pp 0 0, pp 0 0, pp 0 0, pp 0 0, pp 0 0, pp 0 0, pp 0 0, pp 0 0, pp 0 0, pp 0 0, pp 0 0, pp 0 0, pp 0 0, pp 0 0, pp 0 0, pp 0 0, pp 0 0, pp 0 0, pp 0 0, pp 0 0, pp 0 0, pp 0 0, pp 0 0, pp 0 0, pp 0 0, pp 0 0, pp 0 0, pp 0 0, pp 0 0, pp 0 0, pp 0 0, pp 0 0, pp 0 0, pp 0 0, pp 0 0, pn 796 3, pp 7596 0, pn 984 1, pn 14797 4]⟩

def row138 : Row := ⟨"BGR", "Bulgaria", [pp 6927288 0, pn 1130692147 5, pn 1772074149 6, pn 6723743348999999 12, pn 188215239015708 14, pn 131147540983607 8, pp 869 2, pp 6555 1, pp 1669 1, pp 0 0, pp 215327 1, pp 60909 1, pp 24194 1, pp 36 4, pp 8 4, pp 0 0, pp 89 4, pp 5 4, pp 14 4, pn 9180946867037946 9, pn 8534012091314315 10, pn 1246036919934894 9, nn 9997190930667492 16, np 1 0, np 1 0, np 1 0, nn 9539348403861873 16, nn 6224646621216064 16, nn 5506908494495711 16, nn 6655703914611694 16, nn 3742290314227519 16, nn 5140680348617992 16, nn 652030259276025 16, nn 997061715414966 15, nn 999891252023544 15, nn 9174100430879092 16, nn 999963643338767 15, nn 999964363250355 15, nn 991760271725489 15, nn 964441570867279 15, nn 951416085922783 15, nn 93253895289142 14, pn 1742323097 10, pn 8400089008 11, pn 8400089008 11, pn 8400089008 11, pp 0 0, pp 0 0, pn 7576769025 11, pn 7576769025 11, pn 7576769025 11, pn 1659991099 10, pn 9023141967 11, pn 9023141967 11, pn 212604109802202 8, pn 185108861170804 8, pn 157613612539405 8, pn 130118363908006 8, pn 102623115276607 8, pn 75127866645208 8, pn 103192659857619 8, pn 13065544137916 7, pn 159322246282442 8, pn 21431274354524 7, pn 213743198964228 8, pn 213173654383215 8, pn 832680216660571 16, pn 2474481905351 15, pp 0 0, pn 165519501802688 16, pn 17464103009754 16, pn 490641777909811 15, pn 17467462995014 14, pn 954671276220621 16, pp 20062 1, pn 13242406629646 16, pn 142406283358718 15, pn 3096672961671 16, pp 3629 0, pp 1 0, pn 23421978006207 16, pp 0 0, pp 0 0, pp 0 0, pp 0 0, pp 0 0, pp 0 0, pp 0 0, pp 0 0, pp 0 0, pp 0 0, pp 0 0, pp 0 0, pp 0 0, pp 0 0, pp 0 0, pp 0 0, pp 0 0, pp 0 0, pp 0 0, pp 0 0, pp 0 0, pp 0 0, pp 0 0, pp 0 0, pp 0 0, pp 0 0, pp 0 0, pp 0 0, pp 0 0, pp 0 0, pp 0 0, pp 0 0, pp 0 0, pp 0 0, pp 0 0, pp 0 0, pp 0 0, pp 0 0, pp 0 0, pp 0 0, pp 0 0, pp 0 0, pp 0 0, pp 0 0, pp 0 0, pp 0 0, pp 0 0, pp 0 0, pp 0 0, pp 0 0, pp 0 0, pp 0 0, pp 0 0, pp 0 0, pp 0 0, pp 0 0, pp 0 0, pp 0 0, pp 0 0, pp 0 0, pp 0 0, pp 0 0, pp 0 0, pp 0 0, pp 0 0, pp 0 0, pp 0 0, pp 0 0, pp 0 0, pp 0 0, pp 0 0, pp 0 0, pp 0 0, pp 0 0, pp 0 0, pp 0 0, pp 0 0, pp 0 0, pp 0 0, pp 0 0, pp 0 0, pp 0 0, pp 0 0, pp 0 0, pp 0 0, pp 0 0, pp 0 0, pp 0 0, pp 0 0, pp 0 0, pp 0 0, pp 0 0, pp 0 0, pp 0 0, pp 0 0, pp 0 0, pp 0 0, pp 0 0, pp 0 0, pp 0 0, pp 0 0, pp 0 0, pp 0 0, pp 0 0, pp 0 0, pp 0 0, pp 0 0, pp 0 0, pp 0 0, pp 0 0, pp 0 0, pp 0 0, pp 0 0, pp 0 0, pp 0 0, pp 0 0, pp 0 0, pp 0 0, pp 0 0, pp 0 0, pp 0 0, pp 0 0, pp 0 0, pp 0 0, pn 796 3, pn 71810004 5, pn 685 1, pn 17552999 7]⟩

def row139 : Row := ⟨"HRV", "Croatia", [pp 40472 2, pn 1478771753 5, pn 22908073 4, pn 8918874082999999 12, pn 7652064191719199 16, pn 6557377049180331 10, pp 5665 1, pp 1103 2, pp 4337 1, pp 13054 3, pp 1781 3, pp 423 3, pp 11 4, pp 14 4, pp 5 4, pp 0 0, pp 141 4, pp 7 4, pp 23 4, pn 3964274943221389 9, pn 28156218380259257 11, pn 5453323830084273 10, nn 9996842725537256 16, nn 9968427255372572 16, nn 9968427255372572 16, nn 9774264869547628 16, nn 9031923166398604 16, nn 6976427973326182 16, nn 5293264486780963 16, nn 5134967041075735 16, nn 428277829150567 15, nn 589803926957539 15, nn 190362064132933 15, nn 884422735782389 15, nn 940452931916614 15, nn 967447727281242 15, nn 976026048921797 15, nn 936825777769589 15, nn 983346219360246 15, nn 964048201330225 15, nn 959486597166189 15, nn 96681310136903 14, pn 1297285269 10, pn 3949710725 11, pn 3949710725 11, pn 3949710725 11, pp 0 0, pp 0 0, pn 7576769025 11, pn 7576769025 11, pn 1202714731 10, pn 2105028927 10, pn 1347352025 10, pn 1347352025 10, pn 12421186374689098 10, pn 108148034689835 8, pn 920842056327786 9, pn 7602037657572221 10, pn 5995654751866581 10, pn 438927184616095 9, pn 602892983481785 9, pn 763341588150713 9, pn 930824581213167 9, pn 125210116235429 8, pn 124877365405917 8, pn 124544614576404 8, pn 342054728756601 16, pn 3756574004507 16, pp 0 0, pn 8589692369157 15, pn 17464103009754 16, pn 542463222273291 15, pn 193123714445624 15, pn 105550338358179 15, pp 0 0, pp 0 0, pn 138625585570433 15, pn 3014460405167 16, pp 897 0, pp 1 0, pn 5789339837852 16, pp 0 0, pp 0 0, pp 0 0, pp 0 0, pp 0 0, pp 0 0, pp 0 0, pp 0 0, pp 0 0, pp 0 0, pp 0 0, pp 0 0, pp 0 0, pp 0 0, pp 0 0, pp 0 0, pp 0 0, pp 0 0, pp 0 0, pp 0 0, pp 0 0, pp 0 0, pp 0 0, pp 0 0, pp 0 0, pp 0 0, pp 0 0, pp 0 0, pp 0 0, pp 0 0, pp 0 0, pp 0 0, pp 0 0, pp 0 0, pp 0 0, pp 0 0, pp 0 0, pp 0 0, pp 0 0, pp 0 0, pp 0 0, pp 0 0, pp 0 0, pp 0 0, pp 0 0, pp 0 0, pp 0 0, pp 0 0, pp 0 0, pp 0 0, pp 0 0, pp 0 0, pp 0 0, pp 0 0, pp 0 0, pp 0 0, pp 0 0, pp 0 0, pp 0 0, pp 0 0, pp 0 0, pp 0 0, pp 0 0, pp 0 0, pp 0 0, pp 0 0, pp 0 0, pp 0 0, pp 0 0, pp 0 0, pp 0 0, pp 0 0, pp 0 0, pp 0 0, pp 0 0, pp 0 0, pp 0 0, pp 0 0, pp 0 0, pp 0 0, pp 0 0, pp 0 0, pp 0 0, pp 0 0, pp 0 0, pp 0 0, pp 0 0, pp 0 0, pp 0 0, pp 0 0, pp 0 0, pp 0 0, pp 0 0, pp 0 0, pp 0 0, pp 0 0, pp 0 0, pp 0 0, pp 0 0, pp 0 0, pp 0 0, pp 0 0, pp 0 0, pp 0 0, pp 0 0, pp 0 0, pp 0 0, pp 0 0, pp 0 0, pp 0 0, pp 0 0, pp 0 0, pp 0 0, pp 0 0, pp 0 0, pp 0 0, pp 0 0, pp 0 0, pp 0 0, pp 0 0, pp 0 0, pp 0 0, pp 0 0, pp 0 0, pn 796 3, pn 22353 1, pp 72 0, pn 14893999 7]⟩

def row140 : Row := ⟨"CYP", "Cyprus", [pp 1207361 0, pn 7254898166 6, pn 1064869055 6, pn 4460197688 6, pp 0 0, pp 0 0, pp 2653 1, pp 4243 1, pp 464 1, pp 0 0, pp 35942 1, pp 775 2, pp 3671 1, pp 7 4, pp 2 4, pp 0 0, pp 41 4, pp 2 4, pp 6 4, pn 10033514590332127 11, pn 6158718568678042 12, pn 11653675702842049 12, nn 6709999999999999 16, nn 679 4, nn 679 4, pn 12 1, pn 68064248618555 15, nn 876986778395061 16, nn 105964600358403 15, nn 190127419241997 15, nn 120637335043216 15, nn 227953569004309 15, pn 46262021783831 14, nn 234277953845794 15, nn 679046285460753 15, nn 8654933223059019 16, nn 964204752682474 15, nn 958881694889377 15, nn 9860906161538828 16, nn 99016275924557 14, nn 995296011771856 15, nn 998369090357112 15, pn 2133956386 10, pn 1336226079 10, pn 1336226079 10, pn 1336226079 10, pp 0 0, pp 0 0, pn 3660436137 11, pn 3660436137 11, pn 3660436137 11, pn 1163773921 10, pn 7977303071 11, pn 7977303071 11, pn 370548922774536 9, pn 32262729618292704 11, pn 274705669591315 9, pn 226784042999705 9, pn 178862416408094 9, pn 130940789816484 9, pn 17985507892606 8, pn 227720118405622 9, pn 277683657145214 9, pn 373526910328434 9, pn 37253424781047 8, pn 37154158529250295 11, pn 119411274645932 16, pp 0 0, pn 649466192170819 16, pn 934065934065934 16, pn 17464103009754 16, pn 621565937421588 15, pn 221285273690422 15, pn 120941830363783 15, pp 0 0, pp 0 0, pn 570885366030966 16, pn 1241409603218 16, pn 123634 3, pp 1 0, pn 797947872366906 19, pp 0 0, pp 0 0, pp 0 0, pp 0 0, pp 0 0, pp 0 0, pp 0 0, pp 0 0, pp 0 0, pp 0 0, pp 0 0, pp 0 0, pp 0 0, pp 0 0, pp 0 0, pp 0 0, pp 0 0, pp 0 0, pp 0 0, pp 0 0, pp 0 0, pp 0 0, pp 0 0, pp 0 0, pp 0 0, pp 0 0, pp 0 0, pp 0 0, pp 0 0, pp 0 0, pp 0 0, pp 0 0, pp 0 0, pp 0 0, pp 0 0, pp 0 0, pp 0 0, pp 0 0, pp 0 0, pp 0 0, pp 0 0, pp 0 0, pp 0 0, pp 0 0, pp 0 0, pp 0 0, pp 0 0, pp 0 0, pp 0 0, pp 0 0, pp 0 0, pp 0 0, pp 0 0, pp 0 0, pp 0 0, pp 0 0, pp 0 0, pp 0 0, pp 0 0, pp 0 0, pp 0 0, pp 0 0, pp 0 0, pp 0 0, pp 0 0, pp 0 0, pp 0 0, pp 0 0, pp 0 0, pp 0 0, pp 0 0, pp 0 0, pp 0 0, pp 0 0, pp 0 0, pp 0 0, pp 0 0, pp 0 0, pp 0 0, pp 0 0, pp 0 0, pp 0 0, pp 0 0, pp 0 0, pp 0 0, pp 0 0, pp 0 0, pp 0 0, pp 0 0, pp 0 0, pp 0 0, pp 0 0, pp 0 0, pp 0 0, pp 0 0, pp 0 0, pp 0 0, pp 0 0, pp 0 0, pp 0 0, pp 0 0, pp 0 0, pp 0 0, pp 0 0, pp 0 0, pp 0 0, pp 0 0, pp 0 0, pp 0 0, pp 0 0, pp 0 0, pp 0 0, pp 0 0, pp 0 0, pp 0 0, pp 0 0, pp 0 0, pp 0 0, pp 0 0, pp 0 0, pp 0 0, pp 0 0, pp 0 0, pp 0 0, pn 796 3, pn 79660004 5, pn 74200005 6, pn 19998 4]⟩

def row141 : Row := ⟨"CZE", "Czechia", [pp 10698896 0, pn 255557541 4, pn 4296509091 6, pn 150012705 4, pn 114813154581696 13, pn 327868852459016 8, pp 16117 1, pp 22061 1, pp 743 2, pp 0 0, pp 1778551 0, pp 134004 1, pp 35701 1, pp 81 4, pp 19 4, pp 3 4, pp 177 4, pp 1 5, pp 27 4, pn 9344406225047216 9, pn 7969955633230638 10, pn 1293730758881507 9, np 1 0, np 1 0, np 1 0, np 1 0, nn 9971725767387596 16, nn 9598763076943594 16, nn 6583892510426983 16, nn 4243885620623102 16, nn 483917137803937 15, nn 4452103258696081 16, nn 3306161805167359 16, nn 999887855449173 15, nn 996899938535703 15, nn 9832697984483052 16, nn 8766442896423069 16, nn 910382171350656 15, nn 93934730010559 14, nn 952843532590806 15, nn 9164915298825568 16, nn 929731719193405 15, pn 2133956386 10, pn 3949710725 11, pn 3949710725 11, pn 3949710725 11, pp 0 0, pp 0 0, pn 3660436137 11, pn 3660436137 11, pn 3660436137 11, pn 2105028927 10, pn 1738985314 10, pn 1738985314 10, pn 328357830646906 8, pn 285892611126443 8, pn 243427391605977 8, pn 20096217208551296 10, pn 158496952565048 8, pn 116031733044584 8, pn 159376589479179 8, pn 201791664956002 8, pn 24606630234837 7, pn 330996741389298 8, pn 330117104475169 8, pn 329237467561037 8, pn 451000913432071 16, pn 11014039445705 16, pn 37776501041637 16, pn 297483136625652 16, pn 17464103009754 16, pn 630379991046356 15, pn 224423187387511 15, pn 122656833896194 15, pp 59 4, pn 38944372004245 16, pn 689347230063882 15, pn 14990089469331 16, pn 2531821 3, pp 1 0, pn 16340660175711 16, pp 0 0, pp 0 0, pp 0 0, pp 0 0, pp 0 0, pp 0 0, pp 0 0, pp 0 0, pp 0 0, pp 0 0, pp 0 0, pp 0 0, pp 0 0, pp 0 0, pp 0 0, pp 0 0, pp 0 0, pp 0 0, pp 0 0, pp 0 0, pp 0 0, pp 0 0, pp 0 0, pp 0 0, pp 0 0, pp 0 0, pp 0 0, pp 0 0, pp 0 0, pp 0 0, pp 0 0, pp 0 0, pp 0 0, pp 0 0, pp 0 0, pp 0 0, pp 0 0, pp 0 0, pp 0 0, pp 0 0, pp 0 0, pp 0 0, pp 0 0, pp 0 0, pp 0 0, pp 0 0, pp 0 0, pp 0 0, pp 0 0, pp 0 0, pp 0 0, pp 0 0, pp 0 0, pp 0 0, pp 0 0, pp 0 0, pp 0 0, pp 0 0, pp 0 0, pp 0 0, pp 0 0, pp 0 0, pp 0 0, pp 0 0, pp 0 0, pp 0 0, pp 0 0, pp 0 0, pp 0 0, pp 0 0, pp 0 0, pp 0 0, pp 0 0, pp 0 0, pp 0 0, pp 0 0, pp 0 0, pp 0 0, pp 0 0, pp 0 0, pp 0 0, pp 0 0, pp 0 0, pp 0 0, pp 0 0, pp 0 0, pp 0 0, pp 0 0, pp 0 0, pp 0 0, pp 0 0, pp 0 0, pp 0 0, pp 0 0, pp 0 0, pp 0 0, pp 0 0, pp 0 0, pp 0 0, pp 0 0, pp 0 0, pp 0 0, pp 0 0, pp 0 0, pp 0 0, pp 0 0, pp 0 0, pp 0 0, pp 0 0, pp 0 0, pp 0 0, pp 0 0, pp 0 0, pp 0 0, pp 0 0, pp 0 0, pp 0 0, pp 0 0, pp 0 0, pp 0 0, pp 0 0, pp 0 0, pp 0 0, pp 0 0, pn 796 3, pn 66891 1, pn 925 1, pn 13478 4]⟩

def row142 : Row := ⟨"DNK", "Denmark", [pp 5831404 0, pn 3612587955 5, pn 5704676551 6, pn 2110968704 5, pn 20565244200684702 15, pn 59016393442623 7, pp 1651 2, pp 159563 1, pp 12243 1, pp 0 0, pp 13391 3, pp 15 5, pp 565 3, pp 156 4, pp 5 5, pp 2 4, pp 617 4, pp 21 4, pp 94 4, pn 9642779047593474 9, pn 4764217965267196 10, pn 13103745727723902 10, nn 10000000000000002 16, nn 10000000000000002 16, nn 10000000000000002 16, nn 10000000000000002 16, nn 10000000000000002 16, nn 10000000000000002 16, nn 963829553816068 15, nn 2819526775504355 16, nn 4879648071103403 16, nn 9129375665478372 16, nn 201992046828123 15, nn 993885465458412 15, nn 99916083752788 14, nn 969849144719092 15, nn 9624966090188012 16, nn 996749365659619 15, nn 9714779365685908 16, nn 98244443447567 14, nn 978311854009426 15, nn 953559415304717 15, pn 7978254932 11, pp 0 0, pp 0 0, pp 0 0, pp 0 0, pp 0 0, pn 1683928576 10, pn 1683928576 10, pn 1702174507 10, pn 25 2, pn 8160714242 11, pn 8160714242 11, pn 178970537433553 8, pn 155824985689475 8, pn 132679433945396 8, pn 109533882201318 8, pn 86388330457239 8, pn 632427787131605 9, pn 868677741512062 9, pn 10998599502145702 10, pn 134117765027298 8, pn 180408868515454 8, pn 179929424821488 8, pn 17944998112752 7, pn 478350830181639 16, pp 0 0, pp 0 0, pp 0 0, pn 17464103009754 16, pn 714953137529982 15, pn 254532288835578 15, pn 139112740694729 15, pp 0 0, pp 0 0, pn 931311888514093 15, pn 20251693085622 16, pn 2419278 3, pp 1 0, pn 15614294876523 16, pp 0 0, pp 0 0, pp 0 0, pp 0 0, pp 0 0, pp 0 0, pp 0 0, pp 0 0, pp 0 0, pp 0 0, pp 0 0, pp 0 0, pp 0 0, pp 0 0, pp 0 0, pp 0 0, pp 0 0, pp 0 0, pp 0 0, pp 0 0, pp 0 0, pp 0 0, pp 0 0, pp 0 0, pp 0 0, pp 0 0, pp 0 0, pp 0 0, pp 0 0, pp 0 0, pp 0 0, pp 0 0, pp 0 0, pp 0 0, pp 0 0, pp 0 0, pp 0 0, pp 0 0, pp 0 0, pp 0 0, pp 0 0, pp 0 0, pp 0 0, pp 0 0, pp 0 0, pp 0 0, pp 0 0, pp 0 0, pp 0 0, pp 0 0, pp 0 0, pp 0 0, pp 0 0, pp 0 0, pp 0 0, pp 0 0, pp 0 0, pp 0 0, pp 0 0, pp 0 0, pp 0 0, pp 0 0, pp 0 0, pp 0 0, pp 0 0, pp 0 0, pp 0 0, pp 0 0, pp 0 0, pp 0 0, pp 0 0, pp 0 0, pp 0 0, pp 0 0, pp 0 0, pp 0 0, pp 0 0, pp 0 0, pp 0 0, pp 0 0, pp 0 0, pp 0 0, pp 0 0, pp 0 0, pp 0 0, pp 0 0, pp 0 0, pp 0 0, pp 0 0, pp 0 0, pp 0 0, pp 0 0, pp 0 0, pp 0 0, pp 0 0, pp 0 0, pp 0 0, pp 0 0, pp 0 0, pp 0 0, pp 0 0, pp 0 0, pp 0 0, pp 0 0, pp 0 0, pp 0 0, pp 0 0, pp 0 0, pp 0 0, pp 0 0, pp 0 0, pp 0 0, pp 0 0, pp 0 0, pp 0 0, pp 0 0, pp 0 0, pp 0 0, pp 0 0, pp 0 0, pp 0 0, pp 0 0, pp 0 0, pp 0 0, pn 796 3, pn 10096601 3, pp 93 0, pn 15956 4]⟩

def row143 : Row := ⟨"EST", "Estonia", [pp 1331057 0, pn 373536772 5, pn 6208969460000001 13, pn 2167550715 6, pn 184917073195332 14, pn 6557377049180331 10, pp 22258 0, pp 4504 1, pp 958 1, pp 2055 3, pp 3166 2, pp 2533 2, pp 843 2, pp 6 4, pp 2 4, pp 0 0, pp 16 4, pp 1 4, pp 5 4, pn 17484363763445397 10, pn 1353369513154724 10, pn 26169106155709384 11, np 1 0, np 1 0, np 1 0, np 1 0, np 1 0, np 1 0, np 1 0, nn 8834586652570198 16, nn 619915083178112 15, nn 3168927551111429 16, nn 6951211775527589 16, nn 934520053740611 15, np 1 0, np 1 0, np 1 0, np 1 0, nn 8709676939932269 16, nn 999907973135895 15, nn 959955332879022 15, nn 9845362316741628 16, pn 891188251 10, pn 3949710725 11, pn 3949710725 11, pn 3949710725 11, pp 0 0, pp 0 0, pn 1163773921 10, pn 1163773921 10, pn 1608811749 10, pn 2105028927 10, pn 9412550067 11, pn 9412550067 11, pn 408512232465274 9, pn 35568096118340595 11, pn 302849689901535 9, pn 250018418619665 9, pn 197187147337796 9, pn 144355876055926 9, pn 198281509664537 9, pn 251050396397293 9, pn 306132776881759 9, pn 411795319445497 9, pn 410700957118758 9, pn 409606594792016 9, pn 175258788562058 16, pp 0 0, pn 589451913133402 16, pp 0 0, pn 17464103009754 16, pn 604799077419668 15, pn 215316061124102 15, pn 117679401366311 15, pp 75 3, pn 4950555763251 16, pn 107497840446891 15, pn 2337577023279 16, pp 697 0, pp 1 0, pn 4498517131531 16, pp 0 0, pp 0 0, pp 0 0, pp 0 0, pp 0 0, pp 0 0, pp 0 0, pp 0 0, pp 0 0, pp 0 0, pp 0 0, pp 0 0, pp 0 0, pp 0 0, pp 0 0, pp 0 0, pp 0 0, pp 0 0, pp 0 0, pp 0 0, pp 0 0, pp 0 0, pp 0 0, pp 0 0, pp 0 0, pp 0 0, pp 0 0, pp 0 0, pp 0 0, pp 0 0, pp 0 0, pp 0 0, pp 0 0, pp 0 0, pp 0 0, pp 0 0, pp 0 0, pp 0 0, pp 0 0, pp 0 0, pp 0 0, pp 0 0, pp 0 0, pp 0 0, pp 0 0, pp 0 0, pp 0 0, pp 0 0, pp 0 0, pp 0 0, pp 0 0, pp 0 0, pp 0 0, pp 0 0, pp 0 0, pp 0 0, pp 0 0, pp 0 0, pp 0 0, pp 0 0, pp 0 0, pp 0 0, pp 0 0, pp 0 0, pp 0 0, pp 0 0, pp 0 0, pp 0 0, pp 0 0, pp 0 0, pp 0 0, pp 0 0, pp 0 0, pp 0 0, pp 0 0, pp 0 0, pp 0 0, pp 0 0, pp 0 0, pp 0 0, pp 0 0, pp 0 0, pp 0 0, pp 0 0, pp 0 0, pp 0 0, pp 0 0, pp 0 0, pp 0 0, pp 0 0, pp 0 0, pp 0 0, pp 0 0, pp 0 0, pp 0 0, pp 0 0, pp 0 0, pp 0 0, pp 0 0, pp 0 0, pp 0 0, pp 0 0, pp 0 0, pp 0 0, pp 0 0, pp 0 0, pp 0 0, pp 0 0, pp 0 0, pp 0 0, pp 0 0, pp 0 0, pp 0 0, pp 0 0, pp 0 0, pp 0 0, pp 0 0, pp 0 0, pp 0 0, pp 0 0, pp 0 0, pp 0 0, pp 0 0, pp 0 0, pn 796 3, pp 8944 0, pn 805 1, pn 169 2]⟩

def row144 : Row := ⟨"FIN", "Finland", [pp 5530719 0, pn 5042026097 5, pn 8037312156000001 12, pn 3037619022 5, pn 9103295265395433 15, pn 262295081967213 8, pp 13689 1, pp 17507 1, pp 8711 1, pp 8775 3, pp 12501 2, pp 83538 1, pp 25562 1, pp 11 5, pp 43 4, pp 1 4, pp 178 4, pp 9 4, pp 27 4, pn 3308226036968014 9, pn 15040791444154867 11, pn 4447617406225561 10, np 1 0, np 1 0, np 1 0, np 1 0, np 1 0, np 1 0, np 1 0, np 1 0, nn 9413794154520884 16, nn 4609391040659945 16, nn 999890428827515 15, nn 981096427081301 15, nn 999976798200784 15, nn 997537477808401 15, nn 999978450086434 15, nn 999978876801809 15, nn 991662037894714 15, nn 999131685574699 15, nn 977282655733395 15, nn 760886576705659 15, pn 7978254932 11, pp 0 0, pp 0 0, pp 0 0, pp 0 0, pp 0 0, pn 1683928576 10, pn 1683928576 10, pn 1702174507 10, pn 25 2, pn 8160714242 11, pn 8160714242 11, pn 16974226992744198 10, pn 14779017352039202 10, pn 125838077113341 8, pn 103885980706291 8, pn 819338842992409 9, pn 5998178789219069 10, pn 8238860641207249 10, pn 104314781208621 8, pn 12720224345183598 10, pn 171106436265936 8, pn 170651714153105 8, pn 170196992040273 8, pn 492352116507292 16, pp 0 0, pp 0 0, pp 0 0, pn 17464103009754 16, pn 675678924194509 15, pn 240550176040002 15, pn 13147092031668 14, pp 832 4, pn 549181652670037 16, pn 724633742754538 15, pn 15757406663373 16, pp 225 1, pp 1 0, pn 14521755446119 16, pp 0 0, pp 0 0, pp 0 0, pp 0 0, pp 0 0, pp 0 0, pp 0 0, pp 0 0, pp 0 0, pp 0 0, pp 0 0, pp 0 0, pp 0 0, pp 0 0, pp 0 0, pp 0 0, pp 0 0, pp 0 0, pp 0 0, pp 0 0, pp 0 0, pp 0 0, pp 0 0, pp 0 0, pp 0 0, pp 0 0, pp 0 0, pp 0 0, pp 0 0, pp 0 0, pp 0 0, pp 0 0, pp 0 0, pp 0 0, pp 0 0, pp 0 0, pp 0 0, pp 0 0, pp 0 0, pp 0 0, pp 0 0, pp 0 0, pp 0 0, pp 0 0, pp 0 0, pp 0 0, pp 0 0, pp 0 0, pp 0 0, pp 0 0, pp 0 0, pp 0 0, pp 0 0, pp 0 0, pp 0 0, pp 0 0, pp 0 0, pp 0 0, pp 0 0, pp 0 0, pp 0 0, pp 0 0, pp 0 0, pp 0 0, pp 0 0, pp 0 0, pp 0 0, pp 0 0, pp 0 0, pp 0 0, pp 0 0, pp 0 0, pp 0 0, pp 0 0, pp 0 0, pp 0 0, pp 0 0, pp 0 0, pp 0 0, pp 0 0, pp 0 0, pp 0 0, pp 0 0, pp 0 0, pp 0 0, pp 0 0, pp 0 0, pp 0 0, pp 0 0, pp 0 0, pp 0 0, pp 0 0, pp 0 0, pp 0 0, pp 0 0, pp 0 0, pp 0 0, pp 0 0, pp 0 0, pp 0 0, pp 0 0, pp 0 0, pp 0 0, pp 0 0, pp 0 0, pp 0 0, pp 0 0, pp 0 0, pp 0 0, pp 0 0, pp 0 0, pp 0 0, pp 0 0, pp 0 0, pp 0 0, pp 0 0, pp 0 0, pp 0 0, pp 0 0, pp 0 0, pp 0 0, pp 0 0, pp 0 0, pp 0 0, pn 796 3, pn 94144 1, pn 913 1, pn 17121999 7]⟩

def row145 : Row := ⟨"FRA", "France", [pp 67391582 0, pn 3777263002 4, pn 61506439320000005 12, pn 2160578436 4, pn 158940826288182 12, pn 255737704918033 7, pp 113 4, pp 220111 1, pp 143459 1, pp 282659 3, pp 2247056 1, pp 1778925 1, pp 345498 1, pp 94 5, pp 222 4, pp 27 4, pp 1737 4, pp 68 4, pp 283 4, pn 6223868611732353 8, pn 3659059686988392 9, pn 8157471016632535 9, nn 9992711698271728 16, nn 9956338987180046 16, nn 9956338987180046 16, nn 9787785153879982 16, nn 9043087713531665 16, nn 7084928025006704 16, nn 5087953367007076 16, nn 4224935322614962 16, nn 5632803215754838 16, nn 4589519466244766 16, nn 459802976032426 16, nn 925753544074396 15, nn 872971194629752 15, nn 9791054712004268 16, nn 9707255704103008 16, nn 988261602084726 15, nn 989387177904515 15, nn 913364663915224 15, nn 9459386698747032 16, nn 945872554286938 15, pn 7978254932 11, pp 0 0, pp 0 0, pp 0 0, pp 0 0, pp 0 0, pn 1683928576 10, pn 1683928576 10, pn 1702174507 10, pn 25 2, pn 8160714242 11, pn 8160714242 11, pn 206830253040903 7, pn 180081714467752 7, pn 1533331758946 5, pn 126584637321448 7, pn 998360987482966 8, pn 73087560175145 7, pn 100390175759877 7, pn 127107128957969 7, pn 154995406929341 7, pn 208492484075644 7, pn 207938407064064 7, pn 207384330052484 7, pn 398900707775615 16, pn 1452714154278 16, pp 0 0, pn 2401208698311 15, pn 17464103009754 16, pn 664890213080125 15, pn 236709259496833 15, pn 129371695776075 15, pp 1615 3, pn 106601967435349 16, pn 698168858236546 14, pn 151819187678416 16, pn 19075436 3, pp 1 0, pn 123115029608935 16, pp 0 0, pp 0 0, pp 0 0, pp 0 0, pp 0 0, pp 0 0, pp 0 0, pp 0 0, pp 0 0, pp 0 0, pp 0 0, pp 0 0, pp 0 0, pp 0 0, pp 0 0, pp 0 0, pp 0 0, pp 0 0, pp 0 0, pp 0 0, pp 0 0, pp 0 0, pp 0 0, pp 0 0, pp 0 0, pp 0 0, pp 0 0, pp 0 0, pp 0 0, pp 0 0, pp 0 0, pp 0 0, pp 0 0, pp 0 0, pp 0 0, pp 0 0, pp 0 0, pp 0 0, pp 0 0, pp 0 0, pp 0 0, pp 0 0, pp 0 0, pp 0 0, pp 0 0, pp 0 0, pp 0 0, pp 0 0, pp 0 0, pp 0 0, pp 0 0, pp 0 0, pp 0 0, pp 0 0, pp 0 0, pp 0 0, pp 0 0, pp 0 0, pp 0 0, pp 0 0, pp 0 0, pp 0 0, pp 0 0, pp 0 0, pp 0 0, pp 0 0, pp 0 0, pp 0 0, pp 0 0, pp 0 0, pp 0 0, pp 0 0, pp 0 0, pp 0 0, pp 0 0, pp 0 0, pp 0 0, pp 0 0, pp 0 0, pp 0 0, pp 0 0, pp 0 0, pp 0 0, pp 0 0, pp 0 0, pp 0 0, pp 0 0, pp 0 0, pp 0 0, pp 0 0, pp 0 0, pp 0 0, pp 0 0, pp 0 0, pp 0 0, pp 0 0, pp 0 0, pp 0 0, pp 0 0, pp 0 0, pp 0 0, pp 0 0, pp 0 0, pp 0 0, pp 0 0, pp 0 0, pp 0 0, pp 0 0, pp 0 0, pp 0 0, pp 0 0, pp 0 0, pp 0 0, pp 0 0, pp 0 0, pp 0 0, pp 0 0, pp 0 0, pp 0 0, pp 0 0, pp 0 0, pp 0 0, pp 0 0, pp 0 0, pn 796 3, pp 4265 0, pn 945 1, pn 15008999 7]⟩

def row146 : Row := ⟨"DEU", "Germany", [pp 83240525 0, pn 1857746124 4, pn 30372812240000003 12, pn 1097795113 4, pn 14996565245550502 14, pn 327868852459016 7, pp 1066 3, pp 5118 3, pp 1091 3, pp 0 0, pp 277146 2, pp 1131256 1, pp 392141 1, pp 1049 4, pp 363 4, pp 6 4, pp 2239 4, pp 181 4, pp 356 4, pn 48698494930455 6, pn 27311234732330013 10, pn 6463161494985214 9, np 1 0, np 1 0, np 1 0, np 1 0, np 1 0, nn 9980873694689424 16, nn 7238469119994342 16, nn 5425379665819466 16, nn 60983520790256 14, nn 4985181947175178 16, nn 2512184603740029 16, nn 9964829740930712 16, nn 964748485560293 15, nn 9852455970727628 16, nn 91034399788594 14, nn 938632468365581 15, nn 9177615437817508 16, nn 967756007881199 15, nn 924924457090722 15, nn 9255663135900092 16, pn 7978254932 11, pp 0 0, pp 0 0, pp 0 0, pp 0 0, pp 0 0, pn 1683928576 10, pn 1683928576 10, pn 1702174507 10, pn 25 2, pn 8160714242 11, pn 8160714242 11, pn 255471949731164 7, pn 222432772912139 7, pn 189393596093112 7, pn 156354419274086 7, pn 12331524245506 6, pn 902760656360339 8, pn 123999625577783 7, pn 156999788871316 7, pn 19144674546128 6, pn 257525099099332 7, pn 25684071597661 6, pn 256156332853887 7, pn 35463073206256 15, pn 132731616671 15, pn 7092701610043 16, pn 12567546160209 16, pn 17464103009754 16, pn 695843806723006 15, pn 247729127267227 15, pn 135394523035619 15, pp 1571075 0, pn 103702591943338 16, pn 928791423321904 14, pn 201968847146197 16, pp 11913 0, pp 1 0, pn 76887854502054 16, pp 0 0, pp 0 0, pp 0 0, pp 0 0, pp 0 0, pp 0 0, pp 0 0, pp 0 0, pp 0 0, pp 0 0, pp 0 0, pp 0 0, pp 0 0, pp 0 0, pp 0 0, pp 0 0, pp 0 0, pp 0 0, pp 0 0, pp 0 0, pp 0 0, pp 0 0, pp 0 0, pp 0 0, pp 0 0, pp 0 0, pp 0 0, pp 0 0, pp 0 0, pp 0 0, pp 0 0, pp 0 0, pp 0 0, pp 0 0, pp 0 0, pp 0 0, pp 0 0, pp 0 0, pp 0 0, pp 0 0, pp 0 0, pp 0 0, pp 0 0, pp 0 0, pp 0 0, pp 0 0, pp 0 0, pp 0 0, pp 0 0, pp 0 0, pp 0 0, pp 0 0, pp 0 0, pp 0 0, pp 0 0, pp 0 0, pp 0 0, pp 0 0, pp 0 0, pp 0 0, pp 0 0, pp 0 0, pp 0 0, pp 0 0, pp 0 0, pp 0 0, pp 0 0, pp 0 0, pp 0 0, pp 0 0, pp 0 0, pp 0 0, pp 0 0, pp 0 0, pp 0 0, pp 0 0, pp 0 0, pp 0 0, pp 0 0, pp 0 0, pp 0 0, pp 0 0, pp 0 0, pp 0 0, pp 0 0, pp 0 0, pp 0 0, pp 0 0, pp 0 0, pp 0 0, pp 0 0, pp 0 0, pp 0 0, pp 0 0, pp 0 0, pp 0 0, pp 0 0, pp 0 0, pp 0 0, pp 0 0, pp 0 0, pp 0 0, pp 0 0, pp 0 0, pp 0 0, pp 0 0, pp 0 0, pp 0 0, pp 0 0, pp 0 0, pp 0 0, pp 0 0, pp 0 0, pp 0 0, pp 0 0, pp 0 0, pp 0 0, pp 0 0, pp 0 0, pp 0 0, pp 0 0, pp 0 0, pp 0 0, pp 0 0, pn 796 3, pp 7698 0, pn 958 1, pn 17256999 7]⟩

end Allfed.Gen.CountryTable
