-- GENERATED on every check run by harness/translators/tr_country.py (run): rows 84..104 of the combined country table
-- REGENERATED in the scratch copy by re-running the import scripts of scripts/run_all_imports.sh.  Do not edit.
import AllfedModel.Model.CountryTable
namespace Allfed.Gen.CountryTable
open Allfed.CountryTable


def row84 : Row := ⟨"MOZ", "Mozambique", [pp 31255435 0, pp 5464 1, pp 775 1, pp 3686 1, pn 230315396625327 14, pp 558 3, pp 115027 0, pp 91708 0, pp 16184 0, pp 46462 3, pp 5345464 0, pp 265228 1, pp 421296 0, pp 31 4, pp 14 4, pp 0 0, pp 41 4, pp 4 4, pp 8 4, pn 4965734595727327 9, pn 2974057371155801 10, pn 5016545968223203 10, pn 225870841974444 16, nn 6569053733948284 16, nn 8234420936971212 16, nn 8543263262277637 16, nn 8101936243768268 16, nn 6719933364925571 16, nn 5265201956994142 16, nn 4116803529130928 16, nn 2253259263066936 16, nn 483248904352334 16, nn 156684893866287 15, nn 391690329721637 15, nn 552571814168166 15, nn 643905818080173 15, nn 682555220772644 15, nn 6668832930444439 16, nn 618259006440746 15, nn 551382478677153 15, nn 408788394921172 15, nn 332184901357623 15, pp 0 0, pp 0 0, pp 0 0, pp 0 0, pn 2480161277 10, pn 2480161277 10, pn 25 2, pn 25 2, pn 198387226 11, pn 198387226 11, pp 0 0, pp 0 0, pn 891205875 3, pp 730551 0, pn 569896125 3, pn 40924125 2, pn 726726375 3, pn 10442115 1, pn 136552125 2, pp 1686831 0, pn 153000075 2, pn 13731705 1, pn 1212515625 3, pn 105186075 2, pn 491333083925677 16, pp 0 0, pp 0 0, pn 693040716142073 16, pn 17464103009754 16, pp 0 0, pp 0 0, pp 0 0, pp 0 0, pp 0 0, pn 115678719061546 15, pn 2515473005192 16, pp 595 1, pp 1 0, pn 38401975513071 16, pn 199944209899 14, pn 199944209899 14, pn 199944209899 14, pn 199944209899 14, pn 175435425176481 14, pn 174687909534561 14, pn 132526710333623 14, pn 10894157867869 13, pn 128551540746042 14, pn 307586679183569 14, pn 411949723149241 14, pn 413001697107147 14, pn 373151259279135 14, pn 364494469935826 14, pn 367627345316203 14, pn 339438837233562 14, pn 296932453030631 14, pn 317154040234602 14, pn 351852666556997 14, pn 393109760974266 14, pn 452235855792299 14, pn 461793755125513 14, pn 441603255458607 14, pn 439978921580841 14, pn 438220531963644 14, pn 411845183381513 14, pn 395832540327996 14, pn 354770612592589 14, pn 341803660501108 14, pn 321197570317955 14, pn 316748399344889 14, pn 319474156198058 14, pn 346213013606221 14, pn 367188893855819 14, pn 349188069322977 14, pn 327363154790049 14, pn 308501789801726 14, pn 308379775952604 14, pn 287518849303107 14, pn 290088447251308 14, pn 269181648948018 14, pn 26680129851077 13, pn 259031644491008 14, pn 256088426967214 14, pn 269627574299937 14, pn 289092995161537 14, pn 280097323272331 14, pn 269837585523674 14, pn 249126191151516 14, pn 229206925463001 14, pn 23079073150992 13, pn 248857075959849 14, pn 255334859813408 14, pn 254146098040422 14, pn 232682190444455 14, pn 200538842205611 14, pn 20412851903952 13, pn 217108941741431 14, pn 221572766356145 14, pn 219718973936091 14, pn 192358462437988 14, pn 177795081819962 14, pn 196707082953172 14, pn 235094953689013 14, pn 248289211470693 14, pn 244611467822232 14, pn 203589403144879 14, pn 171552813720964 14, pn 171573129831579 14, pn 195742945535128 14, pn 211076216813198 14, pn 209764242946365 14, pn 193525287729021 14, pn 174835234696924 14, pn 184200138375307 14, pn 198728599785949 14, pn 242239712924235 14, pn 237794656833356 14, pn 192975688145191 14, pn 145044931027268 14, pn 144724928633821 14, pn 178901634680745 14, pn 225286382340578 14, pn 224369136180392 14, pn 195833706936713 14, pn 177174200828644 14, pn 183793335843467 14, pn 216031001800275 14, pn 243040512459709 14, pn 217367424274253 14, pn 16820003650444 13, pn 136242151907685 14, pn 137244104560406 14, pn 189544875656872 14, pn 239949654610283 14, pn 234797576473278 14, pn 21157738842697 13, pn 200284549480744 14, pn 205274380434133 14, pn 22941331015885 13, pn 249820951924197 14, pn 220583839959753 14, pn 184653273756604 14, pn 184625357144848 14, pn 175677871255755 14, pn 220391522300563 14, pn 269163164429181 14, pn 264123847045561 14, pn 246766054662045 14, pn 224144413592101 14, pn 236570465099245 14, pn 256996014850562 14, pn 279789150975588 14, pn 265288714690626 14, pn 205539887033517 14, pn 179700223612738 14, pn 178257449823275 14, pn 230092271225776 14, pn 307609931233833 14, pn 349287166624032 14, pn 311141515628867 14, pn 259955677117142 14, pn 247591379120906 14, pn 272667468091998 14, pn 796 3, pn 23527 1, pp 1 2, pp 3 0]⟩

def row85 : Row := ⟨"NAM", "Namibia", [pp 2540916 0, pp 9848 1, pp 1782 1, pp 5512 1, pn 30739062939543 13, pp 113 3, pp 11121 0, pp 683 1, pp 31952 0, pp 4381 3, pp 3308172 0, pp 3147922 0, pp 249726 0, pp 1 4, pp 0 0, pp 0 0, pp 9 4, pp 0 0, pp 1 4, pn 2681194787017672 10, pn 7698130710425215 12, pn 2931754939265089 11, nn 2265700322888604 16, nn 7105319209622301 16, nn 9885961995361366 16, nn 9906007319960848 16, nn 9778015045230368 16, nn 8736924111591133 16, nn 7787682280748947 16, nn 5924044982539892 16, nn 3956960238585216 16, nn 4696610413380566 16, nn 15968107851092 14, nn 689410891113222 15, nn 806215861791114 15, nn 829507193648337 15, nn 8764329877405901 16, nn 8399270009980591 16, nn 818079906407289 15, nn 633320439682254 15, nn 3804613425284829 16, nn 251635116583181 15, pp 0 0, pp 0 0, pp 0 0, pp 0 0, pn 2207760896 10, pn 2207760896 10, pn 25 2, pn 25 2, pn 292239104 10, pn 292239104 10, pp 0 0, pp 0 0, pn 426185 1, pn 376931666666667 10, pn 32767833333333303 12, pn 278425 1, pn 359659166666667 10, pn 440893333333333 10, pp 5394 1, pn 637906666666667 10, pn 605925833333333 10, pn 573945 1, pn 524691666666667 10, pn 475438333333333 10, pn 907131862493586 16, pp 0 0, pp 0 0, pn 637376237623762 16, pn 17464103009754 16, pn 224388690913953 15, pn 93378745442907 15, pn 532920221146932 16, pp 0 0, pp 0 0, pn 658311697666621 16, pn 1431521128447 16, pp 81 1, pp 1 0, pn 5227831960603 16, pn 12725194249442 16, pn 12725194249442 16, pn 12725194249442 16, pn 12725194249442 16, pn 104462928928399 13, pn 107353565103232 13, pn 103932608079095 13, pn 100638214829153 13, pn 982932004629659 14, pn 114634503153017 13, pn 120526954443097 13, pn 117953723063019 13, pn 112609105076942 13, pn 108188162608913 13, pn 108923969502021 13, pn 106651249690074 13, pn 101094295235941 13, pn 106044455826692 13, pn 109671213470669 13, pn 112207097480749 13, pn 117010408027705 13, pn 112696083941088 13, pn 109466330865936 13, pn 108948534875927 13, pn 111131410401486 13, pn 105757769033842 13, pn 101486538753365 13, pn 926620088269116 14, pn 950795107489292 14, pn 944841786603207 14, pn 916579621268551 14, pn 939518053875552 14, pn 930831360797472 14, pn 951656216000671 14, pn 878261004294571 14, pn 842637110619779 14, pn 834535387647427 14, pn 811469814842215 14, pn 777873547403519 14, pn 799740831814672 14, pn 768162271492863 14, pn 775535678940707 14, pn 78456136695809 13, pn 788234241479958 14, pn 790781078607326 14, pn 796992828403785 14, pn 782723808395923 14, pn 73534558997615 13, pn 717735916257441 14, pn 709751757661668 14, pn 706669404843699 14, pn 707586049124551 14, pn 738572226635145 14, pn 752309127446057 14, pn 720838496609505 14, pn 655027553428903 14, pn 655448253473075 14, pn 645888118921901 14, pn 648965517527458 14, pn 64968067065901 13, pn 619850339649028 14, pn 604824136772273 14, pn 620631693653891 14, pn 689453906291949 14, pn 70713105533393 13, pn 724203367529441 14, pn 674423792822874 14, pn 605796302054787 14, pn 572105131885089 14, pn 610616217783801 14, pn 63466366735931 13, pn 617758778533267 14, pn 576987213429858 14, pn 560349207201704 14, pn 570229446048452 14, pn 618772250294256 14, pn 693159124987793 14, pn 674423743185867 14, pn 600210654335467 14, pn 512814169916847 14, pn 502593930465891 14, pn 534594022484031 14, pn 616879271037409 14, pn 639560287210772 14, pn 61202969661372 13, pn 582416971345373 14, pn 581482119544764 14, pn 649798348780194 14, pn 70734729062574 13, pn 671505722565057 14, pn 615883871482525 14, pn 559425102865466 14, pn 580431582857677 14, pn 666395616128984 14, pn 740532622296824 14, pn 762025318598269 14, pn 740149605611624 14, pn 731408057637338 14, pn 751655107975059 14, pn 813141637822371 14, pn 842689570286338 14, pn 808231205312287 14, pn 772271234389035 14, pn 766848468409568 14, pn 763426272878731 14, pn 828948314457289 14, pn 887088450069435 14, pn 908617933429853 14, pn 8982552869375 12, pn 898784203220411 14, pn 914822261669797 14, pn 969679902785242 14, pn 104383691960851 13, pn 104894561200081 13, pn 983465839803647 14, pn 925178884892611 14, pn 889368814313954 14, pn 930558460937762 14, pn 102161333252708 13, pn 106828489858603 13, pn 104031667734145 13, pn 100547590738195 13, pn 101101242926437 13, pn 108567151114467 13, pn 796 3, pn 44830002 5, pn 59600002 6, pn 801 3]⟩

def row86 : Row := ⟨"NPL", "Nepal", [pp 29136808 0, pp 1332 1, pp 193 1, pp 841 1, pn 234365664453067 14, pp 2319 3, pp 65 3, pp 29493 0, pp 502 2, pp 83026 3, pp 15137625 0, pp 12716476 0, pp 1166156 0, pp 11 5, pp 16 4, pp 7 4, pp 193 4, pp 9 4, pp 22 4, pn 1196600127743069 8, pn 3573561119146857 10, pn 12807874203251265 10, nn 7943702730688187 16, nn 987873361695422 15, nn 9698758720262712 16, nn 9308330749950476 16, nn 8905588136834308 16, nn 8428031553293149 16, nn 7161734688871441 16, nn 5054663886084911 16, nn 4004060696637828 16, nn 3293004105541595 16, nn 252006340450124 15, nn 999911681150842 15, nn 940815853476785 15, nn 937890716148064 15, nn 784113538649475 15, nn 718762359379122 15, nn 7809987212124789 16, nn 820768853456794 15, nn 776263617493358 15, nn 663740739262051 15, pn 1881031014 10, pp 0 0, pp 0 0, pp 0 0, pn 4799106843 12, pn 4799106843 12, pn 6189689861 11, pn 6189689861 11, pn 5709779176 11, pn 2452008932 10, pn 1881031014 10, pn 1881031014 10, pn 4322458458333329 9, pn 374943516666667 8, pn 3176411875 3, pn 26033885833333298 10, pn 206336529166667 8, pp 1523342 0, pn 137593908333333 8, pn 122853616666667 8, pn 104813325 2, pn 216117983333333 8, pn 288160604166667 8, pn 360203225 2, pn 856885528719302 16, pp 0 0, pp 0 0, pn 491624541579939 16, pn 17464103009754 16, pn 451244003149237 16, pn 165456622318963 16, pn 91112689693727 16, pp 0 0, pp 0 0, pn 180109583178953 15, pn 3916544012059 16, pp 2326 0, pp 1 0, pn 15012268074521 16, pp 0 0, pp 0 0, pp 0 0, pp 0 0, pp 0 0, pp 0 0, pp 0 0, pp 0 0, pp 0 0, pp 0 0, pp 0 0, pp 0 0, pp 0 0, pp 0 0, pp 0 0, pp 0 0, pp 0 0, pp 0 0, pp 0 0, pp 0 0, pp 0 0, pp 0 0, pp 0 0, pp 0 0, pp 0 0, pp 0 0, pp 0 0, pp 0 0, pp 0 0, pp 0 0, pp 0 0, pp 0 0, pp 0 0, pp 0 0, pp 0 0, pp 0 0, pp 0 0, pp 0 0, pp 0 0, pp 0 0, pp 0 0, pp 0 0, pp 0 0, pp 0 0, pp 0 0, pp 0 0, pp 0 0, pp 0 0, pp 0 0, pp 0 0, pp 0 0, pp 0 0, pp 0 0, pp 0 0, pp 0 0, pp 0 0, pp 0 0, pp 0 0, pp 0 0, pp 0 0, pp 0 0, pp 0 0, pp 0 0, pp 0 0, pp 0 0, pp 0 0, pp 0 0, pp 0 0, pp 0 0, pp 0 0, pp 0 0, pp 0 0, pp 0 0, pp 0 0, pp 0 0, pp 0 0, pp 0 0, pp 0 0, pp 0 0, pp 0 0, pp 0 0, pp 0 0, pp 0 0, pp 0 0, pp 0 0, pp 0 0, pp 0 0, pp 0 0, pp 0 0, pp 0 0, pp 0 0, pp 0 0, pp 0 0, pp 0 0, pp 0 0, pp 0 0, pp 0 0, pp 0 0, pp 0 0, pp 0 0, pp 0 0, pp 0 0, pp 0 0, pp 0 0, pp 0 0, pp 0 0, pp 0 0, pp 0 0, pp 0 0, pp 0 0, pp 0 0, pp 0 0, pp 0 0, pp 0 0, pp 0 0, pp 0 0, pp 0 0, pp 0 0, pp 0 0, pp 0 0, pp 0 0, pp 0 0, pp 0 0, pp 0 0, pn 796 3, pn 49430002 5, pp 39 0, pn 8318 4]⟩

def row87 : Row := ⟨"NZL", "New Zealand", [pp 50843 2, pp 8428 1, pp 1556 1, pp 4518 1, pn 854965442113063 13, pp 21786 3, pp 216586 0, pp 45375 0, pp 701294 0, pp 25194 3, pp 26359963 0, pp 10121435 0, pp 4836726 0, pp 64 4, pp 18 4, pp 4 4, pp 238 4, pp 38 4, pp 42 4, pn 1270232722193485 9, pn 4232419912221662 11, pn 15109703987856646 11, nn 4182213234140813 16, nn 7376756206996518 16, nn 7376756206996518 16, nn 7831239174173413 16, nn 7477552127044658 16, nn 6474844801858604 16, nn 503345938042379 15, nn 2478418423580129 16, nn 1575120300820097 16, nn 943354452353783 16, nn 55500706846545 15, nn 372871773951776 15, nn 642403034317474 15, nn 733974540051024 15, nn 798085734465989 15, nn 802580636999283 15, nn 80253476171505 14, nn 7322346719617551 16, nn 676543295436716 15, nn 559594361837192 15, pn 1514745281 10, pn 9631799105 11, pn 9631799105 11, pn 9631799105 11, pp 0 0, pp 0 0, pn 9852547189 11, pn 9852547189 11, pn 9852547189 11, pn 153682009 9, pn 5515653706 11, pn 5515653706 11, pn 5831842916666659 10, pn 594365458333333 9, pn 605546625 3, pn 616727791666666 9, pn 544968958333333 9, pn 473210125 3, pn 48629216666666704 11, pn 499374208333333 9, pn 51245625 2, pn 573033916666666 9, pn 548770708333333 9, pn 6074475 1, pn 176871274866476 16, pn 30816640986132 16, pp 0 0, pn 19945433234509 15, pn 17464103009754 16, pn 405408407571601 15, pn 195325712693804 15, pn 117128079407542 15, pp 677 3, pn 44687016689617 16, pn 530139606113697 15, pn 11528065654436 16, pp 62 1, pp 1 0, pn 4001550389597 16, pn 122508326826377 16, pn 122508326826377 16, pn 122508326826377 16, pn 122508326826377 16, pn 66495646260282 13, pn 681269467109626 14, pn 648400672952904 14, pn 620991386427431 14, pn 612140341749947 14, pn 756251537071373 14, pn 817919912082237 14, pn 803168999880036 14, pn 761812697721767 14, pn 734122477122485 14, pn 738535631459765 14, pn 715531143871471 14, pn 670931963004456 14, pn 705519393694735 14, pn 737219102092269 14, pn 764305997201003 14, pn 808876540434726 14, pn 785785635120962 14, pn 760603207914875 14, pn 757321277170108 14, pn 769593714564218 14, pn 731689042035034 14, pn 70219288898334 13, pn 638838117774061 14, pn 648837198064359 14, pn 639298068353737 14, pn 622246148936743 14, pn 636311538650697 14, pn 639192673120109 14, pn 655965822542857 14, pn 608438573394029 14, pn 581616038835365 14, pn 57209852355491 13, pn 55974142123589 13, pn 534295678087566 14, pn 547334922469405 14, pn 523141078322984 14, pn 526619582354749 14, pn 529528674712785 14, pn 530920943601239 14, pn 536256714053441 14, pn 544740136086209 14, pn 533485685034004 14, pn 503261519196737 14, pn 48786950519689 13, pn 478366947166491 14, pn 477207675618896 14, pn 483152748199544 14, pn 502706759501732 14, pn 510295812139466 14, pn 486198321437013 14, pn 439225944020404 14, pn 440467251942874 14, pn 437856327075933 14, pn 439795251101632 14, pn 439476962038926 14, pn 415351520156098 14, pn 40345327670336 13, pn 418527478536196 14, pn 469132407051754 14, pn 48341462915698 13, pn 492685553056939 14, pn 452588746589676 14, pn 403500480954194 14, pn 383526671360474 14, pn 411575573350344 14, pn 428838717183748 14, pn 418698049277531 14, pn 391480915460718 14, pn 377655633949954 14, pn 386643014069009 14, pn 418660177838376 14, pn 47437793872981 13, pn 463352438131422 14, pn 407709479328519 14, pn 343075134862249 14, pn 335994946882036 14, pn 363304631599988 14, pn 422979286388051 14, pn 435706071883208 14, pn 412341394930373 14, pn 39118241799079 13, pn 393231921412273 14, pn 441959945510171 14, pn 483619618279365 14, pn 456964963310636 14, pn 410749623050657 14, pn 367750996101154 14, pn 379050507989761 14, pn 442387209486592 14, pn 498713468589293 14, pn 509121817522313 14, pn 490965412320528 14, pn 483426458654363 14, pn 497329238129854 14, pn 540285978639724 14, pn 564967340111173 14, pn 537913672068561 14, pn 50636592814988 13, pn 50196186049717 13, pn 495889428214088 14, pn 545493528661729 14, pn 592137154254965 14, pn 602065928077709 14, pn 59173991831057 13, pn 586198317528536 14, pn 600232193226387 14, pn 639950865263499 14, pn 690978579476314 14, pn 690498908600967 14, pn 635287289001845 14, pn 592102633396077 14, pn 569942307185183 14, pn 606967756976376 14, pn 68063239586056 13, pn 718827628796439 14, pn 691860623494557 14, pn 658090272158932 14, pn 659423889460844 14, pn 711234131711375 14, pn 796 3, pn 45553003 4, pn 709 1, pn 19051 4]⟩

def row88 : Row := ⟨"NIC", "Nicaragua", [pp 6624554 0, pp 1083 1, pp 117 1, pp 717 1, pn 16013992729483398 15, pp 1318 3, pp 140475 0, pp 12494 0, pp 152411 0, pp 25015 3, pp 543936 0, pp 5626537 0, pp 825481 0, pp 35 4, pp 8 4, pp 1 4, pp 23 4, pp 2 4, pp 3 4, pn 2070672927699637 9, pn 9897816764663695 11, pn 19149575395924068 11, nn 1719658130347784 16, nn 7440877571716037 16, nn 9387189048922668 16, nn 8990777878937922 16, nn 8313369683405817 16, nn 6803892161187227 16, nn 4022884549150757 16, nn 2056094850748183 16, nn 323072985247142 16, nn 840606168179146 16, nn 654310907223199 16, nn 420498865890226 15, nn 682843163074848 15, nn 789044791114015 15, nn 813341789311132 15, nn 780405281405762 15, nn 69304392278981 14, nn 5509070871114541 16, nn 349574361165562 15, nn 200542807188375 15, pn 1832331922 10, pp 0 0, pp 0 0, pp 0 0, pp 0 0, pp 0 0, pn 6676680777 11, pn 6676680777 11, pn 6676680777 11, pn 25 2, pn 1832331922 10, pn 1832331922 10, pn 106312691666667 8, pn 950716083333333 9, pn 83830525 2, pn 725894416666667 9, pn 613483583333333 9, pn 50107275 2, pn 478725666666667 9, pn 45637858333333296 11, pn 4340315 1, pn 6588531666666671 10, pn 793611083333333 9, pp 928369 0, pn 61036036036036 15, pp 0 0, pp 0 0, pn 989348257808269 16, pn 17464103009754 16, pn 117024934695392 15, pn 450580355158678 16, pn 251397898503337 16, pp 0 0, pp 0 0, pn 826901143560371 16, pn 1798124600154 16, pp 179 1, pp 1 0, pn 11552863221579 16, pn 7366365627858 16, pn 7366365627858 16, pn 7366365627858 16, pn 7366365627858 16, pn 738188603099597 14, pn 757479716211206 14, pn 731699709473729 14, pn 705430750350524 14, pn 687338433832743 14, pn 795299112690715 14, pn 830333616471744 14, pn 812368381228524 14, pn 778068087985086 14, pn 748701715935825 14, pn 752005113181844 14, pn 732271779610562 14, pn 693590976750372 14, pn 727812852953366 14, pn 754468037372836 14, pn 773260169614504 14, pn 805818636968126 14, pn 774330085591313 14, pn 750563109056063 14, pn 747440133170175 14, pn 762695576664173 14, pn 727659182268458 14, pn 697984789053364 14, pn 636361807565005 14, pn 652220950156572 14, pn 647669254877945 14, pn 62968900044344 13, pn 64539878346922 13, pn 640086654344458 14, pn 651356846029006 14, pn 601390622174368 14, pn 577103913675967 14, pn 572871769995356 14, pn 559496922353865 14, pn 536428317733237 14, pn 550561966384626 14, pn 529099902459708 14, pn 533887707193429 14, pn 539838233363766 14, pn 542600422771444 14, pn 544326564186521 14, pn 547003101824272 14, pn 536252510633841 14, pn 504154761125837 14, pn 493787440520104 14, pn 490217087972034 14, pn 488511152208344 14, pn 489727662409337 14, pn 510377714538339 14, pn 519720078001101 14, pn 498782291983723 14, pn 454482938957933 14, pn 454705739524976 14, pn 446333389401621 14, pn 445830063314738 14, pn 445846481694094 14, pn 427681012306218 14, pn 419644833246349 14, pn 431671598846416 14, pn 478276376466785 14, pn 491020623496537 14, pn 503723066898408 14, pn 470698278064076 14, pn 423268378375951 14, pn 39911005869666 13, pn 422770228938183 14, pn 436797083980407 14, pn 425280100661151 14, pn 399780468635756 14, pn 391073517950807 14, pn 399213976545181 14, pn 431873181569407 14, pn 483282631761537 14, pn 473010088960502 14, pn 422531223446104 14, pn 361935914049171 14, pn 352442303324941 14, pn 372047035623454 14, pn 425507899320128 14, pn 440694552133375 14, pn 423554319137249 14, pn 406364860529166 14, pn 407357513036482 14, pn 454020305803419 14, pn 494853907261553 14, pn 473669483165277 14, pn 435693181793555 14, pn 394307487720591 14, pn 406000727030721 14, pn 461609827611477 14, pn 51000990877028 13, pn 523402310837699 14, pn 511101299388835 14, pn 506866665448126 14, pn 522481896696865 14, pn 565630651505209 14, pn 589916778785712 14, pn 569255204645282 14, pn 543570826919295 14, pn 536928457457119 14, pn 531005903076548 14, pn 573258342372132 14, pn 610818950262508 14, pn 622992645197713 14, pn 617378914991634 14, pn 619176996358243 14, pn 632946633015541 14, pn 675434740524295 14, pn 729865971721998 14, pn 735007902274633 14, pn 689666523112863 14, pn 644986738920614 14, pn 61811454067394 13, pn 642490944835852 14, pn 701993414500697 14, pn 73221642371832 13, pn 713369326173758 14, pn 691922912038113 14, pn 699586536485121 14, pn 753986987835428 14, pn 796 3, pp 1509 0, pn 509 1, pn 22905998 7]⟩

def row89 : Row := ⟨"NER", "Niger", [pp 24206636 0, pp 603 1, pp 87 1, pp 381 1, pn 182399336709257 14, pp 1442 3, pp 20103 0, pp 1523 0, pp 68758 0, pp 20696 3, pp 32530478 0, pp 20205902 0, pp 242084 1, pp 0 0, pp 0 0, pp 0 0, pp 103 4, pp 6 4, pp 17 4, pn 7221823439166386 9, pn 4432852178431185 10, pn 979051980230461 9, nn 2887272813002262 16, nn 8221412417034122 16, nn 9088109615944714 16, nn 7848613998110752 16, nn 5821433845682437 16, nn 4633010479578645 16, nn 4281398324278359 16, nn 247212733974768 16, pn 1222903245969234 16, pn 1282747328249144 16, nn 13433523981768 14, nn 6620713047192569 16, nn 8554817344724189 16, nn 902821373987394 15, nn 90677957726022 14, nn 876699987090396 15, nn 780366717094816 15, nn 6144182694944049 16, nn 337528821780638 15, nn 266697715609298 15, pn 2081239531 10, pp 0 0, pp 0 0, pp 0 0, pn 418760469 10, pn 418760469 10, pn 418760469 10, pn 418760469 10, pp 0 0, pn 2081239531 10, pn 2081239531 10, pn 2081239531 10, pp 46805 0, pp 40835 0, pp 34865 0, pp 28895 0, pp 25925 0, pp 22955 0, pp 19985 0, pp 17015 0, pp 11045 0, pp 19985 0, pp 28925 0, pp 37865 0, pn 100095009969356 15, pp 0 0, pp 0 0, pn 568526255427214 16, pn 17464103009754 16, pp 0 0, pp 0 0, pp 0 0, pp 0 0, pp 0 0, pn 689096357403618 16, pn 1498463415819 16, pp 17818 0, pp 1 0, pn 114999394906203 16, pp 0 0, pp 0 0, pp 0 0, pp 0 0, pp 0 0, pp 0 0, pp 0 0, pp 0 0, pp 0 0, pp 0 0, pp 0 0, pp 0 0, pp 0 0, pp 0 0, pp 0 0, pp 0 0, pp 0 0, pp 0 0, pp 0 0, pp 0 0, pp 0 0, pp 0 0, pp 0 0, pp 0 0, pp 0 0, pp 0 0, pp 0 0, pp 0 0, pp 0 0, pp 0 0, pp 0 0, pp 0 0, pp 0 0, pp 0 0, pp 0 0, pp 0 0, pp 0 0, pp 0 0, pp 0 0, pp 0 0, pp 0 0, pp 0 0, pp 0 0, pp 0 0, pp 0 0, pp 0 0, pp 0 0, pp 0 0, pp 0 0, pp 0 0, pp 0 0, pp 0 0, pp 0 0, pp 0 0, pp 0 0, pp 0 0, pp 0 0, pp 0 0, pp 0 0, pp 0 0, pp 0 0, pp 0 0, pp 0 0, pp 0 0, pp 0 0, pp 0 0, pp 0 0, pp 0 0, pp 0 0, pp 0 0, pp 0 0, pp 0 0, pp 0 0, pp 0 0, pp 0 0, pp 0 0, pp 0 0, pp 0 0, pp 0 0, pp 0 0, pp 0 0, pp 0 0, pp 0 0, pp 0 0, pp 0 0, pp 0 0, pp 0 0, pp 0 0, pp 0 0, pp 0 0, pp 0 0, pp 0 0, pp 0 0, pp 0 0, pp 0 0, pp 0 0, pp 0 0, pp 0 0, pp 0 0, pp 0 0, pp 0 0, pp 0 0, pp 0 0, pp 0 0, pp 0 0, pp 0 0, pp 0 0, pp 0 0, pp 0 0, pp 0 0, pp 0 0, pp 0 0, pp 0 0, pp 0 0, pp 0 0, pp 0 0, pp 0 0, pp 0 0, pp 0 0, pp 0 0, pp 0 0, pp 0 0, pp 0 0, pp 0 0, pn 796 3, pn 961 1, pp 45 0, pn 79999995 8]⟩

def row90 : Row := ⟨"NGA", "Nigeria", [pp 206 6, pp 21143 1, pp 3303 1, pp 12914 1, pp 0 0, pp 521 3, pp 23825 1, pp 302976 0, pp 326398 0, pp 170992 3, pp 139449562 0, pp 22452143 0, pp 2213856 0, pp 308 4, pp 82 4, pp 7 4, pp 1517 4, pp 4 5, pp 179 4, pn 7096246306661358 8, pn 4668084384964317 9, pn 5667925813091224 9, nn 3387724069282335 16, nn 7984351529211561 16, nn 8681552082177079 16, nn 8631305647213022 16, nn 7501235431275437 16, nn 6887767780437661 16, nn 5029029189632137 16, nn 3510710369358271 16, nn 2042874644234124 16, nn 263668721386263 16, pn 138278961201705 16, nn 595658858970132 15, nn 670732725852635 15, nn 69415122463303 14, nn 702621013418989 15, nn 6822423898540739 16, nn 580988611873554 15, nn 530857464602269 15, nn 418315115414328 15, nn 287829892587849 15, pn 2477778708 10, pp 0 0, pp 0 0, pp 0 0, pn 1268798536 12, pn 1268798536 12, pn 2222129177 12, pn 2222129177 12, pn 9533306407 13, pn 2487312015 10, pn 2477778708 10, pn 2477778708 10, pn 121499139166667 7, pn 109348536666667 7, pn 971979341666666 8, pn 850473316666666 8, pn 730817291666667 8, pn 6111612666666671 9, pn 492895266666667 8, pn 374629266666667 8, pn 25451326666666702 10, pn 495675316666667 8, pn 735447341666667 8, pn 975219366666667 8, pn 644286194520521 16, pp 0 0, pp 0 0, pn 821563899414399 16, pn 17464103009754 16, pn 104493391743308 15, pn 398849114707461 16, pn 22200320894264 15, pp 14 3, pn 9241037424736204 20, pn 166335661480437 14, pn 3617025410113 15, pp 405 2, pp 1 0, pn 261391598030151 16, pn 6904955912706 16, pn 6904955912706 16, pn 6904955912706 16, pn 6904955912706 16, pn 225563619622158 14, pn 224007972500148 14, pn 148606453827951 14, pn 114355202888872 14, pn 160951789253174 14, pn 521966083355326 14, pn 743437685745195 14, pn 747972711789109 14, pn 664280356141849 14, pn 646647044242444 14, pn 65771874112729 13, pn 615087329436925 14, pn 534977880528962 14, pn 571758638142947 14, pn 633725490408862 14, pn 710580962719998 14, pn 827223961234327 14, pn 854518932298853 14, pn 820843801067746 14, pn 816608141169708 14, pn 810982541964485 14, pn 755868200634493 14, pn 727441488563201 14, pn 653695979028396 14, pn 628534685511087 14, pn 589070949208488 14, pn 577589039896562 14, pn 581788069739559 14, pn 633828785774011 14, pn 683619681625962 14, pn 650726280711991 14, pn 608688789791755 14, pn 567459044912239 14, pn 561208414528042 14, pn 521499840213542 14, pn 527972658978082 14, pn 487388133502636 14, pn 483010833322668 14, pn 4676713228069 12, pn 460844068580014 14, pn 487837613254963 14, pn 531162341657829 14, pn 516884731434986 14, pn 497902067622137 14, pn 452361893257602 14, pn 407266102333234 14, pn 409386816082206 14, pn 443703262940789 14, pn 456681029282089 14, pn 453750216969654 14, pn 41069449815675 13, pn 347683974395228 14, pn 355036326450263 14, pn 3869939531218 12, pn 403586377822991 14, pn 401259844107923 14, pn 341374567255376 14, pn 306303937445421 14, pn 339662756674879 14, pn 414268590561571 14, pn 437778663119636 14, pn 426460470008121 14, pn 343931557743281 14, pn 284893096423649 14, pn 290026347343356 14, pn 344407639823311 14, pn 381088516403793 14, pn 37920574097581 13, pn 34168359641049 13, pn 297148329944834 14, pn 311217239211973 14, pn 339382155452187 14, pn 420949780539445 14, pn 405406533156939 14, pn 318779014623005 14, pn 229910459740717 14, pn 2373108082246 12, pn 31085020745919 13, pn 407807608795591 14, pn 405775190382202 14, pn 345063849689118 14, pn 300087762760537 14, pn 308478371667017 14, pn 369597783750681 14, pn 416213884386239 14, pn 35673784418279 13, pn 261088270593267 14, pn 20841204638453 13, pn 217349193744004 14, pn 327051500737282 14, pn 430934827503372 14, pn 423438857629996 14, pn 370150089910681 14, pn 342785217891785 14, pn 346413286727789 14, pn 388217941446816 14, pn 415270708063935 14, pn 349864476608232 14, pn 283136535533392 14, pn 292162278737474 14, pn 285190579039329 14, pn 378904646399308 14, pn 480046378209707 14, pn 476505625357688 14, pn 437905938224189 14, pn 388326244550295 14, pn 403945554491463 14, pn 427047613698725 14, pn 457654226002208 14, pn 423444946558973 14, pn 30901188433574 13, pn 274798000248855 14, pn 280908906252639 14, pn 393828629819519 14, pn 552466284019736 14, pn 638494859265154 14, pn 562808407419351 14, pn 455094432883848 14, pn 418448007315187 14, pn 454716994967059 14, pn 796 3, pn 23640001 5, pp 45 0, pp 1 0]⟩

def row91 : Row := ⟨"MKD", "North Macedonia", [pp 208338 1, pp 28 1, pp 4 1, pp 17 1, pn 444857257063948 15, pp 443 3, pp 1494 0, pp 1493 1, pp 3886 0, pp 1643 3, pp 889716 0, pp 231979 0, pp 111083 0, pp 11 4, pp 2 4, pp 1 4, pp 31 4, pp 2 4, pp 4 4, pn 6656843840907828 10, pn 2580693398586012 11, pn 8208649872989874 11, nn 9956517969221594 16, np 1 0, np 1 0, nn 956305539978879 15, nn 7341117276004633 16, nn 164536727588757 15, nn 2113589600696107 16, nn 5363469271869289 16, nn 3420219242902719 16, nn 5060779576568524 16, pn 105469731427875 16, nn 810477657230264 15, nn 999409746409018 15, nn 6501873024039501 16, nn 999070627283845 15, nn 995105728105403 15, nn 951637934274398 15, nn 989659741117694 15, nn 987197378623775 15, nn 974099171901275 15, pn 7306168306 11, pp 0 0, pp 0 0, pp 0 0, pn 3543794097 12, pn 3543794097 12, pn 1769383169 10, pn 1769383169 10, pn 1733945228 10, pn 2464562059 10, pn 7306168306 11, pn 7306168306 11, pn 3143825 1, pn 27675804166666704 11, pn 23913358333333305 11, pn 201509125 3, pn 165484666666667 9, pn 129460208333333 9, pn 17172225 2, pn 213984291666667 9, pn 25464633333333296 11, pn 32829525 2, pn 32365766666666704 11, pn 31902008333333296 11, pn 424703432038395 16, pp 0 0, pp 0 0, pn 701313755795981 16, pn 17464103009754 16, pn 301748687808064 15, pn 13333660418434 14, pn 775638362957809 16, pp 0 0, pp 0 0, pn 566838395105748 16, pn 1232609327595 16, pp 46 1, pp 1 0, pn 2968892224539 16, pp 0 0, pp 0 0, pp 0 0, pp 0 0, pp 0 0, pp 0 0, pp 0 0, pp 0 0, pp 0 0, pp 0 0, pp 0 0, pp 0 0, pp 0 0, pp 0 0, pp 0 0, pp 0 0, pp 0 0, pp 0 0, pp 0 0, pp 0 0, pp 0 0, pp 0 0, pp 0 0, pp 0 0, pp 0 0, pp 0 0, pp 0 0, pp 0 0, pp 0 0, pp 0 0, pp 0 0, pp 0 0, pp 0 0, pp 0 0, pp 0 0, pp 0 0, pp 0 0, pp 0 0, pp 0 0, pp 0 0, pp 0 0, pp 0 0, pp 0 0, pp 0 0, pp 0 0, pp 0 0, pp 0 0, pp 0 0, pp 0 0, pp 0 0, pp 0 0, pp 0 0, pp 0 0, pp 0 0, pp 0 0, pp 0 0, pp 0 0, pp 0 0, pp 0 0, pp 0 0, pp 0 0, pp 0 0, pp 0 0, pp 0 0, pp 0 0, pp 0 0, pp 0 0, pp 0 0, pp 0 0, pp 0 0, pp 0 0, pp 0 0, pp 0 0, pp 0 0, pp 0 0, pp 0 0, pp 0 0, pp 0 0, pp 0 0, pp 0 0, pp 0 0, pp 0 0, pp 0 0, pp 0 0, pp 0 0, pp 0 0, pp 0 0, pp 0 0, pp 0 0, pp 0 0, pp 0 0, pp 0 0, pp 0 0, pp 0 0, pp 0 0, pp 0 0, pp 0 0, pp 0 0, pp 0 0, pp 0 0, pp 0 0, pp 0 0, pp 0 0, pp 0 0, pp 0 0, pp 0 0, pp 0 0, pp 0 0, pp 0 0, pp 0 0, pp 0 0, pp 0 0, pp 0 0, pp 0 0, pp 0 0, pp 0 0, pp 0 0, pp 0 0, pp 0 0, pp 0 0, pp 0 0, pp 0 0, pp 0 0, pp 0 0, pn 796 3, pn 5774 1, pn 1026 1, pn 74039996 8]⟩

def row92 : Row := ⟨"NOR", "Norway", [pp 5379475 0, pp 6545 2, pp 11251 1, pp 37773 1, pn 598664378531524 14, pp 1547 3, pp 101867 0, pp 131041 0, pp 86126 0, pp 17077 3, pp 3074529 0, pp 903168 0, pp 219453 0, pp 171 4, pp 57 4, pp 19 4, pp 156 4, pp 6 4, pp 48 4, pn 11537154576400346 10, pn 4473635280185313 11, pn 15578736533162545 11, np 1 0, np 1 0, np 1 0, np 1 0, np 1 0, np 1 0, np 1 0, nn 9855433410590396 16, nn 8922428895694351 16, nn 6157429346922215 16, nn 437299183524363 15, nn 918822374916798 15, nn 99999494549293 14, nn 999280918213192 15, nn 99989779837286 14, nn 999146402093089 15, nn 998677660825653 15, nn 971007186176037 15, nn 883125141060837 15, nn 801728241711086 15, pp 0 0, pp 0 0, pp 0 0, pp 0 0, pp 0 0, pp 0 0, pn 25 2, pn 25 2, pn 25 2, pn 25 2, pp 0 0, pp 0 0, pn 917019083333333 9, pn 854854666666667 9, pn 79269025 2, pn 730525833333333 9, pn 6683614166666671 10, pp 606197 0, pn 730525833333333 9, pn 854854666666667 9, pn 9791835 1, pn 110351233333333 8, pn 104134791666667 8, pn 9791835 1, pn 357040936043378 16, pp 0 0, pp 0 0, pn 31403090064062 16, pn 17464103009754 16, pn 442039140705961 15, pn 219997716149909 15, pn 133562239692507 15, pp 152 3, pn 10033126346856 16, pn 226479040730396 14, pn 49248636034445 16, pp 803 0, pp 1 0, pn 5182653165881 16, pn 674151973465541 16, pn 674151973465541 16, pn 674151973465541 16, pn 674151973465541 16, pn 125307230730804 14, pn 125367846568973 14, pn 116446966839296 14, pn 103527954468509 14, pn 961512922389098 15, pn 932072750118132 15, pn 804617605532861 15, pn 780306824251848 15, pn 820221624164208 15, pn 823418956292081 15, pn 775359495051149 15, pn 637903450301987 15, pn 588870255322997 15, pn 625494423262561 15, pn 699798427051329 15, pn 756385592285336 15, pn 77247750350272 14, pn 690685779521733 15, pn 623627098494677 15, pn 633497019919744 15, pn 654585219628031 15, pn 678221661285326 15, pn 642235920927908 15, pn 558452461567825 15, pn 550726354911298 15, pn 533241914274222 15, pn 559077587932166 15, pn 571602426565577 15, pn 585972414384307 15, pn 507581060856766 15, pn 476498579339626 15, pn 460375197883433 15, pn 495445346912131 15, pn 555511373771659 15, pn 535378583926726 15, pn 522042355245346 15, pn 509751643933992 15, pn 505917636988734 15, pn 503919661751173 15, pn 513327853544145 15, pn 514175353449103 15, pn 470236486652447 15, pn 433099151096754 15, pn 417731034252111 15, pn 4589048904543 13, pn 511477485927674 15, pn 521946469376341 15, pn 540108889789081 15, pn 539886903447276 15, pn 545419791111906 15, pn 546698827321603 15, pn 533937100159938 15, pn 532207116287776 15, pn 472239303610618 15, pn 395591548892984 15, pn 381781037642599 15, pn 433423576206002 15, pn 492862261945019 15, pn 537514092314661 15, pn 559213168164554 15, pn 587997598217513 15, pn 627624656363427 15, pn 632472485464784 15, pn 582125310182791 15, pn 531199123198026 15, pn 470782512469459 15, pn 410639172226025 15, pn 403227449169194 15, pn 453669790475513 15, pn 525221394490141 15, pn 571830375386405 15, pn 580750441197102 15, pn 635296453090261 15, pn 701827805097738 15, pn 671723616673777 15, pn 60179402313819 14, pn 521390490430414 15, pn 469530619023012 15, pn 427651558855648 15, pn 42963081978582 14, pn 46603564184307 14, pn 542606388967509 15, pn 59108300019918 14, pn 624642198498689 15, pn 69867140533179 14, pn 779970043657163 15, pn 753118024156137 15, pn 640722574308407 15, pn 571390153768085 15, pn 520382505764622 15, pn 489644817171928 15, pn 461562953165597 15, pn 530046869432579 15, pn 577838810697034 15, pn 641354741404765 15, pn 706086788708845 15, pn 843711957844599 15, pn 913032033112738 15, pn 861700119798149 15, pn 770884355522217 15, pn 661651634721807 15, pn 618783982018184 15, pn 582799506486546 15, pn 517420687334327 15, pn 556261710999006 15, pn 599625826339062 15, pn 691953757070279 15, pn 869444160023993 15, pn 101924075948968 14, pn 107132482822279 14, pn 102067889731294 14, pn 846024469766208 15, pn 756059933939122 15, pn 66355912632032 14, pn 627535784479301 15, pn 600794739829099 15, pn 594746238383821 15, pn 648169213504355 15, pn 767347509266252 15, pn 906179412169381 15, pn 796 3, pn 64009 1, pn 86200005 6, pn 14606 4]⟩

def row93 : Row := ⟨"OMN", "Oman", [pp 5106622 0, pp 6849 1, pp 1209 1, pp 3898 1, pn 1800682043013839 16, pp 236 3, pp 6547 0, pp 0 0, pp 15333 0, pp 4829 3, pp 3024985 0, pp 715115 0, pp 127884 0, pp 54 4, pp 16 4, pp 2 4, pp 34 4, pp 2 4, pp 6 4, pn 3532889373259985 10, pn 9464415527873018 12, pn 3278852614643502 11, pn 2991906486514292 16, nn 5642633052139004 16, nn 6089526341977881 16, pn 365984488155002 15, pn 7706040884139977 16, nn 3265988602515632 16, nn 3821403176148659 16, nn 1943966845111142 16, pn 3977529198751156 16, nn 3901203889690262 16, nn 596225435970375 16, nn 464135015305447 15, nn 597844666140342 15, nn 761345181300394 15, nn 783217059679331 15, nn 7555839719778351 16, nn 690716031964543 15, nn 563320575232688 15, nn 369731541625896 15, nn 14950715778132 14, pn 8187269373 11, pn 8187269373 11, pn 8187269373 11, pn 8187269373 11, pn 9225092251 11, pn 9225092251 11, pn 1681273063 10, pn 1681273063 10, pn 7587638376 11, pn 7587638376 11, pp 0 0, pp 0 0, pp 349471 0, pp 349471 0, pp 349471 0, pp 349471 0, pp 349471 0, pp 349471 0, pp 349471 0, pp 349471 0, pp 349471 0, pp 349471 0, pp 349471 0, pp 349471 0, pn 31720856463124 16, pp 0 0, pn 124884366327475 16, pn 173775671406003 16, pn 17464103009754 16, pn 358879618805042 15, pn 166169813228814 15, pn 98219839176266 15, pp 0 0, pp 0 0, pn 675544808886056 15, pn 14689951136534 16, pp 11 1, pp 1 0, pn 709952488476954 19, pn 1693454603679 15, pn 1693454603679 15, pn 1693454603679 15, pn 1693454603679 15, pn 175435425176481 14, pn 174687909534561 14, pn 132526710333623 14, pn 10894157867869 13, pn 128551540746042 14, pn 307586679183569 14, pn 411949723149241 14, pn 413001697107147 14, pn 373151259279135 14, pn 364494469935826 14, pn 367627345316203 14, pn 339438837233562 14, pn 296932453030631 14, pn 317154040234602 14, pn 351852666556997 14, pn 393109760974266 14, pn 452235855792299 14, pn 461793755125513 14, pn 441603255458607 14, pn 439978921580841 14, pn 438220531963644 14, pn 411845183381513 14, pn 395832540327996 14, pn 354770612592589 14, pn 341803660501108 14, pn 321197570317955 14, pn 316748399344889 14, pn 319474156198058 14, pn 346213013606221 14, pn 367188893855819 14, pn 349188069322977 14, pn 327363154790049 14, pn 308501789801726 14, pn 308379775952604 14, pn 287518849303107 14, pn 290088447251308 14, pn 269181648948018 14, pn 26680129851077 13, pn 259031644491008 14, pn 256088426967214 14, pn 269627574299937 14, pn 289092995161537 14, pn 280097323272331 14, pn 269837585523674 14, pn 249126191151516 14, pn 229206925463001 14, pn 23079073150992 13, pn 248857075959849 14, pn 255334859813408 14, pn 254146098040422 14, pn 232682190444455 14, pn 200538842205611 14, pn 20412851903952 13, pn 217108941741431 14, pn 221572766356145 14, pn 219718973936091 14, pn 192358462437988 14, pn 177795081819962 14, pn 196707082953172 14, pn 235094953689013 14, pn 248289211470693 14, pn 244611467822232 14, pn 203589403144879 14, pn 171552813720964 14, pn 171573129831579 14, pn 195742945535128 14, pn 211076216813198 14, pn 209764242946365 14, pn 193525287729021 14, pn 174835234696924 14, pn 184200138375307 14, pn 198728599785949 14, pn 242239712924235 14, pn 237794656833356 14, pn 192975688145191 14, pn 145044931027268 14, pn 144724928633821 14, pn 178901634680745 14, pn 225286382340578 14, pn 224369136180392 14, pn 195833706936713 14, pn 177174200828644 14, pn 183793335843467 14, pn 216031001800275 14, pn 243040512459709 14, pn 217367424274253 14, pn 16820003650444 13, pn 136242151907685 14, pn 137244104560406 14, pn 189544875656872 14, pn 239949654610283 14, pn 234797576473278 14, pn 21157738842697 13, pn 200284549480744 14, pn 205274380434133 14, pn 22941331015885 13, pn 249820951924197 14, pn 220583839959753 14, pn 184653273756604 14, pn 184625357144848 14, pn 175677871255755 14, pn 220391522300563 14, pn 269163164429181 14, pn 264123847045561 14, pn 246766054662045 14, pn 224144413592101 14, pn 236570465099245 14, pn 256996014850562 14, pn 279789150975588 14, pn 265288714690626 14, pn 205539887033517 14, pn 179700223612738 14, pn 178257449823275 14, pn 230092271225776 14, pn 307609931233833 14, pn 349287166624032 14, pn 311141515628867 14, pn 259955677117142 14, pn 247591379120906 14, pn 272667468091998 14, pn 796 3, pn 1706 1, pp 0 0, pn 81619996 8]⟩

def row94 : Row := ⟨"PAK", "Pakistan", [pp 221 6, pp 12293 1, pp 1982 1, pp 7365 1, pn 172952991147277 12, pp 58851 3, pp 1657 3, pp 0 0, pp 1179 3, pp 1446868 3, pp 109432 3, pp 98008 3, pp 1464 4, pp 446 4, pp 164 4, pp 15 4, pp 993 4, pp 69 4, pp 317 4, pn 4712618427658938 8, pn 16592259535804377 10, pn 5192282665016826 9, nn 7196890066552001 16, nn 7259590451377038 16, nn 7254982090894928 16, nn 6419033613058605 16, nn 606196674750382 15, nn 4637445813651959 16, nn 2804434501348523 16, nn 1861554137733693 16, nn 1325655381601018 16, nn 432996617197016 16, nn 28922537832718 14, nn 9946623360392388 16, nn 9559631685950788 16, nn 982754491200199 15, nn 871696913372646 15, nn 741498291721292 15, nn 678420148489758 15, nn 6657229102508551 16, nn 450914407349915 15, nn 258764344987486 15, pn 7923091077 11, pn 4040165732 11, pp 0 0, pp 0 0, pn 1365664037 10, pn 1365664037 10, pn 1707690892 10, pn 1707690892 10, pn 342026855 10, pn 7303193895 11, pn 7923091077 11, pn 7923091077 11, pn 23157791916666698 9, pn 21492978583333302 9, pn 182614615 1, pn 150299444166667 7, pn 17094227333333302 9, pn 1915851025 2, pn 225491119166667 7, pn 25939713583333302 9, pn 2403451525 2, pn 23635045666666698 9, pn 234759610833333 7, pn 233168765 1, pn 372547087207517 16, pp 0 0, pp 0 0, pn 147492258499429 15, pn 17464103009754 16, pn 847895527135855 16, pn 319296103189475 16, pn 177072710442657 16, pp 41 3, pn 2706303817244 16, pn 976674399289994 15, pn 21238116277634 16, pp 313 2, pp 1 0, pn 202013753539351 16, pn 8467273018395 16, pn 8467273018395 16, pn 8467273018395 16, pn 8467273018395 16, pn 225563619622158 14, pn 224007972500148 14, pn 148606453827951 14, pn 114355202888872 14, pn 160951789253174 14, pn 521966083355326 14, pn 743437685745195 14, pn 747972711789109 14, pn 664280356141849 14, pn 646647044242444 14, pn 65771874112729 13, pn 615087329436925 14, pn 534977880528962 14, pn 571758638142947 14, pn 633725490408862 14, pn 710580962719998 14, pn 827223961234327 14, pn 854518932298853 14, pn 820843801067746 14, pn 816608141169708 14, pn 810982541964485 14, pn 755868200634493 14, pn 727441488563201 14, pn 653695979028396 14, pn 628534685511087 14, pn 589070949208488 14, pn 577589039896562 14, pn 581788069739559 14, pn 633828785774011 14, pn 683619681625962 14, pn 650726280711991 14, pn 608688789791755 14, pn 567459044912239 14, pn 561208414528042 14, pn 521499840213542 14, pn 527972658978082 14, pn 487388133502636 14, pn 483010833322668 14, pn 4676713228069 12, pn 460844068580014 14, pn 487837613254963 14, pn 531162341657829 14, pn 516884731434986 14, pn 497902067622137 14, pn 452361893257602 14, pn 407266102333234 14, pn 409386816082206 14, pn 443703262940789 14, pn 456681029282089 14, pn 453750216969654 14, pn 41069449815675 13, pn 347683974395228 14, pn 355036326450263 14, pn 3869939531218 12, pn 403586377822991 14, pn 401259844107923 14, pn 341374567255376 14, pn 306303937445421 14, pn 339662756674879 14, pn 414268590561571 14, pn 437778663119636 14, pn 426460470008121 14, pn 343931557743281 14, pn 284893096423649 14, pn 290026347343356 14, pn 344407639823311 14, pn 381088516403793 14, pn 37920574097581 13, pn 34168359641049 13, pn 297148329944834 14, pn 311217239211973 14, pn 339382155452187 14, pn 420949780539445 14, pn 405406533156939 14, pn 318779014623005 14, pn 229910459740717 14, pn 2373108082246 12, pn 31085020745919 13, pn 407807608795591 14, pn 405775190382202 14, pn 345063849689118 14, pn 300087762760537 14, pn 308478371667017 14, pn 369597783750681 14, pn 416213884386239 14, pn 35673784418279 13, pn 261088270593267 14, pn 20841204638453 13, pn 217349193744004 14, pn 327051500737282 14, pn 430934827503372 14, pn 423438857629996 14, pn 370150089910681 14, pn 342785217891785 14, pn 346413286727789 14, pn 388217941446816 14, pn 415270708063935 14, pn 349864476608232 14, pn 283136535533392 14, pn 292162278737474 14, pn 285190579039329 14, pn 378904646399308 14, pn 480046378209707 14, pn 476505625357688 14, pn 437905938224189 14, pn 388326244550295 14, pn 403945554491463 14, pn 427047613698725 14, pn 457654226002208 14, pn 423444946558973 14, pn 30901188433574 13, pn 274798000248855 14, pn 280908906252639 14, pn 393828629819519 14, pn 552466284019736 14, pn 638494859265154 14, pn 562808407419351 14, pn 455094432883848 14, pn 418448007315187 14, pn 454716994967059 14, pn 796 3, pn 15356 1, pp 0 0, pn 118 2]⟩

def row95 : Row := ⟨"PAN", "Panama", [pp 4314768 0, pp 3165 1, pp 518 1, pp 1873 1, pn 686708730528879 14, pp 189 3, pp 211537 0, pp 41386 0, pp 71213 0, pp 25719 3, pp 374477 0, pp 1621774 0, pp 144347 0, pp 25 4, pp 2 4, pp 1 4, pp 69 4, pp 5 4, pp 1 5, pn 837378507354202 9, pn 2307328214046391 11, pn 5346111835487464 11, pn 11382610112361933 16, pn 10869379114092006 16, pn 16921011264727115 16, pn 2948605321377571 16, pn 5722305654195095 16, pn 4388052078275754 16, pn 33921094442004285 16, pn 2510139767918817 15, pn 9584818626142116 16, nn 3216546386757247 16, nn 535616341829758 16, nn 355748599638475 15, nn 576291335727243 15, nn 656336696490647 15, nn 6486879949909811 16, nn 589072553371885 15, nn 551675660093448 15, nn 550693631008372 15, nn 518039369899702 15, nn 420915760461953 15, pn 25 2, pp 0 0, pp 0 0, pp 0 0, pp 0 0, pp 0 0, pp 0 0, pp 0 0, pp 0 0, pn 25 2, pn 25 2, pn 25 2, pn 4898405 1, pn 451411125 3, pn 41298175 2, pn 374552375 3, pp 336123 0, pn 297693625 3, pn 25926425 2, pn 220834875 3, pn 1824055 1, pn 25926425 2, pp 336123 0, pn 41298175 2, pn 109694633857101 16, pn 60266896254842 16, pn 246761258482418 16, pn 85438335809806 16, pn 17464103009754 16, pn 373906601207106 15, pn 17533442047564 14, pn 104104755714828 15, pp 0 0, pp 0 0, pn 518130239231724 15, pn 11266917895832 16, pp 75 1, pp 1 0, pn 4840585148706 16, pn 20156319135567 16, pn 20156319135567 16, pn 20156319135567 16, pn 20156319135567 16, pn 104462928928399 13, pn 107353565103232 13, pn 103932608079095 13, pn 100638214829153 13, pn 982932004629659 14, pn 114634503153017 13, pn 120526954443097 13, pn 117953723063019 13, pn 112609105076942 13, pn 108188162608913 13, pn 108923969502021 13, pn 106651249690074 13, pn 101094295235941 13, pn 106044455826692 13, pn 109671213470669 13, pn 112207097480749 13, pn 117010408027705 13, pn 112696083941088 13, pn 109466330865936 13, pn 108948534875927 13, pn 111131410401486 13, pn 105757769033842 13, pn 101486538753365 13, pn 926620088269116 14, pn 950795107489292 14, pn 944841786603207 14, pn 916579621268551 14, pn 939518053875552 14, pn 930831360797472 14, pn 951656216000671 14, pn 878261004294571 14, pn 842637110619779 14, pn 834535387647427 14, pn 811469814842215 14, pn 777873547403519 14, pn 799740831814672 14, pn 768162271492863 14, pn 775535678940707 14, pn 78456136695809 13, pn 788234241479958 14, pn 790781078607326 14, pn 796992828403785 14, pn 782723808395923 14, pn 73534558997615 13, pn 717735916257441 14, pn 709751757661668 14, pn 706669404843699 14, pn 707586049124551 14, pn 738572226635145 14, pn 752309127446057 14, pn 720838496609505 14, pn 655027553428903 14, pn 655448253473075 14, pn 645888118921901 14, pn 648965517527458 14, pn 64968067065901 13, pn 619850339649028 14, pn 604824136772273 14, pn 620631693653891 14, pn 689453906291949 14, pn 70713105533393 13, pn 724203367529441 14, pn 674423792822874 14, pn 605796302054787 14, pn 572105131885089 14, pn 610616217783801 14, pn 63466366735931 13, pn 617758778533267 14, pn 576987213429858 14, pn 560349207201704 14, pn 570229446048452 14, pn 618772250294256 14, pn 693159124987793 14, pn 674423743185867 14, pn 600210654335467 14, pn 512814169916847 14, pn 502593930465891 14, pn 534594022484031 14, pn 616879271037409 14, pn 639560287210772 14, pn 61202969661372 13, pn 582416971345373 14, pn 581482119544764 14, pn 649798348780194 14, pn 70734729062574 13, pn 671505722565057 14, pn 615883871482525 14, pn 559425102865466 14, pn 580431582857677 14, pn 666395616128984 14, pn 740532622296824 14, pn 762025318598269 14, pn 740149605611624 14, pn 731408057637338 14, pn 751655107975059 14, pn 813141637822371 14, pn 842689570286338 14, pn 808231205312287 14, pn 772271234389035 14, pn 766848468409568 14, pn 763426272878731 14, pn 828948314457289 14, pn 887088450069435 14, pn 908617933429853 14, pn 8982552869375 12, pn 898784203220411 14, pn 914822261669797 14, pn 969679902785242 14, pn 104383691960851 13, pn 104894561200081 13, pn 983465839803647 14, pn 925178884892611 14, pn 889368814313954 14, pn 930558460937762 14, pn 102161333252708 13, pn 106828489858603 13, pn 104031667734145 13, pn 100547590738195 13, pn 101101242926437 13, pn 108567151114467 13, pn 796 3, pn 12526 1, pn 738 1, pn 17427 4]⟩

def row96 : Row := ⟨"PNG", "Papua New Guinea", [pp 8947027 0, pp 6789 1, pp 1135 1, pp 3983 1, pn 289665472469119 15, pp 0 0, pp 6639 0, pp 82952 0, pp 3128 0, pp 462 4, pp 2129316 0, pp 94378 0, pp 1626 0, pp 15 4, pp 5 4, pp 0 0, pp 18 4, pp 0 0, pp 7 4, pn 2594100983784278 9, pn 6228287814104119 10, pn 8389432357825476 11, np 1 0, np 1 0, np 1 0, np 1 0, np 1 0, np 1 0, np 1 0, np 1 0, np 1 0, np 1 0, nn 345878914863221 16, nn 283331323513378 15, nn 507927674083911 15, nn 6370013718829469 16, nn 719893463632563 15, nn 764599150547179 15, nn 797392083079922 15, nn 796073723719746 15, nn 761877967931043 15, nn 6742503960331641 16, pp 0 0, pp 0 0, pp 0 0, pp 0 0, pn 25 2, pn 25 2, pn 25 2, pn 25 2, pp 0 0, pp 0 0, pp 0 0, pp 0 0, pp 99949 0, pn 968656666666667 10, pn 937823333333333 10, pp 90699 0, pn 968656666666667 10, pn 103032333333333 9, pp 109199 0, pn 115365666666667 9, pn 112282333333333 9, pp 109199 0, pn 106115666666667 9, pn 103032333333333 9, pn 502473742171962 16, pp 0 0, pp 0 0, pp 0 0, pn 17464103009754 16, pn 677249290099088 16, pn 25210453427794 15, pn 13937923418628 15, pp 0 0, pp 0 0, pp 0 0, pp 0 0, pp 1 3, pp 1 0, pn 6454113531608 16, pn 41704962323873 16, pn 41704962323873 16, pn 41704962323873 16, pn 41704962323873 16, pn 738188603099597 14, pn 757479716211206 14, pn 731699709473729 14, pn 705430750350524 14, pn 687338433832743 14, pn 795299112690715 14, pn 830333616471744 14, pn 812368381228524 14, pn 778068087985086 14, pn 748701715935825 14, pn 752005113181844 14, pn 732271779610562 14, pn 693590976750372 14, pn 727812852953366 14, pn 754468037372836 14, pn 773260169614504 14, pn 805818636968126 14, pn 774330085591313 14, pn 750563109056063 14, pn 747440133170175 14, pn 762695576664173 14, pn 727659182268458 14, pn 697984789053364 14, pn 636361807565005 14, pn 652220950156572 14, pn 647669254877945 14, pn 62968900044344 13, pn 64539878346922 13, pn 640086654344458 14, pn 651356846029006 14, pn 601390622174368 14, pn 577103913675967 14, pn 572871769995356 14, pn 559496922353865 14, pn 536428317733237 14, pn 550561966384626 14, pn 529099902459708 14, pn 533887707193429 14, pn 539838233363766 14, pn 542600422771444 14, pn 544326564186521 14, pn 547003101824272 14, pn 536252510633841 14, pn 504154761125837 14, pn 493787440520104 14, pn 490217087972034 14, pn 488511152208344 14, pn 489727662409337 14, pn 510377714538339 14, pn 519720078001101 14, pn 498782291983723 14, pn 454482938957933 14, pn 454705739524976 14, pn 446333389401621 14, pn 445830063314738 14, pn 445846481694094 14, pn 427681012306218 14, pn 419644833246349 14, pn 431671598846416 14, pn 478276376466785 14, pn 491020623496537 14, pn 503723066898408 14, pn 470698278064076 14, pn 423268378375951 14, pn 39911005869666 13, pn 422770228938183 14, pn 436797083980407 14, pn 425280100661151 14, pn 399780468635756 14, pn 391073517950807 14, pn 399213976545181 14, pn 431873181569407 14, pn 483282631761537 14, pn 473010088960502 14, pn 422531223446104 14, pn 361935914049171 14, pn 352442303324941 14, pn 372047035623454 14, pn 425507899320128 14, pn 440694552133375 14, pn 423554319137249 14, pn 406364860529166 14, pn 407357513036482 14, pn 454020305803419 14, pn 494853907261553 14, pn 473669483165277 14, pn 435693181793555 14, pn 394307487720591 14, pn 406000727030721 14, pn 461609827611477 14, pn 51000990877028 13, pn 523402310837699 14, pn 511101299388835 14, pn 506866665448126 14, pn 522481896696865 14, pn 565630651505209 14, pn 589916778785712 14, pn 569255204645282 14, pn 543570826919295 14, pn 536928457457119 14, pn 531005903076548 14, pn 573258342372132 14, pn 610818950262508 14, pn 622992645197713 14, pn 617378914991634 14, pn 619176996358243 14, pn 632946633015541 14, pn 675434740524295 14, pn 729865971721998 14, pn 735007902274633 14, pn 689666523112863 14, pn 644986738920614 14, pn 61811454067394 13, pn 642490944835852 14, pn 701993414500697 14, pn 73221642371832 13, pn 713369326173758 14, pn 691922912038113 14, pn 699586536485121 14, pn 753986987835428 14, pn 796 3, pn 681 1, pn 41100002 6, pn 91709995 8]⟩

def row97 : Row := ⟨"PRY", "Paraguay", [pp 713253 1, pp 417 1, pp 61 1, pp 264 1, pn 114847597769375 13, pp 48 4, pp 71548 0, pp 65735 0, pp 515612 0, pp 25341 3, pp 174939 1, pp 14300377 0, pp 215193 0, pp 27 4, pp 2 4, pp 0 0, pp 458 4, pp 13 4, pp 161 4, pn 18579384466144364 9, pn 2372044800798295 9, pn 5106586186270785 9, pn 813165855501571 16, nn 7675873451216542 16, nn 8750781053284199 16, nn 8647855567125553 16, nn 8463672414164171 16, nn 8089657701554753 16, nn 6511907006504157 16, nn 596075279939929 15, nn 4715960464502581 16, nn 3145906337250759 16, nn 867688921311033 16, nn 473804259081232 15, nn 741346132243478 15, nn 691965459061427 15, nn 810622527666818 15, nn 8651645527323101 16, nn 8261445201458539 16, nn 7032439577974471 16, nn 386349435676129 15, nn 1272226601348499 16, pn 1739554831 10, pn 1739554831 10, pn 1739554831 10, pn 1739554831 10, pn 2025208747 12, pn 6127415931 11, pn 6127415931 11, pn 6127415931 11, pn 7401930812 11, pn 1477035756 11, pn 1477035756 11, pn 1477035756 11, pn 35959774583333298 10, pn 5061443875 3, pn 6526910291666671 9, pn 799237670833333 8, pp 6677529 0, pn 632080629166667 8, pn 5964083583333329 9, pn 5368506875 3, pn 521788816666667 8, pn 410914445833333 8, pn 300040075 2, pn 470472116666667 8, pn 981886194442397 16, pp 0 0, pp 0 0, pn 783455955458342 16, pn 17464103009754 16, pn 262030470292417 15, pn 112223157699058 15, pn 646233156315623 16, pp 0 0, pp 0 0, pn 174268018522673 15, pn 378951720609 15, pp 4824 0, pp 1 0, pn 3113464367648 15, pp 0 0, pp 0 0, pp 0 0, pp 0 0, pp 0 0, pp 0 0, pp 0 0, pp 0 0, pp 0 0, pp 0 0, pp 0 0, pp 0 0, pp 0 0, pp 0 0, pp 0 0, pp 0 0, pp 0 0, pp 0 0, pp 0 0, pp 0 0, pp 0 0, pp 0 0, pp 0 0, pp 0 0, pp 0 0, pp 0 0, pp 0 0, pp 0 0, pp 0 0, pp 0 0, pp 0 0, pp 0 0, pp 0 0, pp 0 0, pp 0 0, pp 0 0, pp 0 0, pp 0 0, pp 0 0, pp 0 0, pp 0 0, pp 0 0, pp 0 0, pp 0 0, pp 0 0, pp 0 0, pp 0 0, pp 0 0, pp 0 0, pp 0 0, pp 0 0, pp 0 0, pp 0 0, pp 0 0, pp 0 0, pp 0 0, pp 0 0, pp 0 0, pp 0 0, pp 0 0, pp 0 0, pp 0 0, pp 0 0, pp 0 0, pp 0 0, pp 0 0, pp 0 0, pp 0 0, pp 0 0, pp 0 0, pp 0 0, pp 0 0, pp 0 0, pp 0 0, pp 0 0, pp 0 0, pp 0 0, pp 0 0, pp 0 0, pp 0 0, pp 0 0, pp 0 0, pp 0 0, pp 0 0, pp 0 0, pp 0 0, pp 0 0, pp 0 0, pp 0 0, pp 0 0, pp 0 0, pp 0 0, pp 0 0, pp 0 0, pp 0 0, pp 0 0, pp 0 0, pp 0 0, pp 0 0, pp 0 0, pp 0 0, pp 0 0, pp 0 0, pp 0 0, pp 0 0, pp 0 0, pp 0 0, pp 0 0, pp 0 0, pp 0 0, pp 0 0, pp 0 0, pp 0 0, pp 0 0, pp 0 0, pp 0 0, pp 0 0, pp 0 0, pp 0 0, pp 0 0, pp 0 0, pp 0 0, pp 0 0, pp 0 0, pn 796 3, pn 25107 1, pp 104 0, pp 1 0]⟩

def row98 : Row := ⟨"PER", "Peru", [pp 32971846 0, pp 8712 2, pp 14065 1, pn 51846000000000006 11, pn 201217318003332 13, pp 2142 3, pp 1723497 0, pp 169805 0, pp 183941 0, pp 19083 4, pp 16163953 0, pp 7361172 0, pp 906689 0, pp 271 4, pp 52 4, pp 18 4, pp 642 4, pp 3 5, pp 128 4, pn 9154256831095532 9, pn 4416959351580803 10, pn 7518002426725024 10, nn 650024045457638 16, nn 7534223974543179 16, nn 9551050508019118 16, nn 9651546879243886 16, nn 8684798978037963 16, nn 851655387637243 15, nn 7416461823533166 16, nn 6033687657977195 16, nn 4506285349394505 16, nn 331698337386803 15, nn 549739144273254 16, nn 329838074429181 15, nn 591210518949357 15, nn 75737489575198 14, nn 860027771186144 15, nn 912326182714964 15, nn 936082175482988 15, nn 938362903388375 15, nn 927297878966909 15, nn 892269482234334 15, pn 8209745411 11, pn 959563861 11, pn 959563861 11, pn 1073772015 10, pn 1596282855 10, pn 1596282855 10, pn 1679025459 10, pn 70120983 9, pn 8274260367 12, pn 8077607587 11, pn 725018155 10, pn 725018155 10, pn 273202204166667 8, pn 236516204166667 8, pn 199830204166667 8, pn 211792516666667 8, pn 249750804166667 8, pn 28770909166666702 10, pn 329783991666667 8, pn 323210579166667 8, pn 28586716666666702 10, pn 284594879166667 8, pn 27920597916666702 10, pn 27859110416666702 10, pn 834984309699064 16, pn 175564829471866 16, pn 180731139610241 15, pn 212508923178299 16, pn 17464103009754 16, pn 264722120318378 15, pn 113612858239056 15, pn 654670372077483 16, pp 0 0, pp 0 0, pn 103288605481978 14, pn 22460457804317 16, pp 5678 0, pp 1 0, pn 36646456632474 16, pn 19541106182032 16, pn 19541106182032 16, pn 19541106182032 16, pn 19541106182032 16, pn 131765117917127 13, pn 135671154387638 13, pn 133623262311194 13, pn 130372446342575 13, pn 125692540975515 13, pn 135447134758845 13, pn 135921349732623 13, pn 132339207024389 13, pn 128002794897861 13, pn 122695982003803 13, pn 123308001298452 13, pn 121698755272202 13, pn 116959797630289 13, pn 122333986497491 13, pn 12510410161393 12, pn 125923431216999 13, pn 128439745329129 13, pn 121777480844823 13, pn 118593647785657 13, pn 11804444179558 12, pn 121142462469832 13, pn 115814752023973 13, pn 111067335385713 13, pn 101759479134936 13, pn 105821524814869 13, pn 106343206573478 13, pn 102957648172588 13, pn 105876138192088 13, pn 102983221913863 13, pn 104100172745891 13, pn 954105912155431 14, pn 92061988422912 13, pn 923560835225823 14, pn 894890281613605 14, pn 863331449800178 14, pn 890330222760202 14, pn 861753650822939 14, pn 873043960813386 14, pn 890191381675154 14, pn 897364299113273 14, pn 89176223372478 13, pn 885602990652438 14, pn 871336834049569 14, pn 814493430760821 14, pn 806193923924054 14, pn 810580309437812 14, pn 80576360109753 13, pn 795546977852472 14, pn 832535959086163 14, pn 851828764271525 14, pn 82421982942709 13, pn 757475413106795 14, pn 755585562480679 14, pn 732186174188602 14, pn 730758564095614 14, pn 732487612842706 14, pn 712675597113578 14, pn 704330869881224 14, pn 714288005980228 14, pn 781182344868742 14, pn 796915186072029 14, pn 823451000036548 14, pn 784587871182739 14, pn 712764037265167 14, pn 666131393399 11, pn 699352410437298 14, pn 719188717677815 14, pn 697276457719086 14, pn 655421752436314 14, pn 648082832953994 14, pn 656566848327278 14, pn 711902281908279 14, pn 783895573137242 14, pn 764096146528843 14, pn 694021200906288 14, pn 607115406642223 14, pn 591021637879655 14, pn 609175294158978 14, pn 686569825118015 14, pn 717488652820295 14, pn 701018312255254 14, pn 676526707540319 14, pn 672483368837347 14, pn 743198537123365 14, pn 80439175937224 13, pn 776428348692479 14, pn 734149071778945 14, pn 676429455025779 14, pn 701459045895567 14, pn 779510321259551 14, pn 843731887227975 14, pn 87488747225436 13, pn 863482777511938 14, pn 860949004219189 14, pn 886735715057483 14, pn 954782869947557 14, pn 985162524360473 14, pn 961020114880305 14, pn 935316134007582 14, pn 925077198300266 14, pn 922838170825199 14, pn 978962870476616 14, pn 102276914068934 13, pn 105265536945391 13, pn 105170506984194 13, pn 106893685611045 13, pn 108511449739591 13, pn 115055733248075 13, pn 123923115081061 13, pn 125744583381476 13, pn 120828382495962 13, pn 11419725131072 12, pn 109218878366773 13, pn 110946840464384 13, pn 117799568202953 13, pn 121154824502632 13, pn 119948610064881 13, pn 118893639888132 13, pn 120853390324743 13, pn 129598968320388 13, pn 796 3, pp 1795 0, pn 53100002 6, pn 22554 4]⟩

def row99 : Row := ⟨"PHL", "Philippines", [pp 11 7, pp 49957 1, pp 7897 1, pp 30007 1, pn 106306229291815 13, pp 15 3, pp 1393586 0, pp 1499853 0, pp 114563 0, pp 191057 3, pp 16639175 0, pp 5655187 0, pp 5433 0, pn 8130000000000001 9, pp 255 4, pp 22 4, pp 1016 4, pp 59 4, pp 168 4, pn 3682207052847419 8, pn 31192221936384984 10, pn 26008897815842857 10, nn 271302047389252 16, nn 5320079880579819 16, nn 8364682550224155 16, nn 8500395324395983 16, nn 7954555649835826 16, nn 7033896819599146 16, nn 5143407943315375 16, nn 3267974793406131 16, nn 3805618204437841 16, nn 426199358577705 16, nn 504582193963728 16, nn 35057325155138 14, nn 511669179120649 15, nn 594853332863543 15, nn 651794259422789 15, nn 7196353963054309 16, nn 717742052296326 15, nn 6608501650260991 16, nn 583629988765056 15, nn 52974267952301 14, pn 2919195237 11, pn 2919195237 11, pn 2919195237 11, pn 1415842991 14, pp 0 0, pp 0 0, pn 2208080476 10, pn 2208080476 10, pn 2208080476 10, pn 2208080476 10, pp 0 0, pn 2917779394 11, pn 13158541125 3, pn 120926100833333 7, pn 110266790416667 7, pp 9386298 0, pn 7745638208333329 9, pn 610497841666667 8, pn 881156925 2, pn 115181600833333 7, pn 142247509166667 7, pn 1693134175 2, pn 158651319583333 7, pn 147992009166667 7, pn 59571257099632 16, pp 0 0, pp 0 0, pp 0 0, pn 17464103009754 16, pn 208217048167013 15, pn 856068305676185 16, pn 486773904145691 16, pp 0 0, pp 0 0, pn 190073154010928 14, pn 41332052412507 16, pp 1094 1, pp 1 0, pn 70608002035798 16, pn 293756090405867 16, pn 293756090405867 16, pn 293756090405867 16, pn 293756090405867 16, pn 738188603099597 14, pn 757479716211206 14, pn 731699709473729 14, pn 705430750350524 14, pn 687338433832743 14, pn 795299112690715 14, pn 830333616471744 14, pn 812368381228524 14, pn 778068087985086 14, pn 748701715935825 14, pn 752005113181844 14, pn 732271779610562 14, pn 693590976750372 14, pn 727812852953366 14, pn 754468037372836 14, pn 773260169614504 14, pn 805818636968126 14, pn 774330085591313 14, pn 750563109056063 14, pn 747440133170175 14, pn 762695576664173 14, pn 727659182268458 14, pn 697984789053364 14, pn 636361807565005 14, pn 652220950156572 14, pn 647669254877945 14, pn 62968900044344 13, pn 64539878346922 13, pn 640086654344458 14, pn 651356846029006 14, pn 601390622174368 14, pn 577103913675967 14, pn 572871769995356 14, pn 559496922353865 14, pn 536428317733237 14, pn 550561966384626 14, pn 529099902459708 14, pn 533887707193429 14, pn 539838233363766 14, pn 542600422771444 14, pn 544326564186521 14, pn 547003101824272 14, pn 536252510633841 14, pn 504154761125837 14, pn 493787440520104 14, pn 490217087972034 14, pn 488511152208344 14, pn 489727662409337 14, pn 510377714538339 14, pn 519720078001101 14, pn 498782291983723 14, pn 454482938957933 14, pn 454705739524976 14, pn 446333389401621 14, pn 445830063314738 14, pn 445846481694094 14, pn 427681012306218 14, pn 419644833246349 14, pn 431671598846416 14, pn 478276376466785 14, pn 491020623496537 14, pn 503723066898408 14, pn 470698278064076 14, pn 423268378375951 14, pn 39911005869666 13, pn 422770228938183 14, pn 436797083980407 14, pn 425280100661151 14, pn 399780468635756 14, pn 391073517950807 14, pn 399213976545181 14, pn 431873181569407 14, pn 483282631761537 14, pn 473010088960502 14, pn 422531223446104 14, pn 361935914049171 14, pn 352442303324941 14, pn 372047035623454 14, pn 425507899320128 14, pn 440694552133375 14, pn 423554319137249 14, pn 406364860529166 14, pn 407357513036482 14, pn 454020305803419 14, pn 494853907261553 14, pn 473669483165277 14, pn 435693181793555 14, pn 394307487720591 14, pn 406000727030721 14, pn 461609827611477 14, pn 51000990877028 13, pn 523402310837699 14, pn 511101299388835 14, pn 506866665448126 14, pn 522481896696865 14, pn 565630651505209 14, pn 589916778785712 14, pn 569255204645282 14, pn 543570826919295 14, pn 536928457457119 14, pn 531005903076548 14, pn 573258342372132 14, pn 610818950262508 14, pn 622992645197713 14, pn 617378914991634 14, pn 619176996358243 14, pn 632946633015541 14, pn 675434740524295 14, pn 729865971721998 14, pn 735007902274633 14, pn 689666523112863 14, pn 644986738920614 14, pn 61811454067394 13, pn 642490944835852 14, pn 701993414500697 14, pn 73221642371832 13, pn 713369326173758 14, pn 691922912038113 14, pn 699586536485121 14, pn 753986987835428 14, pn 796 3, pn 28956 1, pn 568 1, pn 11955999 7]⟩

def row100 : Row := ⟨"QAT", "Qatar", [pp 288106 1, pp 0 0, pp 0 0, pp 0 0, pn 214983992233581 15, pp 52 3, pp 34761 0, pp 0 0, pp 1512 0, pp 1228 3, pp 1480553 0, pp 181514 0, pp 53 2, pp 0 0, pp 0 0, pp 0 0, pp 0 0, pp 0 0, pp 0 0, pn 15746247733048363 12, pn 3032201075037852 13, pn 13157230835975631 13, pn 5064630655000001 15, np 1 0, np 1 0, pn 193707757570456 14, pn 1937077576 9, nn 9999999999999988 16, nn 9999999999999988 16, nn 9999999999999988 16, nn 9999999999999988 16, nn 9999999999999988 16, nn 45349257441934 16, nn 6488065646295069 16, nn 919453025569103 15, nn 9971048889863988 16, nn 969100674561576 15, nn 9682324041561908 16, nn 862807158621687 15, nn 561151490409773 15, nn 313675271079534 15, nn 307683707835707 15, pn 1175496689 10, pn 1175496689 10, pn 1175496689 10, pn 1175496689 10, pn 1324503311 10, pn 1324503311 10, pn 1324503311 10, pn 1324503311 10, pp 0 0, pp 0 0, pp 0 0, pp 0 0, pp 6 2, pp 6 2, pp 6 2, pp 6 2, pp 6 2, pp 6 2, pp 6 2, pp 6 2, pp 6 2, pp 6 2, pp 6 2, pp 6 2, pn 451000913432071 16, pn 11014039445705 16, pn 37776501041637 16, pn 297483136625652 16, pn 17464103009754 16, pn 46705319428062 14, pn 23780203820796 14, pn 145677837611859 15, pp 0 0, pp 0 0, pp 0 0, pp 0 0, pp 17 0, pp 1 0, pn 109719930037347 19, pn 4557432800531 16, pn 4557432800531 16, pn 4557432800531 16, pn 5 4, pn 125307230730804 14, pn 125367846568973 14, pn 116446966839296 14, pn 103527954468509 14, pn 961512922389098 15, pn 932072750118132 15, pn 804617605532861 15, pn 780306824251848 15, pn 820221624164208 15, pn 823418956292081 15, pn 775359495051149 15, pn 637903450301987 15, pn 588870255322997 15, pn 625494423262561 15, pn 699798427051329 15, pn 756385592285336 15, pn 77247750350272 14, pn 690685779521733 15, pn 623627098494677 15, pn 633497019919744 15, pn 654585219628031 15, pn 678221661285326 15, pn 642235920927908 15, pn 558452461567825 15, pn 550726354911298 15, pn 533241914274222 15, pn 559077587932166 15, pn 571602426565577 15, pn 585972414384307 15, pn 507581060856766 15, pn 476498579339626 15, pn 460375197883433 15, pn 495445346912131 15, pn 555511373771659 15, pn 535378583926726 15, pn 522042355245346 15, pn 509751643933992 15, pn 505917636988734 15, pn 503919661751173 15, pn 513327853544145 15, pn 514175353449103 15, pn 470236486652447 15, pn 433099151096754 15, pn 417731034252111 15, pn 4589048904543 13, pn 511477485927674 15, pn 521946469376341 15, pn 540108889789081 15, pn 539886903447276 15, pn 545419791111906 15, pn 546698827321603 15, pn 533937100159938 15, pn 532207116287776 15, pn 472239303610618 15, pn 395591548892984 15, pn 381781037642599 15, pn 433423576206002 15, pn 492862261945019 15, pn 537514092314661 15, pn 559213168164554 15, pn 587997598217513 15, pn 627624656363427 15, pn 632472485464784 15, pn 582125310182791 15, pn 531199123198026 15, pn 470782512469459 15, pn 410639172226025 15, pn 403227449169194 15, pn 453669790475513 15, pn 525221394490141 15, pn 571830375386405 15, pn 580750441197102 15, pn 635296453090261 15, pn 701827805097738 15, pn 671723616673777 15, pn 60179402313819 14, pn 521390490430414 15, pn 469530619023012 15, pn 427651558855648 15, pn 42963081978582 14, pn 46603564184307 14, pn 542606388967509 15, pn 59108300019918 14, pn 624642198498689 15, pn 69867140533179 14, pn 779970043657163 15, pn 753118024156137 15, pn 640722574308407 15, pn 571390153768085 15, pn 520382505764622 15, pn 489644817171928 15, pn 461562953165597 15, pn 530046869432579 15, pn 577838810697034 15, pn 641354741404765 15, pn 706086788708845 15, pn 843711957844599 15, pn 913032033112738 15, pn 861700119798149 15, pn 770884355522217 15, pn 661651634721807 15, pn 618783982018184 15, pn 582799506486546 15, pn 517420687334327 15, pn 556261710999006 15, pn 599625826339062 15, pn 691953757070279 15, pn 869444160023993 15, pn 101924075948968 14, pn 107132482822279 14, pn 102067889731294 14, pn 846024469766208 15, pn 756059933939122 15, pn 66355912632032 14, pn 627535784479301 15, pn 600794739829099 15, pn 594746238383821 15, pn 648169213504355 15, pn 767347509266252 15, pn 906179412169381 15, pn 796 3, pn 1176 1, pp 0 0, pp 3 0]⟩

def row101 : Row := ⟨"RUS", "Russian Federation", [pp 144 6, pp 89764 1, pp 16724 1, pp 49231 1, pn 196493144647051 12, pp 31354 3, pp 4576733 0, pp 4281613 0, pp 1633742 0, pp 534374 3, pp 47780737 0, pp 19455347 0, pp 6571603 0, pp 465 4, pp 207 4, pp 5 4, pp 403 5, pp 208 4, pp 964 4, pn 14137496569617534 8, pn 93561968359486 7, pn 2079004965217724 8, np 1 0, np 1 0, np 1 0, nn 9990647920098924 16, nn 9987167463031288 16, nn 9747009418550214 16, nn 9180211836158102 16, nn 7841229741731227 16, nn 534094087264386 15, nn 4392800685798017 16, nn 8172326369589641 16, nn 992016017193735 15, nn 996684433473022 15, nn 996465888712285 15, nn 989609456992264 15, nn 95142517896662 14, nn 838001756791868 15, nn 786756884713695 15, nn 7372794678368351 16, nn 614449284013049 15, pn 4666368397 11, pn 1601797007 12, pn 1601797007 12, pn 1601797007 12, pp 0 0, pp 0 0, pn 194020157 9, pn 194020157 9, pn 203336316 9, pn 248398203 9, pn 5437804599 11, pn 5437804599 11, pn 55052119875 3, pn 472993961666667 7, pn 395466724583333 7, pn 3179394875 2, pn 23889285041666698 9, pn 159846213333333 7, pn 2648392675 2, pn 360995389166667 7, pn 474825375833334 7, pp 63139925 0, pn 603933432916667 7, pn 577987015833333 7, pn 242992539594663 16, pn 177150771411 15, pn 14088529271775 16, pn 10350938956541 16, pn 17464103009754 16, pn 361666996211525 15, pn 167852302210912 15, pn 992962569678323 16, pp 6366 3, pn 42020317318479 15, pn 694686052011675 14, pn 151061839644824 16, pp 123442 0, pp 1 0, pn 796708682568837 16, pp 0 0, pp 0 0, pp 0 0, pp 0 0, pp 0 0, pp 0 0, pp 0 0, pp 0 0, pp 0 0, pp 0 0, pp 0 0, pp 0 0, pp 0 0, pp 0 0, pp 0 0, pp 0 0, pp 0 0, pp 0 0, pp 0 0, pp 0 0, pp 0 0, pp 0 0, pp 0 0, pp 0 0, pp 0 0, pp 0 0, pp 0 0, pp 0 0, pp 0 0, pp 0 0, pp 0 0, pp 0 0, pp 0 0, pp 0 0, pp 0 0, pp 0 0, pp 0 0, pp 0 0, pp 0 0, pp 0 0, pp 0 0, pp 0 0, pp 0 0, pp 0 0, pp 0 0, pp 0 0, pp 0 0, pp 0 0, pp 0 0, pp 0 0, pp 0 0, pp 0 0, pp 0 0, pp 0 0, pp 0 0, pp 0 0, pp 0 0, pp 0 0, pp 0 0, pp 0 0, pp 0 0, pp 0 0, pp 0 0, pp 0 0, pp 0 0, pp 0 0, pp 0 0, pp 0 0, pp 0 0, pp 0 0, pp 0 0, pp 0 0, pp 0 0, pp 0 0, pp 0 0, pp 0 0, pp 0 0, pp 0 0, pp 0 0, pp 0 0, pp 0 0, pp 0 0, pp 0 0, pp 0 0, pp 0 0, pp 0 0, pp 0 0, pp 0 0, pp 0 0, pp 0 0, pp 0 0, pp 0 0, pp 0 0, pp 0 0, pp 0 0, pp 0 0, pp 0 0, pp 0 0, pp 0 0, pp 0 0, pp 0 0, pp 0 0, pp 0 0, pp 0 0, pp 0 0, pp 0 0, pp 0 0, pp 0 0, pp 0 0, pp 0 0, pp 0 0, pp 0 0, pp 0 0, pp 0 0, pp 0 0, pp 0 0, pp 0 0, pp 0 0, pp 0 0, pp 0 0, pp 0 0, pp 0 0, pp 0 0, pp 0 0, pn 796 3, pn 31639001 4, pn 929 1, pn 18855 4]⟩

def row102 : Row := ⟨"RWA", "Rwanda", [pp 12952209 0, pp 489 1, pp 71 1, pp 309 1, pn 358369848803903 14, pp 252 3, pp 19336 0, pp 13547 0, pp 34776 0, pp 6984 3, pp 4868402 0, pp 1333158 0, pp 335087 0, pp 5 4, pp 2 4, pp 0 0, pp 5 4, pp 0 0, pp 1 4, pn 23341387104006973 10, pn 57474810009213244 12, pn 24671317580112536 11, nn 2002497550985544 16, nn 738383716991777 15, nn 6407188748983432 16, nn 7668447581231521 16, np 1 0, nn 5872249418588553 16, nn 6341490375620534 16, nn 8311550559404115 16, nn 7080867050971033 16, nn 5897405504273674 16, pn 173818592280012 16, nn 78211576982708 14, nn 741835618836758 15, nn 463671605848834 15, nn 747344471396596 15, nn 805379932846641 15, nn 848963874251899 15, nn 883811358427282 15, nn 905002411911758 15, nn 911831517172821 15, pn 2092747859 10, pn 2092747859 10, pn 2092747859 10, pn 2092747859 10, pn 6239860227 12, pn 6239860227 12, pn 4072521407 11, pn 4072521407 11, pn 3448535384 11, pn 3448535384 11, pp 0 0, pp 0 0, pp 75394 0, pn 132916625 3, pn 19043925 2, pn 247961875 3, pn 212750125 3, pn 177538375 3, pn 1580775 1, pn 138616625 3, pn 11630575 2, pn 93994875 3, pn 55933125 3, pn 11345575 2, pn 589850425299053 16, pp 0 0, pp 0 0, pn 804347826086956 16, pn 17464103009754 16, pp 0 0, pp 0 0, pp 0 0, pp 0 0, pp 0 0, pn 476252943605337 16, pn 1035628189006 16, pp 1402 0, pp 1 0, pn 9048667171315 16, pp 0 0, pp 0 0, pp 0 0, pp 0 0, pp 0 0, pp 0 0, pp 0 0, pp 0 0, pp 0 0, pp 0 0, pp 0 0, pp 0 0, pp 0 0, pp 0 0, pp 0 0, pp 0 0, pp 0 0, pp 0 0, pp 0 0, pp 0 0, pp 0 0, pp 0 0, pp 0 0, pp 0 0, pp 0 0, pp 0 0, pp 0 0, pp 0 0, pp 0 0, pp 0 0, pp 0 0, pp 0 0, pp 0 0, pp 0 0, pp 0 0, pp 0 0, pp 0 0, pp 0 0, pp 0 0, pp 0 0, pp 0 0, pp 0 0, pp 0 0, pp 0 0, pp 0 0, pp 0 0, pp 0 0, pp 0 0, pp 0 0, pp 0 0, pp 0 0, pp 0 0, pp 0 0, pp 0 0, pp 0 0, pp 0 0, pp 0 0, pp 0 0, pp 0 0, pp 0 0, pp 0 0, pp 0 0, pp 0 0, pp 0 0, pp 0 0, pp 0 0, pp 0 0, pp 0 0, pp 0 0, pp 0 0, pp 0 0, pp 0 0, pp 0 0, pp 0 0, pp 0 0, pp 0 0, pp 0 0, pp 0 0, pp 0 0, pp 0 0, pp 0 0, pp 0 0, pp 0 0, pp 0 0, pp 0 0, pp 0 0, pp 0 0, pp 0 0, pp 0 0, pp 0 0, pp 0 0, pp 0 0, pp 0 0, pp 0 0, pp 0 0, pp 0 0, pp 0 0, pp 0 0, pp 0 0, pp 0 0, pp 0 0, pp 0 0, pp 0 0, pp 0 0, pp 0 0, pp 0 0, pp 0 0, pp 0 0, pp 0 0, pp 0 0, pp 0 0, pp 0 0, pp 0 0, pp 0 0, pp 0 0, pp 0 0, pp 0 0, pp 0 0, pp 0 0, pp 0 0, pp 0 0, pp 0 0, pp 0 0, pp 0 0, pn 796 3, pn 23740001 5, pn 38100002 6, pp 3 0]⟩

def row103 : Row := ⟨"SAU", "Saudi Arabia", [pp 34813867 0, pp 2001 1, pp 263 1, pp 1288 1, pp 0 0, pp 2682 3, pp 9 5, pp 0 0, pp 42 3, pp 202356 3, pp 15546699 0, pp 133084 1, pp 224541 0, pp 56 4, pp 16 4, pp 1 4, pp 1051 4, pp 32 4, pp 152 4, pn 20370127469291608 10, pn 10740730806063033 11, pn 19240668646085297 11, nn 4227878194764756 16, pn 2226972631050813 16, pn 222806950893546 15, pn 10849081126072415 16, pn 6810339580735184 16, pn 11080749528025604 16, pn 3885227198346697 16, pn 4250625043044742 16, pn 884045156883581 16, pn 767095257720513 16, nn 1382154879079599 16, nn 6640903311516859 16, nn 785582842711414 15, nn 9001433226916581 16, nn 933588016741309 15, nn 927328902374212 15, nn 916826661959975 15, nn 6327884900723459 16, nn 443898830377692 15, pn 116610065310767 15, pn 1751445437 11, pp 0 0, pp 0 0, pp 0 0, pp 0 0, pp 0 0, pn 2324855456 10, pn 2324855456 10, pn 2324855456 10, pn 25 2, pn 1751445437 11, pn 1751445437 11, pn 6297612666666671 9, pn 6285238958333329 9, pn 627286525 2, pn 626049154166667 8, pn 624811783333333 8, pn 6235744125 3, pn 6257890916666671 9, pn 628003770833333 8, pn 63021845 1, pn 632693191666667 8, pn 631715883333333 8, pn 630738575 2, pn 22398981518256 15, pp 0 0, pp 0 0, pn 52418980406723 15, pn 17464103009754 16, pn 413042877363939 15, pn 200336964108781 15, pn 120433369026839 15, pp 0 0, pp 0 0, pn 416609912584871 14, pn 90593239387915 16, pp 3598 0, pp 1 0, pn 23221900486728 16, pn 21370555228071 16, pn 21370555228071 16, pn 21370555228071 16, pn 21370555228071 16, pn 125307230730804 14, pn 125367846568973 14, pn 116446966839296 14, pn 103527954468509 14, pn 961512922389098 15, pn 932072750118132 15, pn 804617605532861 15, pn 780306824251848 15, pn 820221624164208 15, pn 823418956292081 15, pn 775359495051149 15, pn 637903450301987 15, pn 588870255322997 15, pn 625494423262561 15, pn 699798427051329 15, pn 756385592285336 15, pn 77247750350272 14, pn 690685779521733 15, pn 623627098494677 15, pn 633497019919744 15, pn 654585219628031 15, pn 678221661285326 15, pn 642235920927908 15, pn 558452461567825 15, pn 550726354911298 15, pn 533241914274222 15, pn 559077587932166 15, pn 571602426565577 15, pn 585972414384307 15, pn 507581060856766 15, pn 476498579339626 15, pn 460375197883433 15, pn 495445346912131 15, pn 555511373771659 15, pn 535378583926726 15, pn 522042355245346 15, pn 509751643933992 15, pn 505917636988734 15, pn 503919661751173 15, pn 513327853544145 15, pn 514175353449103 15, pn 470236486652447 15, pn 433099151096754 15, pn 417731034252111 15, pn 4589048904543 13, pn 511477485927674 15, pn 521946469376341 15, pn 540108889789081 15, pn 539886903447276 15, pn 545419791111906 15, pn 546698827321603 15, pn 533937100159938 15, pn 532207116287776 15, pn 472239303610618 15, pn 395591548892984 15, pn 381781037642599 15, pn 433423576206002 15, pn 492862261945019 15, pn 537514092314661 15, pn 559213168164554 15, pn 587997598217513 15, pn 627624656363427 15, pn 632472485464784 15, pn 582125310182791 15, pn 531199123198026 15, pn 470782512469459 15, pn 410639172226025 15, pn 403227449169194 15, pn 453669790475513 15, pn 525221394490141 15, pn 571830375386405 15, pn 580750441197102 15, pn 635296453090261 15, pn 701827805097738 15, pn 671723616673777 15, pn 60179402313819 14, pn 521390490430414 15, pn 469530619023012 15, pn 427651558855648 15, pn 42963081978582 14, pn 46603564184307 14, pn 542606388967509 15, pn 59108300019918 14, pn 624642198498689 15, pn 69867140533179 14, pn 779970043657163 15, pn 753118024156137 15, pn 640722574308407 15, pn 571390153768085 15, pn 520382505764622 15, pn 489644817171928 15, pn 461562953165597 15, pn 530046869432579 15, pn 577838810697034 15, pn 641354741404765 15, pn 706086788708845 15, pn 843711957844599 15, pn 913032033112738 15, pn 861700119798149 15, pn 770884355522217 15, pn 661651634721807 15, pn 618783982018184 15, pn 582799506486546 15, pn 517420687334327 15, pn 556261710999006 15, pn 599625826339062 15, pn 691953757070279 15, pn 869444160023993 15, pn 101924075948968 14, pn 107132482822279 14, pn 102067889731294 14, pn 846024469766208 15, pn 756059933939122 15, pn 66355912632032 14, pn 627535784479301 15, pn 600794739829099 15, pn 594746238383821 15, pn 648169213504355 15, pn 767347509266252 15, pn 906179412169381 15, pn 796 3, pn 53410004 5, pp 0 0, pn 13948 4]⟩

def row104 : Row := ⟨"SEN", "Senegal", [pn 16743929999999998 9, pp 9779 1, pp 1647 1, pp 5688 1, pn 7493018511859359 15, pp 251 3, pp 122823 0, pp 1947 1, pp 77007 0, pp 88495 3, pp 14309698 0, pp 4784707 0, pp 698942 0, pp 66 4, pp 2 5, pp 5 4, pp 47 4, pp 3 4, pp 8 4, pn 570632748596051 8, pn 6621612839692526 10, pn 6525187407274939 10, nn 424499145014269 16, nn 3525806242880282 16, nn 4674904882591613 16, nn 5313611948402045 16, nn 4796099225883463 16, nn 3036635071370315 16, nn 1287709995733793 16, nn 92738151111959 15, pn 170078483678834 15, nn 30443817829248 16, nn 36602892348807 14, nn 278631209691955 15, nn 629324139395094 15, nn 655730779576078 15, nn 539633947445025 15, nn 210913737375343 15, nn 36620143787307 14, nn 13821056750433 14, nn 203830813609023 15, nn 382553588399766 15, pn 2250924951 10, pp 0 0, pp 0 0, pp 0 0, pn 2490750494 11, pn 2490750494 11, pn 2490750494 11, pn 2490750494 11, pp 0 0, pn 2250924951 10, pn 2250924951 10, pn 2250924951 10, pn 111468766666667 8, pn 103439058333333 8, pn 9540935 1, pn 873796416666667 9, pn 817499333333333 9, pn 76120225 2, pn 704905166666667 9, pn 648608083333333 9, pp 568311 0, pn 704905166666667 9, pn 841499333333333 9, pn 9780935 1, pn 580165761646185 16, pp 0 0, pp 0 0, pn 672371638141809 16, pn 17464103009754 16, pn 42599397115418 16, pn 15207639792533 16, pn 831735876235 15, pp 0 0, pp 0 0, pn 114268398790046 15, pn 2484805112252 16, pp 3278 0, pp 1 0, pn 21156584156613 16, pn 4298395767464 16, pn 4298395767464 16, pn 4298395767464 16, pn 5 4, pn 771607399396715 14, pn 790359758188264 14, pn 742419538469948 14, pn 709039833157311 14, pn 708938599504164 14, pn 938218715471886 14, pn 105132559153571 13, pn 10356823910165 12, pn 972154152560229 14, pn 936803432140237 14, pn 945399377055903 14, pn 916037441079471 14, pn 852287928415926 14, pn 897549251558929 14, pn 942383253274079 14, pn 984907637444992 14, pn 105581070726281 13, pn 103614687037354 13, pn 100339013946216 13, pn 998526279562753 14, pn 10112035833314 12, pn 957007860437111 14, pn 919057421210167 14, pn 835645385188876 14, pn 84337496682989 13, pn 826251507471634 14, pn 803582760811221 14, pn 820274725830221 14, pn 831830502456318 14, pn 862310704542435 14, pn 802416096433711 14, pn 764654337010437 14, pn 745509940069031 14, pn 728049348070824 14, pn 69241564500686 13, pn 709151440869142 14, pn 674570892162787 14, pn 678027397068027 14, pn 678931352241027 14, pn 679104183846643 14, pn 689799923489872 14, pn 708382666155133 14, pn 694110782742278 14, pn 656197749191479 14, pn 629277908590828 14, pn 608923205885523 14, pn 607575208589868 14, pn 619625120396631 14, pn 644608494184126 14, pn 652789490620589 14, pn 61745716379192 13, pn 552579693751012 14, pn 555310944465471 14, pn 559590063655201 14, pn 567172470959303 14, pn 566873728475315 14, pn 527025082184477 14, pn 505317403663322 14, pn 526975381327553 14, pn 597725467715156 14, pn 617346924595832 14, pn 624955735022335 14, pn 56425971446301 13, pn 498828566844408 14, pn 478078870371178 14, pn 521880025130304 14, pn 550138617040804 14, pn 538241099347448 14, pn 498552674423402 14, pn 472615581449414 14, pn 483892043769625 14, pn 525642218680233 14, pn 602422676838343 14, pn 584751339842891 14, pn 506400107764647 14, pn 41851293319147 13, pn 414166223052128 14, pn 460012750809084 14, pn 547188716956803 14, pn 561631921601249 14, pn 523041080972186 14, pn 488307235150428 14, pn 490480870252182 14, pn 556398160437023 14, pn 610302821879239 14, pn 566583096437635 14, pn 497618671186106 14, pn 442420750705154 14, pn 459404119819786 14, pn 553280910998416 14, pn 637333357365673 14, pn 649163164942178 14, pn 61681643371131 13, pn 601867111055487 14, pn 616574500892636 14, pn 671500405697186 14, pn 700216616212204 14, pn 655442295744269 14, pn 609226334770487 14, pn 60861973851887 13, pn 604014374932264 14, pn 678933758437962 14, pn 751407759449525 14, pn 764580497405798 14, pn 744805504033063 14, pn 728631550330372 14, pn 744530025943686 14, pn 788802473089736 14, pn 848442688406411 14, pn 840445390186864 14, pn 758647854647678 14, pn 708385256678026 14, pn 686548844960182 14, pn 751648517231681 14, pn 865230983024632 14, pn 925021552145735 14, pn 881147254034081 14, pn 822015415882584 14, pn 813490955281308 14, pn 875353339085468 14, pn 796 3, pn 1071 1, pn 532 1, pn 14434999 7]⟩

end Allfed.Gen.CountryTable
