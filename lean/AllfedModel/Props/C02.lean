import AllfedModel.Proofs.Certificate
import AllfedModel.Proofs.Completeness
/-!
# C02 — percent fed is the true optimum of the allocation problem

What is proved for all inputs: the objective of the LP the code builds is *sound* (never exceeds
what the allocation really feeds in its worst month / the weighted feed-and-biofuel total), and a
certificate checker that turns any vector of row multipliers into a valid upper bound of the
objective.  What is certified per instance (by the check, in exact rational arithmetic with this
checker): the value CBC reported is within 10⁻⁴ of that upper bound.
Completeness: the feasible points of `buildLP` are exactly the physically feasible allocations of
`Model/AllocSpec.lean` (`PhysFeasible`, `PhysFeasibleFeed`: written from the supplies and the
decision quantities only), and the objective values the LP can reach are exactly the numbers between
0 and the worst-month percentage (the weighted feed-and-biofuel total) of such an allocation — so
the LP's optimum is the true optimum.
-/
namespace Allfed.C02
open Allfed.LP Allfed.AllocLP Allfed.Certificate Allfed.PhysSpec Allfed.AllocSpec Allfed.Report Allfed.Proofs.LP Allfed.Proofs.Certificate

variable {K : Type} [Field K] [LinearOrder K] [IsStrictOrderedRing K]

/-- `Kcals_Fed_Month_m_Objective` -/
theorem objective_le_every_month (i : Inp K) (x : Var → K) (h : Feasible (buildLP i .toHumans) x)
    (m : Nat) (hm : m < i.nmonths) : x .objective ≤ x (.mv .consumedKcals m) :=
  Proofs.LP.objective_le_month h hm

/-- a month's percent fed is what people are really given that month (allocations to humans
    plus milk, greenhouse and fish), relative to the monthly requirement -/
theorem consumed_is_percent_of_need (i : Inp K) (x : Var → K) (h : Feasible (buildLP i .toHumans) x)
    (m : Nat) (hm : m < i.nmonths) :
    x (.mv .consumedKcals m) =
      (X x i.addStored .sfHumans m + X x i.addOutdoor .cropHumans m + X x i.addSeaweed .swHumans m * i.seaweedKcals
        + at' i.milk m + X x i.addMeat .meatEaten m + X x i.addCs .csHumans m + X x i.addScp .scpHumans m
        + at' i.greenhouse m + at' i.fish m) / i.billionKcalsNeeded * 100 :=
  Proofs.LP.kcals_fed h hm

/-- `Nonhuman_Consumption_All_Months_Objective`: feed weighs twice biofuel -/
theorem objective_le_weighted_total (i : Inp K) (x : Var → K) (h : Feasible (buildLP i .toAnimals) x) :
    x .objective ≤ 2 / 3 * (List.range i.nmonths).foldl (fun acc m => acc + feedTotal i x m) 0
                  + (List.range i.nmonths).foldl (fun acc m => acc + biofuelTotal i x m) 0 / 3 :=
  Proofs.LP.objective_le_nonhuman h

theorem normalise_eval (x : Var → K) (l : List (Var × K)) : Aff.sumTerms x (normalise l) = Aff.sumTerms x l := by
  unfold normalise
  rw [normalise_fold_eval, sumTerms_nil, add_zero]

/-- weak duality with residual absorption: for ANY multipliers `y` -/
theorem dualBound_sound (rows : List (Row K)) (y : List K) (ub : Var → Option K) (b : K) (x : Var → K)
    (hx : Feasible rows x) (hub : ∀ v u, ub v = some u → x v ≤ u)
    (hb : dualBound rows y ub = some b) : x .objective ≤ b := by
  unfold dualBound at hb
  split_ifs at hb with hs
  rw [Bool.not_eq_true', ← Bool.not_eq_true, not_not] at hs
  dsimp only at hb
  split at hb
  · exact absurd hb (by simp)
  · rename_i s ha
    obtain rfl := Option.some.inj hb
    -- objective − Σ yᵢ·(lhsᵢ − rhsᵢ) ≤ s + const, and the combination is ≤ 0
    have h1 := absorb_sound x ub hx.2 hub _ s ha
    have h2 : Aff.sumTerms x (Aff.neg (combo rows y)).terms = -Aff.sumTerms x (combo rows y).terms :=
      (sumTerms_map x (-·) (-1) (fun _ => by ring) _).trans (by ring)
    have h3 := combo_nonpos x rows y hs hx.1
    rw [normalise_eval, sumTerms_cons, h2] at h1
    rw [eval_def] at h3
    linarith

/-- the variable bounds used by the checker hold at every feasible point of the code's LP -/
theorem ubOf_valid (i : Inp K) (kind : Kind) (x : Var → K) (hw : WellFormed i)
    (h : Feasible (buildLP i kind) x) : ∀ v u, ubOf i kind v = some u → x v ≤ u :=
  Proofs.Certificate.ubOf_valid i kind x hw h

/-- the per-instance certificate: whatever the solver's duals are, the number the checker prints
    bounds the objective of every feasible point of the LP the code builds -/
theorem certificate_sound (i : Inp K) (kind : Kind) (y : List K) (b : K) (hw : WellFormed i)
    (hb : dualBound (buildLP i kind) y (ubOf i kind) = some b) :
    ∀ x, Feasible (buildLP i kind) x → x .objective ≤ b :=
  fun x hx => dualBound_sound _ y _ b x hx (ubOf_valid i kind x hw hx) hb

/-- a two-row LP whose exact optimum the checker certifies -/
example : dualBound
    ([⟨"cap", Aff.var (.mv .scpHumans 0), .le, Aff.k (5 : ℚ)⟩,
      ⟨"obj", Aff.var .objective, .le, Aff.var (.mv .scpHumans 0)⟩] : List (Row ℚ))
    [1, 1] (fun _ => none) = some 5 := by decide +kernel

/-! ## completeness, human-maximising rounds

Hypotheses of the completeness direction: wastes of stored food, crops and meat below 100 %
(otherwise the gross-up `1/(1 − w/100)` is not positive and the LP's sign constraints on
`Crops_Food_Consumed`, `Stored_Food_Start_0`, `Meat_Start_0` are not physical ones). -/

theorem sound_humans (i : Inp K) (x : Var → K) (hN : 2 ≤ i.nmonths)
    (h : Feasible (buildLP i .toHumans) x) :
    PhysFeasible i (allocOf x) ∧ x .objective ≤ minOver (pct i (allocOf x)) i.nmonths :=
  Proofs.Completeness.sound_humans i x hN h

theorem complete_humans (i : Inp K) (a : Alloc K) (hN : 2 ≤ i.nmonths)
    (hw : i.wStored < 100 ∧ i.wCrop < 100 ∧ i.wMeat < 100) (ha : PhysFeasible i a) :
    ∃ x, Feasible (buildLP i .toHumans) x ∧ allocOf x = a ∧
      x .objective = minOver (pct i a) i.nmonths :=
  Proofs.Completeness.complete_humans i a hN hw ha

theorem lp_optimum_is_true_optimum (i : Inp K) (hN : 2 ≤ i.nmonths)
    (hw : i.wStored < 100 ∧ i.wCrop < 100 ∧ i.wMeat < 100) (z : K) :
    (∃ x, Feasible (buildLP i .toHumans) x ∧ x .objective = z) ↔
    (∃ a, PhysFeasible i a ∧ 0 ≤ z ∧ z ≤ minOver (pct i a) i.nmonths) :=
  Proofs.Completeness.lp_optimum_is_true_optimum i hN hw z

/-- hence a certified bound of the LP's objective (`certificate_sound`) bounds the percent fed of
    every physically feasible allocation, and conversely -/
theorem lp_bound_iff_true_bound (i : Inp K) (hN : 2 ≤ i.nmonths)
    (hw : i.wStored < 100 ∧ i.wCrop < 100 ∧ i.wMeat < 100) (b : K) :
    (∀ x, Feasible (buildLP i .toHumans) x → x .objective ≤ b) ↔
    (∀ a, PhysFeasible i a → minOver (pct i a) i.nmonths ≤ b) :=
  Proofs.Completeness.lp_bound_iff_true_bound i hN hw b

/-- the instance has 3 months, stored food, crops and meat -/
example : ∃ (i : Inp ℚ) (a : Alloc ℚ), 2 ≤ i.nmonths ∧ PhysFeasible i a ∧ 0 < minOver (pct i a) i.nmonths := by
  obtain ⟨i, x, hN, -, -, -, hx, hpos⟩ := Proofs.LP.feasible_nonvacuous
  obtain ⟨h1, h2⟩ := sound_humans i x hN hx
  exact ⟨i, allocOf x, hN, h1, lt_of_lt_of_le hpos h2⟩

/-! ## completeness, feed-maximising round

`PhysFeasibleFeed i a`: the supply clauses of `PhysFeasible` without the obligation to use stocks
up; the ceilings; people's consumption of each of the LP foods pinned as `pinnedRows` does, seaweed
from below only (the code adds no row `Seaweed_Max_Requirement`); the feed/biofuel share caps; no
percent-fed variable, no human intake caps.  `feedValue` is what the round maximises. -/

theorem sound_animals (i : Inp K) (x : Var → K) (h : Feasible (buildLP i .toAnimals) x) :
    PhysFeasibleFeed i (allocOf x) ∧ x .objective ≤ feedValue i (allocOf x) :=
  Proofs.Completeness.sound_animals i x h

theorem complete_animals (i : Inp K) (a : Alloc K)
    (hw : i.wStored < 100 ∧ i.wCrop < 100 ∧ i.wMeat < 100) (ha : PhysFeasibleFeed i a) :
    ∃ x, Feasible (buildLP i .toAnimals) x ∧ allocOf x = a ∧ x .objective = feedValue i a :=
  Proofs.Completeness.complete_animals i a hw ha

theorem feed_optimum_is_true_optimum (i : Inp K)
    (hw : i.wStored < 100 ∧ i.wCrop < 100 ∧ i.wMeat < 100) (z : K) :
    (∃ x, Feasible (buildLP i .toAnimals) x ∧ x .objective = z) ↔
    (∃ a, PhysFeasibleFeed i a ∧ 0 ≤ z ∧ z ≤ feedValue i a) :=
  Proofs.Completeness.feed_optimum_is_true_optimum i hw z

theorem feed_bound_iff_true_bound (i : Inp K)
    (hw : i.wStored < 100 ∧ i.wCrop < 100 ∧ i.wMeat < 100) (b : K) :
    (∀ x, Feasible (buildLP i .toAnimals) x → x .objective ≤ b) ↔
    (∀ a, PhysFeasibleFeed i a → feedValue i a ≤ b) := by
  constructor
  · intro h a ha
    obtain ⟨x, hx, -, hobj⟩ := complete_animals i a hw ha
    rw [← hobj]; exact h x hx
  · intro h x hx
    obtain ⟨h1, h2⟩ := sound_animals i x hx
    exact le_trans h2 (h _ h1)

example : ∃ (i : Inp ℚ) (a : Alloc ℚ), PhysFeasibleFeed i a ∧ 0 < feedValue i a :=
  Proofs.Completeness.feed_nonvacuous

end Allfed.C02
