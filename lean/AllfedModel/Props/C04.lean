import AllfedModel.Proofs.Report
/-!
# C04 — headline, monthly breakdown and saved tables agree

For every feasible point of the LP the code builds (human-maximising rounds), every horizon, all
inputs with `kcalsMonthly ≠ 0`.
-/
namespace Allfed.C04
open Allfed.LP Allfed.AllocLP Allfed.Report Allfed.PhysSpec

variable {K : Type} [Field K] [LinearOrder K] [IsStrictOrderedRing K]

/-- each contribution is the optimiser's allocation of that food times a constant
    (`ratio·100 / BILLION_KCALS_NEEDED` in percent) -/
theorem contribution_linear (i : Inp K) (ratio v : K) (hkm : i.kcalsMonthly ≠ 0) :
    toPercent i (billionsFed i ratio v) = v * (ratio * 100 / i.billionKcalsNeeded) :=
  Proofs.Report.contribution_linear i ratio v hkm

theorem sumPercent_eq_consumed (i : Inp K) (x : Var → K) (h : Feasible (buildLP i .toHumans) x)
    (hkm : i.kcalsMonthly ≠ 0) (m : Nat) (hm : m < i.nmonths) :
    sumPercent i x m = x (.mv .consumedKcals m) :=
  Proofs.Report.sumPercent_eq_consumed i x h hkm m hm

theorem minOver_le (f : Nat → K) (n m : Nat) (hm : m < n) : minOver f n ≤ f m :=
  Proofs.Report.minOver_le f n m hm

theorem minOver_attained (f : Nat → K) (n : Nat) (hn : 0 < n) : ∃ m, m < n ∧ minOver f n = f m := by
  induction n, hn using Nat.le_induction with
  | base => exact ⟨0, Nat.one_pos, rfl⟩
  | succ n hn ih =>
    obtain ⟨m, hm, hmin⟩ := ih
    rw [Proofs.Report.minOver_succ f hn]
    rcases le_total (minOver f n) (f n) with hle | hle
    · exact ⟨m, hm.trans n.lt_succ_self, by rw [min_eq_left hle, hmin]⟩
    · exact ⟨n, n.lt_succ_self, min_eq_right hle⟩

theorem headline_eq_min_consumed (i : Inp K) (x : Var → K) (h : Feasible (buildLP i .toHumans) x)
    (hkm : i.kcalsMonthly ≠ 0) (hN : 0 < i.nmonths) :
    headline i x = minOver (fun m => x (.mv .consumedKcals m)) i.nmonths :=
  Proofs.Report.headline_eq_min_consumed i x h hkm hN

/-- the secondary solves cannot degrade the headline below the floor they carry -/
theorem headline_ge_floor (i : Inp K) (x : Var → K) (z : K)
    (h : Feasible (buildLP i .toHumans ++ floorRows i .toHumans z) x)
    (hkm : i.kcalsMonthly ≠ 0) (hN : 0 < i.nmonths) :
    z * 0.99995 ≤ headline i x :=
  Proofs.Report.headline_ge_floor i x z h hkm hN

/-- the headline cannot exceed any upper bound `zopt` of the first solve's objective:
    replacing the objective variable by the headline keeps the point feasible -/
theorem headline_le_optimum (i : Inp K) (x : Var → K) (zopt : K)
    (hopt : ∀ x', Feasible (buildLP i .toHumans) x' → x' .objective ≤ zopt)
    (h : Feasible (buildLP i .toHumans) x) (hkm : i.kcalsMonthly ≠ 0) (hN : 0 < i.nmonths) :
    headline i x ≤ zopt :=
  Proofs.Report.headline_le_optimum i x zopt hopt h hkm hN

theorem headline_within_tolerance (i : Inp K) (x : Var → K) (zopt : K)
    (hopt : ∀ x', Feasible (buildLP i .toHumans) x' → x' .objective ≤ zopt)
    (h : Feasible (buildLP i .toHumans ++ floorRows i .toHumans zopt) x)
    (hkm : i.kcalsMonthly ≠ 0) (hN : 0 < i.nmonths) (hz : 0 ≤ zopt) :
    |headline i x - zopt| ≤ 0.0001 * zopt :=
  Proofs.Report.headline_within_tolerance i x zopt hopt h hkm hN hz

/-- the split of crops into "eaten immediately" and "eaten from new storage" always adds up,
    for all inputs (negative production included) -/
theorem split_adds_up (produced eaten : K) : (splitCrops produced eaten).1 + (splitCrops produced eaten).2 = eaten :=
  Proofs.Report.split_adds_up produced eaten

example : splitCrops (3 : ℚ) 5 = (3, 2) ∧ splitCrops (7 : ℚ) 5 = (5, 0) ∧ splitCrops (-1 : ℚ) 5 = (-1, 6) := by
  decide +kernel

/-! ## feed and biofuel drawn from each resource (`<resource>_feed`, `<resource>_biofuels`)

`Report.nonhumanMonth i x m` is what the driver answers to `report.nonhuman` and what the check
compares the interpreter's ten series with: per month, feed drawn from stored food, outdoor crops,
seaweed (times its energy content), cellulosic sugar, SCP, then biofuel in the same order, each in
percent of the monthly need (`alloc · ratio / billionKcalsNeeded · 100`), 0 for a resource that is
switched off. -/

/-- human-maximising rounds; no hypothesis on `billionKcalsNeeded` needed -/
theorem nonhuman_sum_eq_charge (i : Inp K) (x : Var → K) (h : Feasible (buildLP i .toHumans) x)
    (hany : anyFeedVar i = true) (m : Nat) (hm : m < i.nmonths) :
    ((nonhumanMonth i x m).take 5).sum = at' i.feed m / i.billionKcalsNeeded * 100 ∧
    ((nonhumanMonth i x m).drop 5).sum = at' i.biofuel m / i.billionKcalsNeeded * 100 :=
  Proofs.Report.nonhuman_sum_eq_charge i x h hany m hm

theorem nonhuman_sum_le_ceiling (i : Inp K) (x : Var → K) (h : Feasible (buildLP i .toAnimals) x)
    (hany : anyFeedVar i = true) (hb : 0 ≤ i.billionKcalsNeeded) (m : Nat) (hm : m < i.nmonths) :
    ((nonhumanMonth i x m).take 5).sum ≤ at' i.maxFeed m / i.billionKcalsNeeded * 100 ∧
    ((nonhumanMonth i x m).drop 5).sum ≤ at' i.maxBiofuel m / i.billionKcalsNeeded * 100 :=
  Proofs.Report.nonhuman_sum_le_ceiling i x h hany hb m hm

theorem nonhuman_nonneg (i : Inp K) (x : Var → K) (hx : ∀ v, 0 ≤ x v)
    (hb : 0 ≤ i.billionKcalsNeeded) (hkc : 0 ≤ i.seaweedKcals) (m : Nat) :
    ∀ e ∈ nonhumanMonth i x m, 0 ≤ e :=
  Proofs.Report.nonhuman_nonneg i x hx hb hkc m

theorem nonhuman_sums_are_totals (i : Inp K) (x : Var → K) (m : Nat) :
    ((nonhumanMonth i x m).take 5).sum = feedTotal i x m / i.billionKcalsNeeded * 100 ∧
    ((nonhumanMonth i x m).drop 5).sum = biofuelTotal i x m / i.billionKcalsNeeded * 100 :=
  ⟨Proofs.Report.nonhuman_feed_sum i x m, Proofs.Report.nonhuman_biofuel_sum i x m⟩

/-- the sugar and the SCP entries are distinguishable: at this point (SCP and sugar on, one unit of
    SCP and no sugar fed) a call site with the two arguments exchanged reports something else —
    the sums above cannot see such a swap, the entry-by-entry comparison of the check can -/
theorem nonhuman_swap_counterexample :
    ∃ (i : Inp ℚ) (x : Var → ℚ) (m : Nat), m < i.nmonths ∧ (∀ v, 0 ≤ x v) ∧
      swapSugarScp (nonhumanMonth i x m) ≠ nonhumanMonth i x m :=
  Proofs.Report.nonhuman_swap_counterexample

end Allfed.C04
