import AllfedModel.Model.Supply
import AllfedModel.Proofs.Supply.Crops
/-!
# C09 — cropland is neither double-counted nor lost between crops and greenhouses

The code's own guards are the hypotheses `CropWF`, `GhWF`, among them the horizons the slicing supports:
at most 120 months, at least 42 with greenhouses.

The model mirrors `set_crop_production_minus_greenhouse_area` **after** the two `fix:` commits
(D1: float array instead of an integer array; D2: greenhouse share subtracted in the no-relocation
branch too).  The unfixed formulas stay on record below with proved counter-examples.
-/
namespace Allfed.C09
open Allfed.Supply Allfed.Proofs.Supply

set_option linter.unusedSectionVars false

variable {K : Type} [Field K] [LinearOrder K] [IsStrictOrderedRing K]

/-- outdoor output = grown × (1 − greenhouse fraction) × (1 − waste), in both branches; all three lists are
    the ones the code returns -/
theorem C09_net_of_greenhouses (pow : K → K → K) (hp : PowOK pow) (c : CropIn K) (w : CropWF c) (g : GhIn K)
    (wg : GhWF c.nmonths g) (hout : c.addOutdoor = true) :
    ∃ o, cropsAndGreenhouses pow c g = .ok o ∧ ∀ i, i < c.nmonths →
      o.production.getD i 0 =
        (if c.relocation ∧ c.harvestDuration + c.rotationDelay ≤ i then o.grown.getD i 0 else o.noReloc.getD i 0)
          * (1 - o.gh.fraction.getD i 0) * (1 - c.waste / 100.0) := by
  refine ⟨_, cropsAndGreenhouses_ok pow hp c w g wg (Or.inl hout), ?_⟩
  intro i hi
  simp only [getD_map_range _ _ _ _ hi]
  unfold productionSpec grownEffSpec
  rw [if_pos hout]

/-- the same statement, separately for each branch (the second is what D2 violated) -/
theorem C09_net_of_greenhouses_relocation (pow : K → K → K) (c : CropIn K) (ghf : Nat → K) (i : Nat)
    (hout : c.addOutdoor = true) (hr : c.relocation = true) (hi : c.harvestDuration + c.rotationDelay ≤ i) :
    productionSpec pow c ghf i = grownSpec pow c i * (1 - ghf i) * (1 - c.waste / 100.0) := by
  unfold productionSpec grownEffSpec
  rw [if_pos hout, if_pos ⟨hr, hi⟩]

theorem C09_net_of_greenhouses_no_relocation (pow : K → K → K) (c : CropIn K) (ghf : Nat → K) (i : Nat)
    (hout : c.addOutdoor = true) (hr : c.relocation = false) :
    productionSpec pow c ghf i = noRelocSpec c i * (1 - ghf i) * (1 - c.waste / 100.0) := by
  unfold productionSpec grownEffSpec
  rw [if_pos hout, if_neg (by rw [hr]; simp)]

/-- greenhouse area: zero until `delay + 5`, monotone, never above `multiplier × cropland`,
    and exactly that share from month `delay + 41` on; the fraction of cropland stays in `[0, 1]` -/
theorem C09_gh_area (g : GhIn K) (ht : 0 ≤ ghTotal g) (hm0 : 0 ≤ g.areaMultiplier) (hm1 : g.areaMultiplier ≤ 1)
    (i j : Nat) (hij : i ≤ j) :
    (i < g.delay + 5 → ghAreaSpec' g i = 0) ∧ ghAreaSpec' g i ≤ ghAreaSpec' g j ∧
      ghAreaSpec' g j ≤ g.areaMultiplier * ghTotal g ∧
      (g.addGreenhouses = true → ¬ noCropland g → g.delay + 5 + 36 ≤ j → ghAreaSpec' g j = g.areaMultiplier * ghTotal g) ∧
      (0 ≤ ghFractionSpec g j ∧ ghFractionSpec g j ≤ 1) := by
  obtain ⟨L, h0, hle, hon, e⟩ := exists_ghAreaSpec'_eq_ramp g ht hm0
  rw [e, mul_comm]
  refine ⟨fun h => ramp_of_lt h (by omega), ramp_mono h0 hij, (ramp_le h0).trans hle, fun ha hz h => ?_,
    ghFractionSpec_range g j ht hm0 hm1⟩
  rw [ramp_of_ge h, hon ha hz]
  rfl

/-- the greenhouse area and fraction the code returns are those closed forms -/
theorem C09_gh_area_refines (pow : K → K → K) (hp : PowOK pow) (c : CropIn K) (w : CropWF c) (g : GhIn K)
    (wg : GhWF c.nmonths g) (hrun : c.addOutdoor = true ∨ g.addGreenhouses = true) :
    ∃ o, cropsAndGreenhouses pow c g = .ok o ∧ o.gh.area = (List.range c.nmonths).map (ghAreaSpec' g) ∧
      o.gh.fraction = (List.range c.nmonths).map (ghFractionSpec g) :=
  ⟨_, cropsAndGreenhouses_ok pow hp c w g wg hrun, rfl, rfl⟩

/-- the only clause of `PowOK` the proofs use is `ge`: `x ≤ x ** e` on `0 ≤ x ≤ 1`, `0 < e ≤ 1`;
    hence the response to a disruption ratio never drops below the ratio itself -/
theorem C09_relocation_gain (pow : K → K → K) (hp : PowOK pow) (e x : K) (he : 0 < e ∧ e ≤ 1) (hx : 0 ≤ x) :
    x ≤ relocGain pow e x :=
  le_relocGain pow hp e x he hx

theorem C09_relocation_never_lowers (pow : K → K → K) (hp : PowOK pow) (c : CropIn K) (w : CropWF c)
    (he : 0 < c.exponent ∧ c.exponent ≤ 1) (g : GhIn K) (wg : GhWF c.nmonths g)
    (ht : 0 ≤ ghTotal g) (hm0 : 0 ≤ g.areaMultiplier) (hm1 : g.areaMultiplier ≤ 1) (hw : c.waste ≤ 100)
    (hout : c.addOutdoor = true) :
    ∃ off on, cropsAndGreenhouses pow (setRelocation c false) g = .ok off ∧
      cropsAndGreenhouses pow (setRelocation c true) g = .ok on ∧
      ∀ i, i < c.nmonths → off.production.getD i 0 ≤ on.production.getD i 0 := by
  have w0 : CropWF (setRelocation c false) := { w with exponent := fun h => absurd h Bool.false_ne_true }
  have w1 : CropWF (setRelocation c true) := { w with exponent := fun _ => he }
  refine ⟨_, _, cropsAndGreenhouses_ok pow hp _ w0 g wg (Or.inl hout),
    cropsAndGreenhouses_ok pow hp _ w1 g wg (Or.inl hout), ?_⟩
  intro i hi
  have hi0 : i < (setRelocation c false).nmonths := hi
  have hi1 : i < (setRelocation c true).nmonths := hi
  simp only [getD_map_range _ _ _ _ hi0, getD_map_range _ _ _ _ hi1]
  exact relocation_never_lowers pow hp c w1 _ i (ghFractionSpec_range g i ht hm0 hm1).2 hw

theorem C09_expansion_never_lowers (pow : K → K → K) (hp : PowOK pow) (c : CropIn K) (w : CropWF c)
    (g : GhIn K) (wg : GhWF c.nmonths g)
    (ht : 0 ≤ ghTotal g) (hm0 : 0 ≤ g.areaMultiplier) (hm1 : g.areaMultiplier ≤ 1) (hw : c.waste ≤ 100)
    (hout : c.addOutdoor = true) :
    ∃ plain expanded, cropsAndGreenhouses pow (setRatioArea c 1) g = .ok plain ∧
      cropsAndGreenhouses pow c g = .ok expanded ∧
      ∀ i, i < c.nmonths → plain.production.getD i 0 ≤ expanded.production.getD i 0 := by
  have w0 : CropWF (setRatioArea c 1) := { w with ramp := fun h => absurd h (lt_irrefl (1 : K)) }
  refine ⟨_, _, cropsAndGreenhouses_ok pow hp _ w0 g wg (Or.inl hout),
    cropsAndGreenhouses_ok pow hp _ w g wg (Or.inl hout), ?_⟩
  intro i hi
  have hi0 : i < (setRatioArea c 1).nmonths := hi
  simp only [getD_map_range _ _ _ _ hi0, getD_map_range _ _ _ _ hi]
  exact expansion_never_lowers pow hp c w _ i (ghFractionSpec_range g i ht hm0 hm1).2 hw

theorem C09_expansion_ramp_ge_one (c : CropIn K) (i : Nat) : 1 ≤ areaRampSpec c i := areaRampSpec_ge_one c i

/-- **not quantised**: the series is homogeneous of degree one in the baseline for *every* factor
    `k > 0`, however small — a rounding or truncating map cannot satisfy this (next theorem) -/
theorem C09_not_quantised (pow : K → K → K) (hp : PowOK pow) (c : CropIn K) (w : CropWF c) (g : GhIn K)
    (wg : GhWF c.nmonths g) (hrun : c.addOutdoor = true ∨ g.addGreenhouses = true) (k : K) (hk : 0 < k) :
    ∃ o o', cropsAndGreenhouses pow c g = .ok o ∧
      cropsAndGreenhouses pow (setBaseline c (k * c.baseline)) g = .ok o' ∧
      o'.production = o.production.map (k * ·) :=
  let ⟨o, o', h, h', hprod, _⟩ := cropsAndGreenhouses_scale pow hp c w g wg hrun k hk.le
  ⟨o, o', h, h', hprod⟩

/-- a map that sends 0.4 to 0 and 4 to 4 (as truncation to whole numbers does) is not homogeneous -/
theorem C09_truncation_not_homogeneous (tr : K → K) (h1 : tr (2 / 5) = 0) (h2 : tr 4 = 4) :
    ¬ (∀ k x : K, 0 < k → tr (k * x) = k * tr x) := by
  intro h
  have := h 10 (2 / 5) (by norm_num)
  rw [h1, show (10 : K) * (2 / 5) = 4 by norm_num, h2] at this
  norm_num at this

theorem C09_trunc_two_fifths (tr : K → K) (hint : ∀ x, ∃ z : ℤ, tr x = z) (hle : ∀ x, tr x ≤ x)
    (hlt : ∀ x, x < tr x + 1) : tr (2 / 5) = 0 := by
  obtain ⟨z, hz⟩ := hint (2 / 5)
  have h1 := hle (2 / 5 : K)
  have h2 := hlt (2 / 5 : K)
  rw [hz] at h1 h2 ⊢
  have a1 : z < 1 := Int.cast_lt.mp (h1.trans_lt (by norm_num))
  have a2 : 0 < z + 1 := Int.cast_lt.mp ((by norm_num : ((0 : ℤ) : K) < 2 / 5).trans (by exact_mod_cast h2))
  rw [show z = 0 by omega, Int.cast_zero]

/-- D1: before the fix the relocation branch wrote into `np.array([0] * NMONTHS)`, an integer array,
    so every month went through numpy's float → int cast (`trunc`) before the waste factor -/
def productionUnfixedRelocation (trunc : K → K) (grown ghf waste : K) : K :=
  trunc (grown * (1 - ghf)) * (1 - waste / 100)

/-- a country growing 0.4 billion kcals in a month was handed 0 -/
theorem C09_truncation_counterexample (trunc : K → K) (h : trunc (2 / 5) = 0) :
    productionUnfixedRelocation trunc (2 / 5) 0 0 ≠ (2 / 5) * (1 - 0) * (1 - 0 / 100) := by
  unfold productionUnfixedRelocation
  rw [show (2 / 5 : K) * (1 - 0) = 2 / 5 by norm_num, h]
  norm_num

/-- D2: before the fix the no-relocation branch was `np.array(NO_RELOCATION_KCALS_GROWN)` — the
    greenhouse share was not subtracted -/
def productionUnfixedNoRelocation (grown _ghf waste : K) : K := grown * (1 - waste / 100)

/-- with half the cropland under greenhouses the unfixed branch still reported the whole harvest -/
theorem C09_greenhouse_land_counted_twice_counterexample :
    productionUnfixedNoRelocation (1 : ℚ) (1 / 2) 0 ≠ 1 * (1 - 1 / 2) * (1 - 0 / 100) := by
  unfold productionUnfixedNoRelocation
  norm_num

def exampleCrops : CropIn ℚ :=
  { nmonths := 48, startMonth := 5, baseline := 3 / 1000, season := List.replicate 12 (1 / 12),
    ratios := [1, 1 / 2, 1 / 4, 1 / 4, 1 / 4, 1 / 2, 1 / 2, 3 / 4, 1, 1], country := "DJI", addOutdoor := true,
    relocation := false, exponent := 4 / 5, ratioArea := 1, yearsToReach := 3, harvestDuration := 8,
    rotationDelay := 2, waste := 20 }

def exampleGh : GhIn ℚ :=
  { addGreenhouses := true, globalCropArea := 1430000000, cropAreaFraction := 1 / 100000, delay := 2,
    areaMultiplier := 19 / 143, gainPct := 44, wasteRetail := 10 }

example : CropWF exampleCrops := by constructor <;> decide +kernel
example : GhWF 48 exampleGh := by constructor <;> decide +kernel
example : (0 : ℚ) ≤ ghTotal exampleGh ∧ 0 ≤ exampleGh.areaMultiplier ∧ exampleGh.areaMultiplier ≤ 1 := by decide +kernel

/-- a floor-like map on ℚ satisfies the hypotheses of `C09_truncation_not_homogeneous` -/
example : ∃ tr : ℚ → ℚ, tr (2 / 5) = 0 ∧ tr 4 = 4 := ⟨fun x => if x < 1 then 0 else x, by norm_num, by norm_num⟩

/-- month 45 of the example: greenhouses fully built, no relocation -/
example : productionSpec (fun x _ => x) exampleCrops (ghFractionSpec exampleGh) 45
    = noRelocSpec exampleCrops 45 * (1 - 19 / 143) * (1 - 20 / 100) := by
  decide +kernel

end Allfed.C09
