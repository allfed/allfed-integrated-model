import AllfedModel.Model.Coupling
import AllfedModel.Gen.SpeciesClasses
import AllfedModel.Props.C18
import AllfedModel.Proofs.Basic
import Mathlib.Tactic.Positivity
import Mathlib.Algebra.Order.Field.Rat
/-!
# C05 — meat and milk offered to the optimiser match the simulated herds and the feed

`accumulate`/`meatMonth` are written the way `get_meat_produced` and
`calculate_meat_after_distribution_waste` are written (five accumulators, chickens and pigs
*assigned*, the size classes *added*); `meatSpec` says what the property says (every slaughtered
animal counts once at the per-head yield of its class, reduced by distribution waste).
The species table is regenerated from `species_attributes.csv` on every run.
-/
set_option linter.unusedSectionVars false

namespace Allfed.C05
open Allfed.Coupling
open Allfed.Proofs (rsum_nonneg getD_nonneg sci_100)

variable {K : Type} [Field K] [LinearOrder K] [IsStrictOrderedRing K]

def hasClass (c : MeatClass) (h : Herd K) : Bool := decide (classOf h.animalType h.animalSize = some c)

/-- slaughter of month `m` summed over the herds of class `c` -/
def classSum (c : MeatClass) (m : Nat) (herds : List (Herd K)) : K :=
  rsum ((herds.filter (hasClass c)).map fun h => h.slaughter.getD m 0)

theorem classSum_nil (c : MeatClass) (m : Nat) : classSum c m ([] : List (Herd K)) = 0 := rfl

theorem classSum_cons (c : MeatClass) (m : Nat) (h : Herd K) (t : List (Herd K)) :
    classSum c m (h :: t) =
      (if classOf h.animalType h.animalSize = some c then h.slaughter.getD m 0 else 0) + classSum c m t := by
  unfold classSum
  by_cases hk : classOf h.animalType h.animalSize = some c
  · rw [List.filter_cons_of_pos (by simp only [hasClass, hk, decide_true]), if_pos hk]; rfl
  · rw [List.filter_cons_of_neg (by simp only [hasClass, hk, decide_false, Bool.false_eq_true, not_false_iff]),
      if_neg hk, zero_add]

theorem classSum_empty (c : MeatClass) (m : Nat) (herds : List (Herd K))
    (h : (herds.filter (hasClass c)).length = 0) : classSum c m herds = 0 := by
  unfold classSum
  rw [List.eq_nil_of_length_eq_zero h]; rfl

theorem accumulate_size_class (c : MeatClass) (hc : c = .small ∨ c = .medium ∨ c = .large) (m : Nat)
    (herds : List (Herd K)) (acc : K) :
    accumulate c m herds acc = acc + classSum c m herds := by
  induction herds generalizing acc with
  | nil => rw [classSum_nil, add_zero]; rfl
  | cons h t ih =>
    rw [classSum_cons]
    unfold accumulate
    split_ifs with hk
    · rcases hc with rfl | rfl | rfl <;> exact (ih _).trans (add_assoc _ _ _)
    · rw [ih, zero_add]

/-- chickens and pigs are *assigned*: correct as long as at most one herd has that class -/
theorem accumulate_assigned_class (c : MeatClass) (hc : c = .chicken ∨ c = .pig) (m : Nat)
    (herds : List (Herd K)) (acc : K) (h1 : (herds.filter (hasClass c)).length ≤ 1) :
    accumulate c m herds acc = if (herds.filter (hasClass c)).length = 0 then acc else classSum c m herds := by
  induction herds generalizing acc with
  | nil => rfl
  | cons h t ih =>
    rw [classSum_cons]
    unfold accumulate
    by_cases hk : classOf h.animalType h.animalSize = some c
    · -- the one herd of the class: nothing after it touches the accumulator
      rw [List.filter_cons_of_pos (by simp only [hasClass, hk, decide_true]), List.length_cons] at h1 ⊢
      have hf : (t.filter (hasClass c)).length = 0 := Nat.le_zero.mp (Nat.le_of_succ_le_succ h1)
      have ht := ih (h.slaughter.getD m 0) (hf.le.trans (Nat.zero_le 1))
      rw [if_pos hf] at ht
      rw [if_pos hk, if_pos hk, if_neg (Nat.add_one_ne_zero _), classSum_empty c m t hf, add_zero]
      rcases hc with rfl | rfl <;> exact ht
    · rw [List.filter_cons_of_neg (by simp only [hasClass, hk, decide_false, Bool.false_eq_true, not_false_iff])] at h1 ⊢
      rw [if_neg hk, if_neg hk, zero_add]
      exact ih acc h1

theorem spec_split (herds : List (Herd K)) (k : PerHead K) (m : Nat) :
    rsum (herds.map (herdMeat k m))
    = classSum .chicken m herds * k.chicken + classSum .pig m herds * k.pig + classSum .small m herds * k.small
      + classSum .medium m herds * k.medium + classSum .large m herds * k.large := by
  induction herds with
  | nil => simp only [List.map_nil, rsum, classSum_nil, zero_mul, add_zero]
  | cons h t ih =>
    -- split by class, so that one `ring` does for all six cases
    have hm : herdMeat k m h =
        (if classOf h.animalType h.animalSize = some .chicken then h.slaughter.getD m 0 else 0) * k.chicken
        + (if classOf h.animalType h.animalSize = some .pig then h.slaughter.getD m 0 else 0) * k.pig
        + (if classOf h.animalType h.animalSize = some .small then h.slaughter.getD m 0 else 0) * k.small
        + (if classOf h.animalType h.animalSize = some .medium then h.slaughter.getD m 0 else 0) * k.medium
        + (if classOf h.animalType h.animalSize = some .large then h.slaughter.getD m 0 else 0) * k.large := by
      unfold herdMeat
      cases classOf h.animalType h.animalSize with
      | none => simp only [reduceCtorEq, if_false, zero_mul, add_zero]
      | some c => cases c <;>
          simp only [Option.some.injEq, reduceCtorEq, if_true, if_false, zero_mul, zero_add, add_zero, PerHead.get]
    rw [List.map_cons, rsum, ih, hm]
    simp only [classSum_cons]
    ring

/-- the code's five accumulators give exactly the per-species sum at each class's yield, reduced by
    distribution waste — provided at most one herd is of chicken type and at most one of pig type -/
theorem meatMonth_eq_spec (herds : List (Herd K)) (k : PerHead K) (wd : K) (m : Nat)
    (hch : (herds.filter (hasClass .chicken)).length ≤ 1) (hpg : (herds.filter (hasClass .pig)).length ≤ 1) :
    meatMonth herds k wd m = meatSpec herds k wd m := by
  -- an assigned accumulator starting at 0 is the class sum, herd or no herd
  have assigned : ∀ c, c = MeatClass.chicken ∨ c = MeatClass.pig → (herds.filter (hasClass c)).length ≤ 1 →
      accumulate c m herds 0 = classSum c m herds := by
    intro c hc h1
    rw [accumulate_assigned_class c hc m herds 0 h1]
    split_ifs with h0
    exacts [(classSum_empty c m herds h0).symm, rfl]
  unfold meatMonth meatSpec
  rw [spec_split, accumulate_size_class .small (.inl rfl), accumulate_size_class .medium (.inr (.inl rfl)),
    accumulate_size_class .large (.inr (.inr rfl)), assigned .chicken (.inl rfl) hch, assigned .pig (.inr rfl) hpg,
    zero_add, zero_add, zero_add]

theorem meatSpec_nonneg (herds : List (Herd K)) (k : PerHead K) (wd : K) (m : Nat)
    (hs : ∀ h ∈ herds, ∀ v ∈ h.slaughter, 0 ≤ v)
    (hk : 0 ≤ k.chicken ∧ 0 ≤ k.pig ∧ 0 ≤ k.small ∧ 0 ≤ k.medium ∧ 0 ≤ k.large) (hw : wd ≤ 100) :
    0 ≤ meatSpec herds k wd m := by
  have hget : ∀ c, 0 ≤ k.get c := fun c => by cases c <;> simp only [PerHead.get, hk]
  refine mul_nonneg (rsum_nonneg _ fun x hx => ?_) (sub_nonneg.mpr ?_)
  · obtain ⟨h, hh, rfl⟩ := List.mem_map.mp hx
    unfold herdMeat
    split
    · exact mul_nonneg (getD_nonneg _ (hs h hh) m) (hget _)
    · exact le_rfl
  · rw [sci_100, div_le_one (by norm_num)]
    exact hw

/-- milk energy is the milking-herd size `p` times a constant -/
theorem milkMonth_linear (p y mk wd wr : K) :
    milkMonth p y mk wd wr = p * (y / 12 / 1000 * 1000 * mk / 1000000000 * (1 - wd / 100) * (1 - wr / 100)) := by
  unfold milkMonth
  -- `ring` on the decimal literals (`12.0`, `1e9`) builds a term the kernel rejects: numerals first
  norm_num only
  ring

/-- in the feed-maximising round slaughter is deliberately re-timed: the total is preserved (C18) -/
theorem round2_total_preserved (r1 r2 out : List K) (hl : r1.length = r2.length)
    (h : Handoff.redistribute r1 r2 = some out) : out.sum = r2.sum :=
  C18.redistribute_total r1 r2 out hl h

/-- the feed charged in the final round is never less than what the herds ate: the charge is the
    herds' feed use passed through `increase_biofuels_then_feed`, which never lowers it (C18) -/
theorem charge_ge_eaten (biofuel eaten increase maxB maxF avail : K) :
    eaten ≤ (Handoff.bump1 biofuel eaten increase maxB maxF avail).2 :=
  (C18.bump_never_lowers biofuel eaten increase maxB maxF avail).2

/-- the per-head yields are positive for positive carcass weights (so more slaughter is more meat) -/
theorem perHead_pos (kc kp : K) (ov : Option K) (hc : 0 < kc) (hp : 0 < kp) (ho : ∀ v, ov = some v → 0 < v) :
    let k := perHeadOf kc kp ov
    0 < k.chicken ∧ 0 < k.pig ∧ 0 < k.small ∧ 0 < k.medium ∧ 0 < k.large := by
  refine ⟨?_, ?_, ?_, ?_, ?_⟩ <;> dsimp only [perHeadOf]
  · positivity
  · positivity
  · positivity
  · positivity
  · cases ov with
    | none => positivity
    | some v => have := ho v rfl; positivity

/-- an override of the large-animal carcass weight changes the large class only -/
theorem perHead_override_frame (kc kp v : K) :
    (perHeadOf kc kp (some v)).chicken = (perHeadOf kc kp none).chicken ∧
    (perHeadOf kc kp (some v)).pig = (perHeadOf kc kp none).pig ∧
    (perHeadOf kc kp (some v)).small = (perHeadOf kc kp none).small ∧
    (perHeadOf kc kp (some v)).medium = (perHeadOf kc kp none).medium ∧
    (perHeadOf kc kp (some v)).large = 2750 * v / 1000000000 := by
  simp only [perHeadOf]; norm_num

/-- the shipped table: no species outside the five classes (`herdMeat` would count it as 0), and what
    `meatMonth_eq_spec` assumes of the herds -/
theorem classOf_total_on_table :
    (∀ s ∈ Gen.Species.species, (classOf s.1 s.2.2).isSome = true) ∧
    (Gen.Species.species.map (·.1)).Nodup ∧
    ((Gen.Species.species.filter fun s => classOf s.1 s.2.2 = some .chicken).length ≤ 1) ∧
    ((Gen.Species.species.filter fun s => classOf s.1 s.2.2 = some .pig).length ≤ 1) := by
  decide +kernel

example : meatMonth ([⟨"chicken", "small", [3, 4], [10, 10]⟩, ⟨"meat_cattle", "large", [1, 2], [5, 5]⟩] : List (Herd ℚ))
    ⟨2, 0, 0, 0, 100⟩ 10 1 = (4 * 2 + 2 * 100) * (9 / 10) := by
  decide +kernel

end Allfed.C05
