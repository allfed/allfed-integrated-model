import AllfedModel.Model.Herd
import AllfedModel.Proofs.Herd
import Mathlib.Algebra.Order.Field.Rat
/-!
# C06 — herd head-count ledger balances every month

Nothing depends on `rnd` (Python's `round`).  A record `d : WD K` is what `main()` appends for one herd
in one month: `d.c.b.a.h` is the herd at the START of the month, `d.popEnd` its head count at the end.
The `C06_run_*` theorems lift each month-level clause to every month of every run.
-/
namespace Allfed.C06
open Allfed.Herd Allfed.HerdProofs

variable {K : Type} [Field K] [LinearOrder K] [IsStrictOrderedRing K]

/-- end-of-month head count = start + births + transfers in − retirements − natural deaths −
    slaughter − starvation deaths − home-kill, or zero when that would be negative -/
theorem C06_ledger (cn : Country K) (hcn : CountryOK cn) (rnd : K → K) (first : Bool) (month : K)
    (herds : List (Herd K)) (hh : ∀ h ∈ herds, HerdOK h) (feed grass : K) (r : MonthRec K)
    (herds' : List (Herd K)) (h : monthStep cn rnd first month herds feed grass = .ok (r, herds')) :
    ∀ d ∈ r.recs,
      d.popEnd = max 0 (d.c.b.a.h.st.pop + d.c.b.births + transferIn d - d.c.b.retiring - d.c.otherDeath
        - d.c.slaughter - d.ods - d.hkHealthy - d.hkStarving) :=
  month_ledger (monthStep_spec cn hcn rnd first month herds hh feed grass r herds' h)

/-- head counts and every flow are non-negative (a dairy herd's `transfer_population` entry is the
    negative of what leaves it, by the code's sign convention) -/
theorem C06_nonneg (cn : Country K) (hcn : CountryOK cn) (rnd : K → K) (first : Bool) (month : K)
    (herds : List (Herd K)) (hh : ∀ h ∈ herds, HerdOK h) (feed grass : K) (r : MonthRec K)
    (herds' : List (Herd K)) (h : monthStep cn rnd first month herds feed grass = .ok (r, herds')) :
    ∀ d ∈ r.recs,
      0 ≤ d.c.b.a.h.st.pop ∧ 0 ≤ d.popEnd ∧ 0 ≤ d.c.popAfter ∧ 0 ≤ d.c.b.births ∧ 0 ≤ d.c.b.transferBirths ∧
      0 ≤ d.c.b.retiring ∧ 0 ≤ transferIn d ∧ (d.c.b.a.h.sp.isMilk = true → d.c.transferPop ≤ 0) ∧
      0 ≤ d.c.otherDeath ∧ 0 ≤ d.c.slaughter ∧ 0 ≤ d.c.slPreg ∧ 0 ≤ d.ods ∧ 0 ≤ d.odTotal ∧
      0 ≤ d.hkOther ∧ 0 ≤ d.hkHealthy ∧ 0 ≤ d.hkStarving ∧ 0 ≤ d.starvingPost ∧
      0 ≤ d.pregTotal ∧ 0 ≤ d.pregBirthing ∧ 0 ≤ d.c.b.pregTotalIn ∧ 0 ≤ d.c.b.pregBirthingIn :=
  month_nonneg (monthStep_spec cn hcn rnd first month herds hh feed grass r herds' h)

/-- the animals retired from a dairy herd (`population · retiring fraction`) plus its surviving
    male calves (`female births · (birth ratio − 1) · (1 − culling fraction)`) are exactly what the
    dairy herd books as leaving and exactly what every meat herd with the same species key receives.
    (A species whose meat herd does not exist — cattle in India — has no `d` to receive them.) -/
theorem C06_transfer (cn : Country K) (hcn : CountryOK cn) (rnd : K → K) (first : Bool) (month : K)
    (herds : List (Herd K)) (hh : ∀ h ∈ herds, HerdOK h) (hk : MilkKeysDistinct herds) (feed grass : K)
    (r : MonthRec K) (herds' : List (Herd K))
    (h : monthStep cn rnd first month herds feed grass = .ok (r, herds'))
    (e : WD K) (he : e ∈ r.recs) (hem : e.c.b.a.h.sp.isMilk = true) :
    e.c.transferPop = -(e.c.b.retiring + e.c.b.transferBirths) ∧
    e.c.b.retiring = e.c.b.a.h.st.pop * e.c.b.a.h.sp.retFrac ∧
    e.c.b.transferBirths = e.c.b.births * (e.c.b.a.h.sp.birthRatio - 1) * (1 - e.c.b.a.h.sp.tcf) ∧
    ∀ d ∈ r.recs, d.c.b.a.h.sp.isMilk = false → d.c.b.a.h.sp.species = e.c.b.a.h.sp.species →
      d.c.transferPop = e.c.b.retiring + e.c.b.transferBirths :=
  month_transfer (monthStep_spec cn hcn rnd first month herds hh feed grass r herds' h) hk e he hem

/-- a meat herd without a dairy herd of its species receives nothing -/
theorem C06_transfer_none (cn : Country K) (hcn : CountryOK cn) (rnd : K → K) (first : Bool) (month : K)
    (herds : List (Herd K)) (hh : ∀ h ∈ herds, HerdOK h) (feed grass : K)
    (r : MonthRec K) (herds' : List (Herd K))
    (h : monthStep cn rnd first month herds feed grass = .ok (r, herds'))
    (d : WD K) (hd : d ∈ r.recs) (hdm : d.c.b.a.h.sp.isMilk = false)
    (hno : ∀ e ∈ r.recs, ¬ (e.c.b.a.h.sp.isMilk = true ∧ e.c.b.a.h.sp.species = d.c.b.a.h.sp.species)) :
    d.c.transferPop = 0 := by
  have hdd := (monthStep_spec cn hcn rnd first month herds hh feed grass r herds' h).dok d hd
  rw [hdd.c.tp, hdm, if_neg Bool.false_ne_true, transferOf, transferFind_none]
  · rfl
  · intro b hb
    obtain ⟨e, he, rfl⟩ := List.mem_map.mp hb
    exact hno e he

/-- slaughter in each size class never uses more labour hours than that class's baseline capacity
    `Σ hours per head · baseline slaughter` -/
theorem C06_hours (cn : Country K) (hcn : CountryOK cn) (rnd : K → K) (first : Bool) (month : K)
    (herds : List (Herd K)) (hh : ∀ h ∈ herds, HerdOK h) (feed grass : K) (r : MonthRec K)
    (herds' : List (Herd K)) (h : monthStep cn rnd first month herds feed grass = .ok (r, herds'))
    (s : Size) (hs : s ≠ Size.other) :
    ((r.recs.filter (fun d => d.c.b.a.h.sp.size = s)).map (fun d => d.c.slaughter * d.c.b.a.h.sp.hours)).sum
      ≤ ((herds.filter (fun h => h.sp.size = s)).map (fun h => h.sp.hours * h.sp.baseline)).sum :=
  (monthStep_spec cn hcn rnd first month herds hh feed grass r herds' h).hours s hs

/-- slaughter never exceeds the animals available (`pre`, floored at 0) and never takes a herd below its
    target size -/
theorem C06_available_and_target (cn : Country K) (hcn : CountryOK cn) (rnd : K → K) (first : Bool) (month : K)
    (herds : List (Herd K)) (hh : ∀ h ∈ herds, HerdOK h) (feed grass : K) (r : MonthRec K)
    (herds' : List (Herd K)) (h : monthStep cn rnd first month herds feed grass = .ok (r, herds')) :
    ∀ d ∈ r.recs,
      d.c.pre = d.c.b.a.h.st.pop + d.c.b.births + transferIn d - d.c.b.retiring - d.c.otherDeath ∧
      d.c.slaughter ≤ max 0 d.c.pre ∧
      (d.c.b.a.h.sp.target ≤ d.c.pre → d.c.b.a.h.sp.target ≤ d.c.pre - d.c.slaughter) ∧
      (d.c.pre < d.c.b.a.h.sp.target → d.c.slaughter = 0) :=
  month_availTarget (monthStep_spec cn hcn rnd first month herds hh feed grass r herds' h)

/-- `HerdOK` is an invariant of the month loop -/
theorem C06_invariant (cn : Country K) (hcn : CountryOK cn) (rnd : K → K) (first : Bool) (month : K)
    (herds : List (Herd K)) (hh : ∀ h ∈ herds, HerdOK h) (feed grass : K) (r : MonthRec K)
    (herds' : List (Herd K)) (h : monthStep cn rnd first month herds feed grass = .ok (r, herds')) :
    r.recs.map (fun d => d.c.b.a.h) = herds ∧ herds' = r.recs.map nextHerd ∧
    (∀ d ∈ r.recs, (nextHerd d).st.pop = d.popEnd ∧ (nextHerd d).sp = d.c.b.a.h.sp) ∧
    ∀ h' ∈ herds', HerdOK h' := by
  have hm := monthStep_spec cn hcn rnd first month herds hh feed grass r herds' h
  exact ⟨hm.start, hm.next, fun d _ => ⟨rfl, rfl⟩, hm.inv⟩

/-- in exact arithmetic none of the three `assert`s of the month loop can fire (with the home-kill
    budget of the code, 0, and every herd in one of the three size classes): the month always completes -/
theorem C06_no_error (cn : Country K) (hcn : CountryOK cn) (hk0 : cn.homekillHours = 0) (rnd : K → K)
    (first : Bool) (month : K) (herds : List (Herd K)) (hh : ∀ h ∈ herds, HerdOK h)
    (hsz : ∀ h ∈ herds, h.sp.size ≠ Size.other) (feed grass : K) :
    ∃ out, monthStep cn rnd first month herds feed grass = .ok out :=
  (monthStep_post cn hcn rnd first month herds hh feed grass).exists_ok (not_stop hk0 hsz)

theorem run_month (cn : Country K) (hcn : CountryOK cn) (rnd : K → K) (herds : List (Herd K))
    (hh : ∀ h ∈ herds, HerdOK h) (series : List (K × K)) (rs : List (MonthRec K)) (hf : List (Herd K))
    (h : run cn rnd herds series = .ok (rs, hf)) (r : MonthRec K) (hr : r ∈ rs) :
    ∃ feed grass hs hs', (feed, grass) ∈ series ∧ (∀ x ∈ hs, HerdOK x) ∧ MonthFacts rnd feed grass hs r hs' := by
  have hc : Chain rnd herds series rs hf := ((runFrom_post cn hcn rnd series true 0 herds hh).of_ok h).1
  clear h hh
  induction hc with
  | nil hs => cases hr
  | cons hs feed grass series r0 hs' rs hf hok hmf hch ih =>
    rcases List.mem_cons.mp hr with rfl | hr
    · exact ⟨feed, grass, hs, hs', List.mem_cons_self .., hok, hmf⟩
    · obtain ⟨f, g, a, b, h1, h2, h3⟩ := ih hr
      exact ⟨f, g, a, b, List.mem_cons_of_mem _ h1, h2, h3⟩

theorem C06_run_ledger (cn : Country K) (hcn : CountryOK cn) (rnd : K → K) (herds : List (Herd K))
    (hh : ∀ h ∈ herds, HerdOK h) (series : List (K × K)) (rs : List (MonthRec K)) (hf : List (Herd K))
    (h : run cn rnd herds series = .ok (rs, hf)) :
    ∀ r ∈ rs, ∀ d ∈ r.recs,
      d.popEnd = max 0 (d.c.b.a.h.st.pop + d.c.b.births + transferIn d - d.c.b.retiring - d.c.otherDeath
        - d.c.slaughter - d.ods - d.hkHealthy - d.hkStarving) := by
  intro r hr
  obtain ⟨_, _, _, _, -, -, hm⟩ := run_month cn hcn rnd herds hh series rs hf h r hr
  exact month_ledger hm

theorem C06_run_nonneg (cn : Country K) (hcn : CountryOK cn) (rnd : K → K) (herds : List (Herd K))
    (hh : ∀ h ∈ herds, HerdOK h) (series : List (K × K)) (rs : List (MonthRec K)) (hf : List (Herd K))
    (h : run cn rnd herds series = .ok (rs, hf)) :
    ∀ r ∈ rs, ∀ d ∈ r.recs, NonNeg d := by
  intro r hr
  obtain ⟨_, _, _, _, -, -, hm⟩ := run_month cn hcn rnd herds hh series rs hf h r hr
  exact month_nonneg hm

theorem C06_run_transfer (cn : Country K) (hcn : CountryOK cn) (rnd : K → K) (herds : List (Herd K))
    (hh : ∀ h ∈ herds, HerdOK h) (series : List (K × K)) (rs : List (MonthRec K)) (hf : List (Herd K))
    (h : run cn rnd herds series = .ok (rs, hf)) :
    ∀ r ∈ rs, MilkKeysDistinct (r.recs.map (fun d => d.c.b.a.h)) →
      ∀ e ∈ r.recs, e.c.b.a.h.sp.isMilk = true →
        e.c.transferPop = -(e.c.b.retiring + e.c.b.transferBirths) ∧
        ∀ d ∈ r.recs, d.c.b.a.h.sp.isMilk = false → d.c.b.a.h.sp.species = e.c.b.a.h.sp.species →
          d.c.transferPop = e.c.b.retiring + e.c.b.transferBirths := by
  intro r hr hk e he hem
  obtain ⟨_, _, hs, _, -, -, hm⟩ := run_month cn hcn rnd herds hh series rs hf h r hr
  rw [hm.start] at hk
  obtain ⟨h1, -, -, h4⟩ := month_transfer hm hk e he hem
  exact ⟨h1, h4⟩

theorem C06_run_hours (cn : Country K) (hcn : CountryOK cn) (rnd : K → K) (herds : List (Herd K))
    (hh : ∀ h ∈ herds, HerdOK h) (series : List (K × K)) (rs : List (MonthRec K)) (hf : List (Herd K))
    (h : run cn rnd herds series = .ok (rs, hf)) :
    ∀ r ∈ rs, ∀ s, s ≠ Size.other →
      ((r.recs.filter (fun d => d.c.b.a.h.sp.size = s)).map (fun d => d.c.slaughter * d.c.b.a.h.sp.hours)).sum
        ≤ ((r.recs.filter (fun d => d.c.b.a.h.sp.size = s)).map (fun d => d.c.b.a.h.sp.hours * d.c.b.a.h.sp.baseline)).sum := by
  intro r hr s hs
  obtain ⟨_, _, hs', _, -, -, hm⟩ := run_month cn hcn rnd herds hh series rs hf h r hr
  have := hm.hours s hs
  rw [← hm.start, List.filter_map, List.map_map] at this
  exact this

theorem C06_run_available_and_target (cn : Country K) (hcn : CountryOK cn) (rnd : K → K) (herds : List (Herd K))
    (hh : ∀ h ∈ herds, HerdOK h) (series : List (K × K)) (rs : List (MonthRec K)) (hf : List (Herd K))
    (h : run cn rnd herds series = .ok (rs, hf)) :
    ∀ r ∈ rs, ∀ d ∈ r.recs, AvailTarget d := by
  intro r hr
  obtain ⟨_, _, _, _, -, -, hm⟩ := run_month cn hcn rnd herds hh series rs hf h r hr
  exact month_availTarget hm

/-- the months of a run are chained: the first starts from the initial herds, each next month starts
    from the end-of-month state of the previous one, and the final herds satisfy the invariant -/
theorem C06_run_chain (cn : Country K) (hcn : CountryOK cn) (rnd : K → K) (herds : List (Herd K))
    (hh : ∀ h ∈ herds, HerdOK h) (series : List (K × K)) (rs : List (MonthRec K)) (hf : List (Herd K))
    (h : run cn rnd herds series = .ok (rs, hf)) :
    Chain rnd herds series rs hf ∧ (∀ x ∈ hf, HerdOK x) ∧ rs.length = series.length := by
  obtain ⟨hc, hfin⟩ : Chain rnd herds series rs hf ∧ ∀ x ∈ hf, HerdOK x :=
    (runFrom_post cn hcn rnd series true 0 herds hh).of_ok h
  refine ⟨hc, hfin, ?_⟩
  clear h hh
  induction hc with
  | nil hs => rfl
  | cons hs feed grass series r hs' rs hf hok hmf hch ih => simp [ih hfin]

/-- a run never stops on an `assert` in exact arithmetic, whatever the series -/
theorem C06_run_no_error (cn : Country K) (hcn : CountryOK cn) (hk0 : cn.homekillHours = 0) (rnd : K → K)
    (herds : List (Herd K)) (hh : ∀ h ∈ herds, HerdOK h) (hsz : ∀ h ∈ herds, h.sp.size ≠ Size.other)
    (series : List (K × K)) : ∃ out, run cn rnd herds series = .ok out :=
  (runFrom_post cn hcn rnd series true 0 herds hh).exists_ok (not_stop hk0 hsz)

/-! ## baseline births of a meat herd

`birthsBaseline` is the formula of `set_species_slaughter_attributes` for
`births_animals_month_baseline`: natural deaths + slaughter − animals transferred in from the dairy
herd, clamped at 0; `birthsBaselineUnfixed` is the same without the clamp.  With the figures of
Belarus' meat goats the unclamped value is negative: the herd starts with negative pregnant animals
(outside `HerdOK`) and the first month records negative births. -/

def birthsBaselineUnfixed (otherDeaths slaughter transferIn : K) : K := otherDeaths + slaughter - transferIn
def birthsBaseline (otherDeaths slaughter transferIn : K) : K := max 0 (otherDeaths + slaughter - transferIn)

omit [IsStrictOrderedRing K] in
theorem birthsBaseline_nonneg (od sl tr : K) : 0 ≤ birthsBaseline od sl tr := le_max_left _ _

/-- Belarus, meat goats (FAOSTAT table of the repository): 29 456 head, no recorded slaughter, 5 % annual
    natural deaths; the dairy goats (30 644 head, 1149.15 female births a month, 1/120 retiring a month)
    send `(1149.15 + 30644/120) · (1 − 0.9) ≈ 140.45` animals a month, more than the 122.73 that die:
    baseline births −17.7, pregnant animals −44.3, births recorded in month 0: −17.7 -/
def blrTransfer : ℚ := (1149.15 + 30644 * (1 / 10 / 12)) * (1 - 0.9)
def blrBirths : ℚ := birthsBaselineUnfixed ((29456 : ℚ) * (0.05 / 12)) 0 blrTransfer

theorem C06_negative_births_counterexample :
    blrBirths < 0 ∧
    (birthsOne (0 : ℚ) ⟨⟨⟨"meat_goat", "goat", false, true, .medium, 0.6, 0.8, 1e-5, 4, 0, 29456, 0.05 / 12, 2, 1, 0.9, 5, 0, 1, 0.9, 0⟩,
        ⟨29456, 0, 1 * blrBirths / 2 * 5, 1 * blrBirths / 2 * 5 / 5, 0⟩⟩,
        0, ⟨0, 0, 0, 0, 0, 0⟩, 0⟩).births < 0 ∧
    birthsBaseline ((29456 : ℚ) * (0.05 / 12)) 0 blrTransfer = 0 := by
  refine ⟨?_, ?_, ?_⟩ <;> decide +kernel

def exMilk : Herd ℚ :=
  ⟨⟨"milk_cattle", "cattle", true, true, .large, 0.6, 0.8, 1e-3, 8, 10, 100, 0.01, 1, 2, 0.9, 2, 0, 1, 0.9, 0.01⟩,
   ⟨1000, 10, 40, 20, 0⟩⟩
def exMeat : Herd ℚ :=
  ⟨⟨"meat_cattle", "cattle", false, true, .large, 0.6, 0.8, 1e-3, 8, 50, 500, 0.01, 1, 1, 0.9, 2, 0, 1, 0.9, 0⟩,
   ⟨2000, 50, 100, 50, 0⟩⟩
def exCountry : Country ℚ := ⟨0, 0.5, 0⟩

/-- per month and herd: (transfer_population, starvation deaths, end-of-month head count, slaughter) -/
def exOut (x : Except String (List (MonthRec ℚ) × List (Herd ℚ))) : List (List (ℚ × ℚ × ℚ × ℚ)) :=
  match x with
  | .ok (rs, _) => rs.map (fun r => r.recs.map (fun d => (d.c.transferPop, d.ods, d.popEnd, d.c.slaughter)))
  | .error _ => []

/-- the run completes; in month 0 the beef herd receives 10 retired cows + 1 surviving male calf, both
    herds are only partially fed in months 0 and 1 (animals starve) and fully fed in month 2 -/
example : exOut (run exCountry (fun x => x) [exMeat, exMilk] [(1, 1), (0, 2), (5, 0)]) =
    [[(11, 495, 1496, 50), (-11, 891, 89, 10)],
     [(989 / 1000, 1107 / 5, 623877 / 500, 50), (-989 / 1000, 801 / 10, 811 / 100, 0)],
     [(9001 / 100000, 0, 4136528123 / 3400000, 50), (-9001 / 100000, 0, 80369 / 10000, 0)]] := by
  decide +kernel

end Allfed.C06
