import AllfedModel.Proofs.Supply.Crops
import Mathlib.Analysis.SpecialFunctions.Pow.Real
/-!
`Model/Supply.lean` takes Python's `**` with a real exponent as a parameter `pow`, and the theorems of
C08/C09 assume `PowOK pow` (DESIGN §3).  Here: `Real.rpow` satisfies `PowOK`, so every theorem of
`Props/C08.lean` and `Props/C09.lean` holds over ℝ with `pow x e := x ^ e`.
(Kept in its own file because it is the only place that needs real analysis.)
-/
namespace Allfed.C09
open Allfed.Proofs.Supply

theorem powOK_rpow : PowOK (fun (x e : ℝ) => x ^ e) := by
  refine ⟨?_, ?_, ?_⟩
  · intro x e hx0 hx1 he0 he1
    rcases eq_or_lt_of_le hx0 with h | h
    · subst h; rw [Real.zero_rpow he0.ne']
    · calc x = x ^ (1 : ℝ) := (Real.rpow_one x).symm
        _ ≤ x ^ e := Real.rpow_le_rpow_of_exponent_ge h hx1 he1
  · intro x e hx0 hx1 he0 he1
    exact Real.rpow_le_one hx0 hx1 he0.le
  · intro x; exact Real.rpow_one x

end Allfed.C09
