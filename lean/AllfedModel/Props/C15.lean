import AllfedModel.Model.Aggregate
import AllfedModel.Proofs.Aggregate
import AllfedModel.Proofs.SortedKeys
import AllfedModel.Proofs.WeightedMean
import AllfedModel.Gen.CountryCodes
/-!
# C15 — the aggregate fed fraction is a capped, population-weighted mean of the selection

`K` is any linearly ordered field; selection lists, tables and the per-country outcome function are
arbitrary.

`C15_selection_*` state what the code does with the selection list (`get_countries_to_run_and_skip` + the two
`continue` tests).  The case to know: a list with at least one name free of '!' — a MIXED list too — runs exactly
the rows named without '!'; the names with '!' are ignored altogether (`["USA", "!CHN"]` runs USA only; it does
not mean "USA, and not CHN").
A country whose run yields NaN is left out of the numerator, of the denominator AND of `results`
(the loop `continue`s before any of the three is touched), so the three stay consistent.
-/
namespace Allfed.C15
open Allfed.Aggregate Allfed.Gen.CountryCodes

variable {K : Type} [Field K] [LinearOrder K] [IsStrictOrderedRing K]

/-- `net_pop_fed / net_pop` for a list of `(population, fraction fed)` -/
theorem C15_value (l : List (K × K)) :
    aggregate l = (l.map (fun x => x.1 * min 1 x.2)).sum / (l.map Prod.fst).sum := by
  unfold aggregate
  rw [Proofs.foldl_add_map, Proofs.foldl_add_map, zero_add, zero_add]
  simp only [Proofs.Aggregate.cap_eq_min, mul_comm (min (1 : K) _)]

/-- the loop of `run_model_no_trade`; `ran`: the rows that are selected and whose run returned a number -/
theorem C15_value_loop (l : List String) (table : List (Country K)) (frac : Country K → Option K) :
    (runLoop l table frac).netPop = ((ran l table frac).map Prod.fst).sum ∧
    (runLoop l table frac).netPopFed = ((ran l table frac).map (fun x => x.1 * min 1 x.2)).sum ∧
    (runLoop l table frac).netPopFed / (runLoop l table frac).netPop = aggregate (ran l table frac) :=
  have ⟨h1, h2, _⟩ := Proofs.Aggregate.foldl_step l frac table ⟨0, 0, []⟩
  ⟨h1.trans (zero_add _), h2.trans (zero_add _), by rw [runLoop, h1, h2, zero_add, zero_add, C15_value]⟩

/-- `l ≠ []`: when no country was run `net_pop = 0`, and the code prints NaN instead of dividing
    (`if net_pop > 0`) -/
theorem C15_bounds (l : List (K × K)) (hne : l ≠ []) (h : ∀ x ∈ l, 0 < x.1 ∧ 0 ≤ x.2) :
    0 ≤ aggregate l ∧ aggregate l ≤ 1 := by
  -- the weighted mean of the capped fractions `min 1 r ∈ [0, 1]`, the populations being the weights
  rw [C15_value, funext fun x : K × K => mul_comm x.1 (min 1 x.2)]
  exact Proofs.weighted_mean_bounds l (fun x => min 1 x.2) Prod.fst 0 1 (fun x hx => (h x hx).1.le)
    (fun x hx => ⟨le_min zero_le_one (h x hx).2, min_le_left _ _⟩)
    (Proofs.Aggregate.sum_pop_pos l hne fun x hx => (h x hx).1)

theorem C15_all_fed (l : List (K × K)) (hne : l ≠ []) (h : ∀ x ∈ l, 0 < x.1 ∧ 1 ≤ x.2) :
    aggregate l = 1 := by
  have hcap : l.map (fun x => x.1 * min 1 x.2) = l.map Prod.fst :=
    List.map_congr_left fun x hx => by rw [min_eq_left (h x hx).2, mul_one]
  rw [C15_value, hcap, div_self (Proofs.Aggregate.sum_pop_pos l hne fun x hx => (h x hx).1).ne']

theorem C15_selection_empty (table : List String) : select [] table = table :=
  List.filter_eq_self.mpr fun a _ => by simp [selected, Proofs.Aggregate.runAndSkip_nil]

theorem C15_selection_exclusion (l table : List String) (hne : l ≠ []) (h : ∀ c ∈ l, hasBang c = true) (code : String) :
    code ∈ select l table ↔ code ∈ table ∧ ∀ c ∈ l, stripBang c ≠ code := by
  rw [Proofs.Aggregate.select_allBang l table hne h]
  simp [List.mem_filter]

/-- the documented syntax `["!A", "!B", …]` -/
theorem C15_selection_exclusion_syntax (xs table : List String) (hne : xs ≠ []) (hx : ∀ x ∈ xs, hasBang x = false) :
    select (xs.map ("!" ++ ·)) table = table.filter (fun code => !xs.contains code) := by
  have hall : ∀ c ∈ xs.map ("!" ++ ·), hasBang c = true := by
    intro c hc
    obtain ⟨x, _, rfl⟩ := List.mem_map.mp hc
    exact Proofs.Aggregate.hasBang_bang_append x
  have hmap : (xs.map ("!" ++ ·)).map stripBang = xs := by
    rw [List.map_map]
    exact (List.map_congr_left fun x hxm => Proofs.Aggregate.stripBang_bang_append x (hx x hxm)).trans
      (List.map_id xs)
  rw [Proofs.Aggregate.select_allBang _ table (by simpa using hne) hall, hmap]

theorem C15_selection_mixed (l table : List String) (h : ∃ c ∈ l, hasBang c = false) (code : String) :
    code ∈ select l table ↔ code ∈ table ∧ code ∈ l ∧ hasBang code = false := by
  rw [Proofs.Aggregate.select_mixed l table h]
  simp [List.mem_filter]

theorem C15_selection_inclusion (xs table : List String) (hne : xs ≠ []) (hx : ∀ x ∈ xs, hasBang x = false) :
    select xs table = table.filter (fun code => xs.contains code) := by
  obtain ⟨a, ha⟩ := List.exists_mem_of_ne_nil xs hne
  have hxs : xs.filter (fun c => !hasBang c) = xs :=
    List.filter_eq_self.mpr fun b hb => by simp [hx b hb]
  rw [Proofs.Aggregate.select_mixed xs table ⟨a, ha, hx a ha⟩, hxs]

theorem C15_selection_sublist (l table : List String) : (select l table).Sublist table :=
  List.filter_sublist

theorem C15_once_selected (l table : List String) (hn : table.Nodup) (code : String) :
    (select l table).count code = if code ∈ table ∧ selected (runAndSkip l) code = true then 1 else 0 := by
  unfold select
  rw [(hn.sublist List.filter_sublist).count]
  simp only [List.mem_filter]

/-- `results` is keyed by country NAME, hence `hn` -/
theorem C15_once_keys (l : List String) (table : List (Country K)) (frac : Country K → Option K)
    (hn : (table.map (·.name)).Nodup) :
    (runLoop l table frac).keys = (Proofs.Aggregate.ranRows l table frac).map (·.name) := by
  have hsub : ((Proofs.Aggregate.ranRows l table frac).map (·.name)).Sublist (table.map (·.name)) :=
    List.Sublist.map _ List.filter_sublist
  rw [Proofs.Aggregate.runLoop_keys_fold,
    Proofs.Aggregate.foldl_dictInsert_eq_append _ [] (by simpa using hn.sublist hsub), List.nil_append]

theorem C15_once (l : List String) (table : List (Country K)) (frac : Country K → Option K)
    (hn : (table.map (·.name)).Nodup) (c : Country K) (hc : c ∈ table) :
    (runLoop l table frac).keys.count c.name =
      if selected (runAndSkip l) c.iso3 = true ∧ (frac c).isSome = true then 1 else 0 := by
  rw [C15_once_keys l table frac hn]
  unfold Proofs.Aggregate.ranRows
  rw [(hn.sublist (List.Sublist.map _ List.filter_sublist)).count]
  refine if_congr ⟨fun hmem => ?_, fun hr => ?_⟩ rfl rfl
  · -- names are unique in the table, so the row of that name among those that ran is `c` itself
    obtain ⟨d, hd, hname⟩ := List.mem_map.mp hmem
    obtain ⟨hdt, hdr⟩ := List.mem_filter.mp hd
    obtain rfl := List.inj_on_of_nodup_map hn hdt hc hname
    simpa using hdr
  · exact List.mem_map.mpr ⟨c, List.mem_filter.mpr ⟨hc, by simp [hr.1, hr.2]⟩, rfl⟩

/-- the shipped table (regenerated into `Gen/CountryCodes.lean` on every run) meets the hypotheses of `C15_once_*` -/
theorem C15_table_codes_nodup : countryCodes.Nodup :=
  Proofs.nodup_of_sorted_keys Proofs.strKey _ (by decide +kernel)

theorem C15_table_names_nodup : countryNames.Nodup :=
  Proofs.nodup_of_sorted_keys Proofs.strKey _ (by decide +kernel)

theorem C15_table_size : countryCodes.length = 164 ∧ countryNames.length = 164 := by decide +kernel

example : select [] ["ARG", "BRA", "CHN"] = ["ARG", "BRA", "CHN"] := by decide +kernel
example : select ["!BRA"] ["ARG", "BRA", "CHN"] = ["ARG", "CHN"] := by decide +kernel
example : select ["CHN", "ARG", "ARG", "XXX"] ["ARG", "BRA", "CHN"] = ["ARG", "CHN"] := by decide +kernel
example : select ["ARG", "CHN", "!CHN"] ["ARG", "BRA", "CHN"] = ["ARG", "CHN"] := by decide +kernel
example : select ["ARG", "!BRA"] ["ARG", "BRA", "CHN"] = ["ARG"] := by decide +kernel
/-- '!' anywhere in the name counts, and every '!' is removed -/
example : select ["B!R!A"] ["ARG", "BRA", "CHN"] = ["ARG", "CHN"] := by decide +kernel

example : aggregate [((10 : ℚ), (1 / 2 : ℚ)), (30, 3)] = 7 / 8 := by decide +kernel

example : ([((10 : ℚ), (1 / 2 : ℚ)), (30, 3)] : List (ℚ × ℚ)) ≠ [] ∧
    ∀ x ∈ ([((10 : ℚ), (1 / 2 : ℚ)), (30, 3)] : List (ℚ × ℚ)), 0 < x.1 ∧ 0 ≤ x.2 := by
  decide +kernel

/-- without the cap the aggregate would exceed 1 here (what the `min 1` is for) -/
example : ((10 : ℚ) * (1 / 2) + 30 * 3) / 40 > 1 := by norm_num

end Allfed.C15
