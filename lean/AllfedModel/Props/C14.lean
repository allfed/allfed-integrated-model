import AllfedModel.Model.RunState
/-!
# C14 — a run's result depends only on its own inputs

What is proved: if every run begins by writing its own settings into the process-wide cell
(`Food.conversions`) — which the check verifies on the event trace of every real run — then what a
run reads from that cell is the same after **any** history of other runs, in any order, as when
it is executed alone in a fresh process.  State other than this cell (module tables, PuLP name
counters, CBC temp files) is outside the model: it is covered only by the bit-for-bit
differential runs of the check, so the property is labelled *partial*.
-/
namespace Allfed.C14
open Allfed.RunState

variable {σ : Type}

theorem write_before_read (g g' : Option σ) (s : σ) (evs : List (Ev σ)) :
    (exec g (.write s :: evs)).2 = (exec g' (.write s :: evs)).2 := by
  simp [exec]

/-- the same with the premise in the form the check evaluates on the event trace of every real run -/
theorem exec_independent (g g' : Option σ) (r : List (Ev σ)) (h : startsWithWrite r = true) :
    (exec g r).2 = (exec g' r).2 := by
  cases r with
  | nil => simp [startsWithWrite] at h
  | cons e t =>
    cases e with
    | write s => exact write_before_read g g' s t
    | read => simp [startsWithWrite] at h

/-- observations of the run at position `k` of a history -/
def obsAt (g : Option σ) (h : List (List (Ev σ))) (k : Nat) : Option (List (Option σ)) := (execHistory g h)[k]?

/-- `exec none r`: the run alone in a fresh process -/
theorem history_independent (g : Option σ) (before after : List (List (Ev σ))) (r : List (Ev σ))
    (h : startsWithWrite r = true) :
    obsAt g (before ++ r :: after) before.length = some (exec none r).2 := by
  induction before generalizing g with
  | nil => simp [obsAt, execHistory, exec_independent g none r h]
  | cons b bs ih =>
    simp only [List.cons_append, List.length_cons, obsAt, execHistory]
    simpa [obsAt] using ih (exec g b).1

theorem order_independent (g g' : Option σ) (b1 a1 b2 a2 : List (List (Ev σ))) (r : List (Ev σ))
    (h : startsWithWrite r = true) :
    obsAt g (b1 ++ r :: a1) b1.length = obsAt g' (b2 ++ r :: a2) b2.length := by
  rw [history_independent g b1 a1 r h, history_independent g' b2 a2 r h]

/-- the hypothesis is needed: a run that reads first sees the previous run's settings -/
theorem read_before_write_counterexample :
    (exec (some 1) ([.read, .write 2] : List (Ev Nat))).2 ≠ (exec none ([.read, .write 2] : List (Ev Nat))).2 := by
  decide

example : obsAt (none : Option Nat) ([[.write 1, .read], [.write 2, .read, .read]]) 1 = some [some 2, some 2] := by
  decide

end Allfed.C14
