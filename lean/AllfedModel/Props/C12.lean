import AllfedModel.Model.Perturb
import AllfedModel.Proofs.Perturb
/-!
# C12 — more supply never feeds fewer people, and scale does not matter

Statements are about `buildLP i .toHumans` (the LP `Optimizer.optimize_to_humans` builds), for all
inputs.  "Optimum does not decrease" is stated constructively: every feasible point of the smaller
instance is transformed into a feasible point of the larger one with at least the same objective
(so the supremum of the objective cannot decrease).
-/
namespace Allfed.C12
open Allfed.LP Allfed.AllocLP Allfed.Perturb

set_option linter.unusedVariables false

variable {K : Type} [Field K] [LinearOrder K] [IsStrictOrderedRing K]

theorem scale_feasible (k : K) (hk : 0 < k) (i : Inp K) (x : Var → K)
    (h : Feasible (buildLP i .toHumans) x) :
    Feasible (buildLP (scaleInp k i) .toHumans) (scaleX k x) ∧ scaleX k x .objective = x .objective :=
  Proofs.Perturb.scale_feasible k hk i x h

theorem scale_optimum (k : K) (hk : 0 < k) (i : Inp K) (z : K) :
    (∃ x, Feasible (buildLP i .toHumans) x ∧ x .objective = z) ↔
    (∃ x, Feasible (buildLP (scaleInp k i) .toHumans) x ∧ x .objective = z) :=
  Proofs.Perturb.scale_optimum k hk i z

/-! ## monotonicity in supplies (fixed feed and biofuel charge)

Why the hypotheses are there (without them the statements are false):
* `hlim` — non-negative *human intake limits*.  With a negative limit the row
  `…_Limit_Reduced_Population_HUMANS` (`food·ratio ≤ lim/100 · consumed·bkn/100`) tightens when the
  month's percent fed rises, and more supply can make the programme infeasible:
  `limits_needed_counterexample` below (SCP on, `limScpH = −100`, `pop = 0`, `bkn = 100`, milk
  `[] → [1]`: the zero point is feasible before, nothing is feasible after).  The same instance
  with stored food / crops added refutes the other statements that carry `hlim` (not proved here).
* `hb : 0 ≤ billionKcalsNeeded` for the stock and crop theorems.  With a negative requirement the
  percent fed *falls* when people eat more (an instance, not proved here: 2 months, stored food
  only, storage between years,
  `bkn = −100`, stock `0 → 1`: the zero point is feasible before; afterwards the stock must be
  eaten (`Stored_Food_End_1 = 0`, feed and biofuel pinned to 0) but `consumed m = −humans m ≥ 0`
  forces `humans m = 0` — infeasible). -/

theorem mono_storedInitial (i : Inp K) (d : K) (hd : 0 ≤ d) (hw0 : 0 ≤ i.wStored) (hw : i.wStored < 100)
    (hN : 2 ≤ i.nmonths) (hb : 0 ≤ i.billionKcalsNeeded)
    (hlim : 0 ≤ i.limSwH ∧ 0 ≤ i.limScpH ∧ 0 ≤ i.limCsH)
    (x : Var → K) (h : Feasible (buildLP i .toHumans) x) :
    ∃ x', Feasible (buildLP { i with storedInitial := i.storedInitial + d } .toHumans) x' ∧ x .objective ≤ x' .objective :=
  Proofs.Perturb.mono_storedInitial i d hd hw hb hlim x h

theorem mono_cropProd (i : Inp K) (prod' : List K) (hp : SeriesLe i.cropProd prod') (hw0 : 0 ≤ i.wCrop) (hw : i.wCrop < 100)
    (hN : 2 ≤ i.nmonths) (hb : 0 ≤ i.billionKcalsNeeded)
    (hlim : 0 ≤ i.limSwH ∧ 0 ≤ i.limScpH ∧ 0 ≤ i.limCsH)
    (x : Var → K) (h : Feasible (buildLP i .toHumans) x) :
    ∃ x', Feasible (buildLP { i with cropProd := prod' } .toHumans) x' ∧ x .objective ≤ x' .objective :=
  Proofs.Perturb.mono_cropProd i prod' hp hw hN hb hlim x h

theorem mono_scp (i : Inp K) (s' : List K) (hp : SeriesLe i.scp s') (x : Var → K) (h : Feasible (buildLP i .toHumans) x) :
    ∃ x', Feasible (buildLP { i with scp := s' } .toHumans) x' ∧ x .objective ≤ x' .objective := by
  rw [Proofs.LP.feasible_toHumans_iff] at h
  exact ⟨x, Proofs.LP.feasible_toHumans_iff.mpr ⟨h.nonneg, h.seaweed, h.crops, h.stored, h.meat,
    fun hon m hm => (h.scp hon m hm).trans (hp m), h.cs, h.general, h.objective⟩, le_rfl⟩

theorem mono_cs (i : Inp K) (s' : List K) (hp : SeriesLe i.cs s') (x : Var → K) (h : Feasible (buildLP i .toHumans) x) :
    ∃ x', Feasible (buildLP { i with cs := s' } .toHumans) x' ∧ x .objective ≤ x' .objective := by
  rw [Proofs.LP.feasible_toHumans_iff] at h
  exact ⟨x, Proofs.LP.feasible_toHumans_iff.mpr ⟨h.nonneg, h.seaweed, h.crops, h.stored, h.meat, h.scp,
    fun hon m hm => (h.cs hon m hm).trans (hp m), h.general, h.objective⟩, le_rfl⟩

/-- meat: total, monthly caps (storage regime) and monthly slaughter (no-storage regime) all raised -/
theorem mono_meat (i : Inp K) (total' : K) (cap' sl' : List K) (ht : i.meatSummed ≤ total')
    (hc : SeriesLe i.maxCulled cap') (hs : SeriesLe i.slaughtered sl') (x : Var → K)
    (h : Feasible (buildLP i .toHumans) x) :
    ∃ x', Feasible (buildLP { i with meatSummed := total', maxCulled := cap', slaughtered := sl' } .toHumans) x' ∧
      x .objective ≤ x' .objective := by
  rw [Proofs.LP.feasible_toHumans_iff] at h
  have hd : 0 ≤ total' - i.meatSummed := sub_nonneg.mpr ht
  refine ⟨Proofs.Perturb.shiftMeat x (total' - i.meatSummed), Proofs.LP.feasible_toHumans_iff.mpr
    ⟨?_, h.seaweed, h.crops, h.stored, ?_, h.scp, h.cs, h.general, h.objective⟩, le_rfl⟩
  · refine Proofs.Perturb.nonneg_of_mv (fun k m => ?_) (h.nonneg _) (h.nonneg _)
    cases k
    case meatStart | meatEnd => exact add_nonneg (h.nonneg _) hd
    all_goals exact h.nonneg _
  · intro hon m hm
    have H := h.meat hon m hm
    unfold Proofs.LP.MeatSpec PhysSpec.meatUse at H ⊢
    simp only [Proofs.Perturb.shiftMeat]
    split_ifs at H ⊢
    -- the shift cancels in what has been eaten so far, `total' − end`
    · exact ⟨by rw [H.1, add_sub_cancel], by rw [H.2.1, sub_add_eq_add_sub],
        le_trans (by rw [sub_add_eq_sub_sub, sub_sub_sub_cancel_left]; exact H.2.2) (hc m)⟩
    · exact ⟨by rw [H.1], by rw [H.2.1, sub_add_eq_add_sub],
        le_trans (by rw [sub_add_eq_sub_sub, sub_sub_sub_cancel_left]; exact H.2.2) (hc m)⟩
    · exact H.trans (hs m)

/-- milk, fish, greenhouse output (they enter only the monthly human total) -/
theorem mono_constants (i : Inp K) (milk' fish' gh' : List K) (hm : SeriesLe i.milk milk') (hf : SeriesLe i.fish fish')
    (hg : SeriesLe i.greenhouse gh') (hb : 0 < i.billionKcalsNeeded)
    (hlim : 0 ≤ i.limSwH ∧ 0 ≤ i.limScpH ∧ 0 ≤ i.limCsH) (x : Var → K)
    (h : Feasible (buildLP i .toHumans) x) :
    ∃ x', Feasible (buildLP { i with milk := milk', fish := fish', greenhouse := gh' } .toHumans) x' ∧
      x .objective ≤ x' .objective :=
  Proofs.Perturb.mono_constants i milk' fish' gh' hm hf hg hb.le hlim x h

/-- why `hlim` is there: with a negative human intake limit more milk makes the LP infeasible -/
theorem limits_needed_counterexample :
    ∃ (i : Inp ℚ) (milk' : List ℚ) (x : Var → ℚ), SeriesLe i.milk milk' ∧
      0 < i.billionKcalsNeeded ∧ Feasible (buildLP i .toHumans) x ∧
      ¬ ∃ x', Feasible (buildLP { i with milk := milk' } .toHumans) x' :=
  Proofs.Perturb.limits_needed_counterexample

/-! ## the feed and biofuel charge

Full statement wanted: lowering the charge (pointwise) never lowers the optimum, for all inputs.
Proved here without seaweed (`addSeaweed = false`): with seaweed the density ceiling can make the
harvest that was fed to animals compulsory, and giving it to people may hit their intake cap —
that case is only covered by the empirical perturbation runs of the check (C12 is `partial` there).
`hlim` (non-negative human intake limits of SCP and sugar) is needed: the freed stored food and
crops are eaten by people, the percent fed rises, and a negative limit would then bite (not proved
here: 2 months,
stored food + SCP, `limScpH = −100`, `pop = 0`, storage between years, stock 2, feed `[1,1] → [0,0]`:
the stock must now be eaten by people, so some month has percent fed > 0 and SCP to people < 0).
Waste percentages: see the section on retail waste below. -/

theorem charge_antitone_partial (i : Inp K) (feed' biofuel' : List K) (hs : i.addSeaweed = false)
    (hf : SeriesLe feed' i.feed) (hb : SeriesLe biofuel' i.biofuel)
    (hf0 : ∀ m, 0 ≤ at' feed' m) (hb0 : ∀ m, 0 ≤ at' biofuel' m)
    (hwS0 : 0 ≤ i.wStored) (hwS : i.wStored < 100) (hwC0 : 0 ≤ i.wCrop) (hwC : i.wCrop < 100)
    (hbkn : 0 < i.billionKcalsNeeded) (hlim : 0 ≤ i.limScpH ∧ 0 ≤ i.limCsH)
    (x : Var → K) (h : Feasible (buildLP i .toHumans) x) :
    ∃ x', Feasible (buildLP { i with feed := feed', biofuel := biofuel' } .toHumans) x' ∧ x .objective ≤ x' .objective :=
  Proofs.Perturb.charge_antitone_partial i feed' biofuel' hs hf hb hf0 hb0 hwS0 hwS hwC0 hwC hbkn hlim x h

/-! ## retail waste percentages

Lowering a retail waste percentage never lowers the optimum of the human round: people keep drawing
the same gross amount from the stock / the harvest and receive `(1 − w'/100)/(1 − w/100)` times as
much.  Proved for stored food and crops, for all inputs with `w < 100`, `0 ≤ billionKcalsNeeded`
and non-negative human intake limits (`hlim`, `hb`: the percent fed of a month rises, cf.
`limits_needed_counterexample`; with a negative requirement and negative milk the optimum really
falls, an instance not proved here: 2 months, stored food with storage between years, stock 1, `bkn = −100`, milk `[−1, −1]`,
waste 50 % → 0 %: percent fed of a month is `1 − humans`, best worst-month 0.75 before, 0.5 after).
`0 ≤ w'` and `2 ≤ nmonths` are not needed.
For seaweed the statement is FALSE: the harvest can be compulsory (density ceiling) and the larger
amount people would receive can exceed their intake cap (`mono_wasteSeaweed_counterexample`);
`mono_wasteSeaweed_partial` assumes that the two human intake caps of seaweed survive.
The distribution-side wastes are applied before the LP is built and do not appear in `Inp`: nothing
to prove about them here (the check varies them empirically). -/

theorem mono_wasteStored (i : Inp K) (w' : K) (hw' : w' ≤ i.wStored) (hw : i.wStored < 100)
    (hb : 0 ≤ i.billionKcalsNeeded) (hlim : 0 ≤ i.limSwH ∧ 0 ≤ i.limScpH ∧ 0 ≤ i.limCsH)
    (x : Var → K) (h : Feasible (buildLP i .toHumans) x) :
    ∃ x', Feasible (buildLP { i with wStored := w' } .toHumans) x' ∧ x .objective ≤ x' .objective :=
  Proofs.Perturb.mono_wasteStored i w' hw' hw hb hlim x h

theorem mono_wasteCrop (i : Inp K) (w' : K) (hw' : w' ≤ i.wCrop) (hw : i.wCrop < 100)
    (hb : 0 ≤ i.billionKcalsNeeded) (hlim : 0 ≤ i.limSwH ∧ 0 ≤ i.limScpH ∧ 0 ≤ i.limCsH)
    (x : Var → K) (h : Feasible (buildLP i .toHumans) x) :
    ∃ x', Feasible (buildLP { i with wCrop := w' } .toHumans) x' ∧ x .objective ≤ x' .objective :=
  Proofs.Perturb.mono_wasteCrop i w' hw' hw hb hlim x h

/-- seaweed: a 2-month instance over ℚ (1 t on 1 km² at the density ceiling doubling in month 1,
    intake cap 0.5, waste 50 % → 0 %) that is feasible before and infeasible after -/
theorem mono_wasteSeaweed_counterexample :
    ∃ (i : Inp ℚ) (w' : ℚ) (x : Var → ℚ), 0 ≤ w' ∧ w' ≤ i.wSeaweed ∧ i.wSeaweed < 100 ∧
      0 < i.billionKcalsNeeded ∧ (0 ≤ i.limSwH ∧ 0 ≤ i.limScpH ∧ 0 ≤ i.limCsH) ∧
      0 ≤ i.seaweedKcals ∧ Feasible (buildLP i .toHumans) x ∧
      ¬ ∃ x', Feasible (buildLP { i with wSeaweed := w' } .toHumans) x' :=
  Proofs.Perturb.mono_wasteSeaweed_counterexample

/-- seaweed, under the proviso `hcaps` that the larger amount people receive still respects
    seaweed's two human intake caps (full population; population actually fed) -/
theorem mono_wasteSeaweed_partial (i : Inp K) (w' : K) (hw' : w' ≤ i.wSeaweed) (hw : i.wSeaweed < 100)
    (hb : 0 ≤ i.billionKcalsNeeded) (hkc : 0 ≤ i.seaweedKcals)
    (hlim : 0 ≤ i.limScpH ∧ 0 ≤ i.limCsH)
    (x : Var → K) (h : Feasible (buildLP i .toHumans) x)
    (hcaps : i.addSeaweed = true → ∀ m, m < i.nmonths →
      (1 - w' / 100) / (1 - i.wSeaweed / 100) * x (.mv .swHumans m) * i.seaweedKcals
        ≤ i.limSwH / 100.0 * (i.pop * i.kcalsMonthly / 1e9) ∧
      (1 - w' / 100) / (1 - i.wSeaweed / 100) * x (.mv .swHumans m) * i.seaweedKcals
        ≤ i.limSwH / 100.0 *
          ((x (.mv .consumedKcals m)
            + ((1 - w' / 100) / (1 - i.wSeaweed / 100) - 1) * x (.mv .swHumans m) * i.seaweedKcals
                / i.billionKcalsNeeded * 100) * i.billionKcalsNeeded / 100.0)) :
    ∃ x', Feasible (buildLP { i with wSeaweed := w' } .toHumans) x' ∧ x .objective ≤ x' .objective :=
  Proofs.Perturb.mono_wasteSeaweed_partial i w' hw' hw hb hkc hlim x h hcaps

/-! ## simultaneous increases

The single-supply statements compose: each one maps a feasible point of the smaller instance to a
feasible point of the larger one without lowering the objective, and the next perturbation is applied
to the already-perturbed input.  Any finite combination other than those stated here follows the
same way. -/

/-- what each monotonicity statement above says of its two inputs -/
def NoWorse (i i' : Inp K) : Prop :=
  ∀ x, Feasible (buildLP i .toHumans) x →
    ∃ x', Feasible (buildLP i' .toHumans) x' ∧ x .objective ≤ x' .objective

omit [IsStrictOrderedRing K] in
theorem NoWorse.trans {i₁ i₂ i₃ : Inp K} (h₁ : NoWorse i₁ i₂) (h₂ : NoWorse i₂ i₃) : NoWorse i₁ i₃ :=
  fun x h =>
    let ⟨x₁, f₁, o₁⟩ := h₁ x h
    let ⟨x₂, f₂, o₂⟩ := h₂ x₁ f₁
    ⟨x₂, f₂, o₁.trans o₂⟩

theorem mono_scp_cs (i : Inp K) (s' c' : List K) (hs : SeriesLe i.scp s') (hc : SeriesLe i.cs c')
    (x : Var → K) (h : Feasible (buildLP i .toHumans) x) :
    ∃ x', Feasible (buildLP { i with scp := s', cs := c' } .toHumans) x' ∧ x .objective ≤ x' .objective :=
  NoWorse.trans (mono_scp i s' hs) (mono_cs _ c' hc) x h

theorem mono_scp_cs_constants (i : Inp K) (s' c' milk' fish' gh' : List K)
    (hs : SeriesLe i.scp s') (hc : SeriesLe i.cs c') (hm : SeriesLe i.milk milk')
    (hf : SeriesLe i.fish fish') (hg : SeriesLe i.greenhouse gh') (hb : 0 < i.billionKcalsNeeded)
    (hlim : 0 ≤ i.limSwH ∧ 0 ≤ i.limScpH ∧ 0 ≤ i.limCsH)
    (x : Var → K) (h : Feasible (buildLP i .toHumans) x) :
    ∃ x', Feasible (buildLP { i with scp := s', cs := c', milk := milk', fish := fish', greenhouse := gh' }
        .toHumans) x' ∧ x .objective ≤ x' .objective :=
  NoWorse.trans (mono_scp_cs i s' c' hs hc) (mono_constants _ milk' fish' gh' hm hf hg hb hlim) x h

/-- raised at once: the initial stock of stored food, outdoor crop production, both industrial
    foods, meat (total, monthly caps, monthly slaughter), milk, fish and greenhouse output.  Not
    covered: the seaweed supply (`initialSeaweed`, `builtArea`, `growth`), for which no monotonicity
    statement is proved.  The hypotheses are those of the single-supply statements (they concern
    fields none of the perturbations touch). -/
theorem mono_all_supplies (i : Inp K) (d : K) (prod' s' c' cap' sl' milk' fish' gh' : List K) (total' : K)
    (hd : 0 ≤ d) (hp : SeriesLe i.cropProd prod') (hs : SeriesLe i.scp s') (hc : SeriesLe i.cs c')
    (ht : i.meatSummed ≤ total') (hcap : SeriesLe i.maxCulled cap') (hsl : SeriesLe i.slaughtered sl')
    (hm : SeriesLe i.milk milk') (hf : SeriesLe i.fish fish') (hg : SeriesLe i.greenhouse gh')
    (hws0 : 0 ≤ i.wStored) (hws : i.wStored < 100) (hwc0 : 0 ≤ i.wCrop) (hwc : i.wCrop < 100)
    (hN : 2 ≤ i.nmonths) (hb : 0 < i.billionKcalsNeeded)
    (hlim : 0 ≤ i.limSwH ∧ 0 ≤ i.limScpH ∧ 0 ≤ i.limCsH)
    (x : Var → K) (h : Feasible (buildLP i .toHumans) x) :
    ∃ x', Feasible (buildLP
        { i with
            storedInitial := i.storedInitial + d, cropProd := prod', scp := s', cs := c',
            meatSummed := total', maxCulled := cap', slaughtered := sl',
            milk := milk', fish := fish', greenhouse := gh' } .toHumans) x' ∧ x .objective ≤ x' .objective :=
  (((NoWorse.trans (mono_storedInitial i d hd hws0 hws hN hb.le hlim)
    (mono_cropProd _ prod' hp hwc0 hwc hN hb.le hlim)).trans
    (mono_scp_cs_constants _ s' c' milk' fish' gh' hs hc hm hf hg hb hlim)).trans
    (mono_meat _ total' cap' sl' ht hcap hsl)) x h

/-- the retail wastes of stored food and of outdoor crops lowered at once (for seaweed the law fails:
    `mono_wasteSeaweed_counterexample`; for meat, SCP and sugar nothing is stated) -/
theorem mono_wastes (i : Inp K) (ws' wc' : K) (hs' : ws' ≤ i.wStored) (hs : i.wStored < 100)
    (hc' : wc' ≤ i.wCrop) (hc : i.wCrop < 100)
    (hb : 0 ≤ i.billionKcalsNeeded) (hlim : 0 ≤ i.limSwH ∧ 0 ≤ i.limScpH ∧ 0 ≤ i.limCsH)
    (x : Var → K) (h : Feasible (buildLP i .toHumans) x) :
    ∃ x', Feasible (buildLP { i with wStored := ws', wCrop := wc' } .toHumans) x' ∧ x .objective ≤ x' .objective :=
  NoWorse.trans (mono_wasteStored i ws' hs' hs hb hlim) (mono_wasteCrop _ wc' hc' hc hb hlim) x h

end Allfed.C12
