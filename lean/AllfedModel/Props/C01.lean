import AllfedModel.Proofs.LP
/-!
# C01 — reported allocations never use food that does not exist

`buildLP` (Model/AllocLP.lean) is compared row by row with the PuLP model the real `Optimizer`
builds on every check run; the theorems here are about **every** feasible point of `buildLP`, for
**every** input (any horizon ≥ 2 months, any supplies, any option flags), in any ordered field.
The reported allocation is feasible for the first-stage rows plus the tie-breaking rows of the
later solves, so `extra_rows_preserve` makes the main theorem apply to it.
-/
namespace Allfed.C01
open Allfed.LP Allfed.AllocLP Allfed.PhysSpec

variable {K : Type} [Field K] [LinearOrder K] [IsStrictOrderedRing K]

/-- Every feasible point of the LP the code builds satisfies every clause of `physCore`
    (`Model/PhysSpec.lean`): stocks, harvest so far, slaughter, monthly outputs and the seaweed
    ledger are respected; feed/biofuel equal the charge (human rounds) or stay within ceiling, feed
    never rising (feed round); in human rounds crops (and stored food where storage between years
    is allowed) are fully used by the last month.  A cap on each single month's meat is not a clause: it follows
    from `meat-cumulative` for `wMeat ≤ 100` (`Proofs.LP.meat_cap`). -/
theorem feasible_is_physical (i : Inp K) (kind : Kind) (x : Var → K) (hN : 2 ≤ i.nmonths)
    (h : Feasible (buildLP i kind) x) : ∀ e ∈ physCore i kind x, e.value ≤ 0 :=
  Proofs.LP.feasible_is_physical i kind x hN h

/-- adding rows (the `0.99995·z*` floors and the secondary objectives) only shrinks the feasible set -/
theorem extra_rows_preserve (rows extra : List (Row K)) (x : Var → K)
    (h : Feasible (rows ++ extra) x) : Feasible rows x :=
  Proofs.LP.extra_rows_preserve rows extra x h

/-- the row evaluator the driver runs at `Float` is the feasibility predicate of the theorems -/
theorem rowExcess_iff (x : Var → K) (r : Row K) : r.holds x ↔ ∀ e ∈ rowExcess x r, e.value ≤ 0 :=
  Proofs.LP.rowExcess_iff x r

/-- without storage of meat the monthly cap gives the cumulative statement of the property -/
theorem meat_cumulative_without_storage (i : Inp K) (kind : Kind) (x : Var → K)
    (h : Feasible (buildLP i kind) x) (hm : i.addMeat = true) (hs : i.storeBetweenYears = false)
    (m : Nat) (hlt : m < i.nmonths) :
    cum (meatUse i x) m ≤ cum (at' i.slaughtered) m :=
  Proofs.LP.meat_cumulative_without_storage i kind x h hm hs m hlt

/-- with storage of meat (after the repair of D10): cumulative meat eaten never exceeds the running
    slaughter total the pipeline hands over, hence meat is never eaten before it is slaughtered -/
theorem meat_never_eaten_before_slaughter (i : Inp K) (kind : Kind) (x : Var → K)
    (h : Feasible (buildLP i kind) x) (hm : i.addMeat = true) (hs : i.storeBetweenYears = true)
    (hc : ∀ m, m < i.nmonths → at' i.maxCulled m = cum (at' i.slaughtered) m)
    (m : Nat) (hlt : m < i.nmonths) :
    cum (meatUse i x) m ≤ cum (at' i.slaughtered) m :=
  Proofs.LP.meat_never_eaten_before_slaughter i kind x h hm hs hc m hlt

/-! ## the meat rows before the repair of D10, and what the code does NOT enforce (D14)

Before the repair `Meat_Eaten_Maximum_m` capped each month's meat by the *running* slaughter total,
so meat could be eaten before it was slaughtered.  `Proofs.LP.buildLPBefore` is `buildLP` with the
meat rows as they were (`Proofs.LP.meatRowsBefore`); the theorem keeps the witness and shows that
the row of `buildLP` is what excludes it.
In the regimes without storage between years nothing forces the initial stock to be eaten (D14). -/

/-- D10 before the fix: honest data (slaughter `[1,1,8]`), a point (eating 1, 2, 0) that is
    feasible for the LP as it was and eats meat before it is slaughtered; a row of `meatRows` fails
    at it -/
theorem meat_gap_counterexample_before_fix :
    ∃ (i : Inp ℚ) (x : Var → ℚ), 2 ≤ i.nmonths ∧ Feasible (Proofs.LP.buildLPBefore i .toHumans) x ∧
      (∀ s ∈ i.slaughtered, 0 ≤ s) ∧
      (∀ m, m < i.nmonths → at' i.maxCulled m = cum (at' i.slaughtered) m) ∧
      i.meatSummed = cum (at' i.slaughtered) (i.nmonths - 1) ∧
      (∃ e ∈ meatVsSlaughter i x, 0 < e.value) ∧
      (∃ m, m < i.nmonths ∧ ∃ r ∈ meatRows i m, ¬ r.holds x) ∧
      ¬ Feasible (buildLP i .toHumans) x :=
  Proofs.LP.meat_gap_counterexample_before_fix

/-- D14: a feasible point of the code's LP (no storage between years) that leaves stored food uneaten -/
theorem stored_gap_counterexample :
    ∃ (i : Inp ℚ) (x : Var → ℚ), 2 ≤ i.nmonths ∧ Feasible (buildLP i .toHumans) x ∧
      ∃ e ∈ physGap i .toHumans x, 0 < e.value ∧ e.clause = "stored-full-use-no-storage" :=
  Proofs.LP.stored_gap_counterexample

theorem feasible_nonvacuous :
    ∃ (i : Inp ℚ) (x : Var → ℚ), 2 ≤ i.nmonths ∧ i.addStored = true ∧ i.addOutdoor = true ∧ i.addMeat = true ∧
      Feasible (buildLP i .toHumans) x ∧ 0 < x .objective :=
  Proofs.LP.feasible_nonvacuous

end Allfed.C01
