import AllfedModel.Model.Food
import AllfedModel.Proofs.Food
import AllfedModel.Proofs.Ascii
/-!
# C11 — a food quantity's unit labels always describe its numbers

The model (`Model/Food.lean`) mirrors `food.py` / `unit_conversions.py` as they are in /repo, the `fix:` commits F1–F7 included.
`labelOK v` (executable, `Model/Food.lean`) is the statement of "correctly labelled":
the list `units` equals the three labels; the three number lists fit the shape; a series carries
exactly one `each month`, at the end of every label, a single value none; the three labels have
the same form.  The same predicate is evaluated by the harness on the implementation's results.
-/
set_option linter.unusedSectionVars false

namespace Allfed.C11
open Allfed.Food Allfed.Proofs.FoodP

variable {K : Type} [Field K] [LinearOrder K] [IsStrictOrderedRing K]

/-- Every quantity an operation returns, and every register a setter rewrites, has
    `units = [kcals_units, fat_units, protein_units]`, whatever the registers contain. -/
theorem C11_units_agree (cfg : Cfg K) (op : Op K) (s : State K) (v : FoodVal K)
    (h : eval cfg op s = .ok (.val v) ∨ eval cfg op s = .ok (.inPlace v)) : unitsAgree v = true :=
  (unitsAgree_iff v).2 (eval_units cfg op s v h)

/-- the three `set_units_from_*` setters keep the list in sync (F1) -/
theorem C11_setters_sync (m v : FoodVal K) :
    (relabelElement m = .ok v → unitsAgree v = true) ∧ (relabelTotal m = .ok v → unitsAgree v = true) ∧
    (relabelList m = .ok v → unitsAgree v = true) :=
  ⟨fun h => (unitsAgree_iff v).2 (UnitsP.relabelElement v h), fun h => (unitsAgree_iff v).2 (UnitsP.relabelTotal v h),
   fun h => (unitsAgree_iff v).2 (UnitsP.relabelList v h)⟩

/-- The operations that return a quantity are 22 of the 33 (a setter rewrites a register, a query returns none).
    `argsOK`: constructor labels / `in_units` targets within their pre-condition. -/
theorem C11_closed (cfg : Cfg K) (op : Op K) (s : State K) (v : FoodVal K)
    (hs : ∀ x ∈ s, labelOK x = true) (ha : op.argsOK = true) (h : eval cfg op s = .ok (.val v)) :
    labelOK v = true :=
  (labelOK_iff v).2 (eval_closed cfg op s v (fun x hx => (labelOK_iff x).1 (hs x hx)) ha h).1

/-- The quantity of `C11_closed` has the documented shape and labels (`docLabels`, `Proofs/Food.lean`): unchanged
    for `+ − min neg abs clip round shift slice running-sum ·number /number`; `X each month ↦ X per
    month` for one month (also by integer index); `X each month ↦ X` for sum / min / max over months;
    `ratio` for a quotient; the other operand's labels for a product with a ratio; the requested
    unit names in the operand's form for a conversion; `each month` appended once by the constructor. -/
theorem C11_doc_labels (cfg : Cfg K) (op : Op K) (s : State K) (v : FoodVal K)
    (hs : ∀ x ∈ s, labelOK x = true) (ha : op.argsOK = true) (h : eval cfg op s = .ok (.val v)) :
    docLabels op s = some (v.series, v.ku, v.fu, v.pu) :=
  (eval_closed cfg op s v (fun x hx => (labelOK_iff x).1 (hs x hx)) ha h).2

/-- `C11_doc_labels` for `get_nutrients_sum`, spelt out: the sum over the months of `X each month` is `X`. -/
theorem C11_sum_label (a v : FoodVal K) (ha : labelOK a = true) (h : sumMonths a = .ok v) :
    v.series = false ∧ v.ku = ⟨a.ku.base, a.ku.sfx.dropLast⟩ ∧ v.fu = ⟨a.fu.base, a.fu.sfx.dropLast⟩ ∧
      v.pu = ⟨a.pu.base, a.pu.sfx.dropLast⟩ ∧ a.ku.sfx.getLast? = some Suffix.each := by
  have hA := (labelOK_iff a).1 ha
  have hs : a.series = true := ((guard'_ok ..).1 h).1
  have hc := sumMonths_closed hA v h
  obtain ⟨h3, h4, h5⟩ := hc.eqs
  have hl := (labelsFor_true_iff _ _ _).1 (hA.labels_of hs)
  obtain ⟨pre, hp, _⟩ := (seriesOK_iff a.ku).1 hl.1
  exact ⟨hc.series, by rw [h3, (toTotal_of_seriesOK _ hl.1).1], by rw [h4, (toTotal_of_seriesOK _ hl.2.1).1],
    by rw [h5, (toTotal_of_seriesOK _ hl.2.2.1).1], by simp [hp]⟩

/-- `C11_doc_labels` for `get_month`, spelt out: one month of `X each month` is `X per month`. -/
theorem C11_month_label (a v : FoodVal K) (i : Int) (ha : labelOK a = true) (h : getMonth a i = .ok v) :
    v.series = false ∧ v.ku = ⟨a.ku.base, a.ku.sfx.dropLast ++ [Suffix.per]⟩ ∧
      v.fu = ⟨a.fu.base, a.fu.sfx.dropLast ++ [Suffix.per]⟩ ∧ v.pu = ⟨a.pu.base, a.pu.sfx.dropLast ++ [Suffix.per]⟩ := by
  have hA := (labelOK_iff a).1 ha
  have hc := getMonth_closed i hA v h
  obtain ⟨h3, h4, h5⟩ := hc.eqs
  have hl := (labelsFor_true_iff _ _ _).1 (hA.labels_of ((guard'_ok ..).1 h).1)
  exact ⟨hc.series, by rw [h3, (toElement_of_seriesOK _ hl.1).1], by rw [h4, (toElement_of_seriesOK _ hl.2.1).1],
    by rw [h5, (toElement_of_seriesOK _ hl.2.2.1).1]⟩

/-- The same when the month is taken by integer index (F3): `getInt` is `getMonth` word for word. -/
theorem C11_index_label (a v : FoodVal K) (i : Int) (ha : labelOK a = true) (h : getInt a i = .ok v) :
    v.series = false ∧ v.ku = ⟨a.ku.base, a.ku.sfx.dropLast ++ [Suffix.per]⟩ ∧
      v.fu = ⟨a.fu.base, a.fu.sfx.dropLast ++ [Suffix.per]⟩ ∧ v.pu = ⟨a.pu.base, a.pu.sfx.dropLast ++ [Suffix.per]⟩ :=
  C11_month_label a v i ha h

/-- `C11_doc_labels` for `/`, spelt out: the quotient of two quantities with equal labels is a `ratio`
    (`ratio each month` for series). -/
theorem C11_quotient_label (a b v : FoodVal K) (ha : labelOK a = true) (hb : labelOK b = true) (h : div a b = .ok v) :
    a.units = b.units ∧ v.series = a.series ∧
      v.ku = (if a.series then ⟨"ratio", [Suffix.each]⟩ else ⟨"ratio", []⟩) ∧ v.fu = v.ku ∧ v.pu = v.ku := by
  have hc := div_closed ((labelOK_iff a).1 ha) ((labelOK_iff b).1 hb) v h
  obtain ⟨h3, h4, h5⟩ := hc.eqs
  refine ⟨eq_of_beq ((guard'_ok ..).1 h).1, hc.series, ?_, by rw [h4, h3], by rw [h5, h3]⟩
  rw [h3]; cases a.series <;> rfl

theorem render_addEach (l : Label) : l.addEach.render = l.render ++ " each month" := by
  simp [Label.render, Label.addEach, List.foldl_append, Suffix.render]

theorem render_addPer (l : Label) : l.addPer.render = l.render ++ " per month" := by
  simp [Label.render, Label.addPer, List.foldl_append, Suffix.render]

def seqOK (ops : List (Op K)) : Prop := ∀ op ∈ ops, op.isSetter = false ∧ op.argsOK = true

/-- `s` may be empty; a rejected operation leaves the registers as they were (`runSkip`) -/
theorem C11_sequences (cfg : Cfg K) (ops : List (Op K)) (s : State K)
    (hs : ∀ x ∈ s, labelOK x = true) (hops : seqOK ops) : ∀ x ∈ runSkip cfg ops s, labelOK x = true :=
  fun x hx => (labelOK_iff x).2
    (runSkip_induction cfg (I := AllOK) (fun op s s' hop hs h => step_allOK cfg op s s' hs hop.1 hop.2 h) ops s hops
      (fun y hy => (labelOK_iff y).1 (hs y hy)) x hx)

/-- `C11_sequences` for a run that stops at the first rejected operation -/
theorem C11_sequences_run (cfg : Cfg K) (ops : List (Op K)) (s s' : State K)
    (hs : ∀ x ∈ s, labelOK x = true) (hops : seqOK ops) (h : run cfg ops s = .ok s') : ∀ x ∈ s', labelOK x = true :=
  fun x hx => (labelOK_iff x).2
    (run_induction cfg (I := AllOK) (fun op s s' hop hs h => step_allOK cfg op s s' hs hop.1 hop.2 h) ops s s' hops
      (fun y hy => (labelOK_iff y).1 (hs y hy)) h x hx)

/-- with the setters included and NO assumption on the arguments -/
theorem C11_sequences_units (cfg : Cfg K) (ops : List (Op K)) (s : State K)
    (hs : ∀ x ∈ s, unitsAgree x = true) :
    (∀ x ∈ runSkip cfg ops s, unitsAgree x = true) ∧ (∀ s', run cfg ops s = .ok s' → ∀ x ∈ s', unitsAgree x = true) :=
  have hs' : AllAgree s := fun y hy => (unitsAgree_iff y).1 (hs y hy)
  have step := fun op s s' (_ : True) hs h => step_allAgree cfg op s s' hs h
  ⟨fun x hx => (unitsAgree_iff x).2 (runSkip_induction cfg step ops s (fun _ _ => trivial) hs' x hx),
   fun s' h x hx => (unitsAgree_iff x).2 (run_induction cfg step ops s s' (fun _ _ => trivial) hs' h x hx)⟩

/-- Operands are unchanged.  The model is functional; that the real objects are not mutated is checked by the
    harness on every step. -/
theorem C11_operands_unchanged (cfg : Cfg K) (op : Op K) (s s' : State K) (h : step cfg op s = .ok s') :
    (op.isSetter = false → s' = s ∨ ∃ v, s' = s ++ [v]) ∧
    (op.isSetter = true → s'.length = s.length ∧ (∀ k, k ≠ op.target % s.length → s'[k]? = s[k]?) ∧
      (∀ a v, s[op.target % s.length]? = some a → s'[op.target % s.length]? = some v →
        v.series = a.series ∧ v.kcals = a.kcals ∧ v.fat = a.fat ∧ v.protein = a.protein)) :=
  ⟨fun hset => step_appends cfg op s s' hset h, fun hset => step_setter cfg op s s' hset h⟩

/-- correctly labelled operands whose series are equally long never reach `Err.unmodelled`, the corner the model
    declines to predict -/
theorem C11_modelled (a b : FoodVal K) (ha : labelOK a = true) (hb : labelOK b = true)
    (hl : a.series = true → b.series = true → a.kcals.length = b.kcals.length) (e : Err) :
    (add a b = .error e → e = .assert) ∧ (sub a b = .error e → e = .assert) ∧ (mul a b = .error e → e = .assert) ∧
    (div a b = .error e → e = .assert) ∧ (minElem a b = .error e → e = .assert) :=
  have hA := (labelOK_iff a).1 ha
  have hB := (labelOK_iff b).1 hb
  ⟨add_onlyAssert a b hA hB hl e, sub_onlyAssert a b hA hB hl e, mul_onlyAssert a b hA hB hl e,
   div_onlyAssert a b hA hB hl e, minElem_onlyAssert a b hA hB hl e⟩

/-- `all_less_than_or_equal_to` also compares a single value with a series, hence `a.series = b.series` for it -/
theorem C11_reject_mixed (cfg : Cfg K) (a b : FoodVal K) (h : a.units ≠ b.units) :
    add a b = .error .assert ∧ sub a b = .error .assert ∧ div a b = .error .assert ∧ minElem a b = .error .assert ∧
    (∀ p, p ≠ Pred2.allLE → evalPred2 cfg p a b = .error .assert) ∧
    (a.series = b.series → evalPred2 cfg .allLE a b = .error .assert) := by
  have hb : (a.units == b.units) = false := beq_eq_false_iff_ne.2 h
  -- the four operations and every binary predicate but `allLE` open with the guard `a.units == b.units`
  refine ⟨guard'_false _ _ _ hb, guard'_false _ _ _ hb, guard'_false _ _ _ hb, guard'_false _ _ _ hb, fun p hp => ?_,
    fun hs => allLE_reject cfg.inclFat cfg.inclProtein a b hs h⟩
  cases p with
  | allLE => exact absurd rfl hp
  | _ => exact guard'_false _ _ _ hb

theorem C11_ratio_keeps_label (r x v : FoodVal K) (hr : labelOK r = true) (hx : labelOK x = true)
    (hrr : r.isRatio = true) (hnx : x.isRatio = false) :
    (mul r x = .ok v → v.ku = x.ku ∧ v.fu = x.fu ∧ v.pu = x.pu) ∧
    (mul x r = .ok v → v.ku = x.ku ∧ v.fu = x.fu ∧ v.pu = x.pu) :=
  ⟨mul_ratio_left r x v ((labelOK_iff r).1 hr) ((labelOK_iff x).1 hx) hnx,
   mul_ratio_right x r v ((labelOK_iff x).1 hx) ((labelOK_iff r).1 hr) hrr hnx⟩

/-- `r * x` is accepted exactly when `x * r` is, and then both carry `x`'s labels (F2) -/
theorem C11_ratio_commutes (r x : FoodVal K) (hr : labelOK r = true) (hx : labelOK x = true)
    (hrr : r.isRatio = true) (hnx : x.isRatio = false) :
    ((∃ v, mul r x = .ok v) ↔ (∃ w, mul x r = .ok w)) ∧
    (∀ v w, mul r x = .ok v → mul x r = .ok w → v.ku = w.ku ∧ v.fu = w.fu ∧ v.pu = w.pu ∧ v.series = w.series) := by
  have hR := (labelOK_iff r).1 hr
  have hX := (labelOK_iff x).1 hx
  refine ⟨mul_accept_symm r x hR hX hrr hnx, fun v w hv hw => ?_⟩
  obtain ⟨a1, a2, a3⟩ := mul_ratio_left r x v hR hX hnx hv
  obtain ⟨b1, b2, b3⟩ := mul_ratio_right x r w hX hR hrr hnx hw
  have s1 := (mul_closed hR hX v hv).series
  have s2 := (mul_closed hX hR w hw).series
  exact ⟨by rw [a1, b1], by rw [a2, b2], by rw [a3, b3], by rw [s1, s2, Bool.or_comm]⟩

/-- each of the ten binary predicates (`==`, `!=`, `all_/any_ greater/less[_or_equal_to]`) answers or refuses
    alike on two single values and on the equal one-month series; `include_fat` / `include_protein` are fields of `cfg` -/
theorem C11_predicates2 (cfg : Cfg K) (p : Pred2) (a b : FoodVal K) (ha : labelOK a = true) (hb : labelOK b = true)
    (hsa : a.series = false) (hsb : b.series = false) :
    evalPred2 cfg p (asSeries a) (asSeries b) = evalPred2 cfg p a b :=
  evalPred2_asSeries cfg p a b ((labelOK_iff a).1 ha) ((labelOK_iff b).1 hb) hsa hsb

/-- `C11_predicates2` for the unary predicates (`is_never_negative`, `all_/any_equals_zero`, `all_/any_greater_than_zero`,
    `is_a_ratio`, `is_units_percent`) -/
theorem C11_predicates1 (cfg : Cfg K) (p : Pred1) (a : FoodVal K) (ha : labelOK a = true) (hsa : a.series = false) :
    evalPred1 cfg p (asSeries a) = evalPred1 cfg p a :=
  evalPred1_asSeries cfg p a ((labelOK_iff a).1 ha) hsa

/-- `all_greater_than_or_equal_to_zero(threshold)` for every threshold (F7) -/
theorem C11_geZero_scalar_series (iF iP : Bool) (a : FoodVal K) (thr : K) (ha : labelOK a = true) (hsa : a.series = false) :
    allGEZero iF iP (asSeries a) thr = allGEZero iF iP a thr :=
  allGEZero_asSeries iF iP a thr ((labelOK_iff a).1 ha) hsa

theorem C11_predicates (cfg : Cfg K) (a b : FoodVal K) (ha : labelOK a = true) (hb : labelOK b = true)
    (hsa : a.series = false) (hsb : b.series = false) :
    (∀ p, evalPred2 cfg p (asSeries a) (asSeries b) = evalPred2 cfg p a b) ∧
    (∀ p, evalPred1 cfg p (asSeries a) = evalPred1 cfg p a) ∧
    (∀ thr, allGEZero cfg.inclFat cfg.inclProtein (asSeries a) thr = allGEZero cfg.inclFat cfg.inclProtein a thr) :=
  ⟨fun p => C11_predicates2 cfg p a b ha hb hsa hsb, fun p => C11_predicates1 cfg p a ha hsa,
   fun thr => C11_geZero_scalar_series _ _ a thr ha hsa⟩

theorem asSeries_labelOK (a : FoodVal K) (ha : labelOK a = true) (hsa : a.series = false) : labelOK (asSeries a) = true := by
  have hA := (labelOK_iff a).1 ha
  obtain ⟨k, f, p, hk, hf, hp⟩ := scalar_fields a hA hsa
  rw [labelOK_iff]
  exact ⟨rfl, by simp [shapeOK, asSeries, hk, hf, hp], labelsFor_addEach (hA.labels_of hsa)⟩

def kcalBases : List String :=
  ["billion kcals", "billion people fed", "percent people fed", "million dry caloric tons", "kcals per person per day"]
def fatBases : List String :=
  ["thousand tons", "million tons", "billion people fed", "percent people fed", "effective kcals per person per day",
   "grams per person per day"]
def withForms (bases : List String) : List String :=
  bases.flatMap fun b => [b, b ++ " each month", b ++ " per month"]

/-- why the structured labels (a base and suffixes) represent the real vocabulary faithfully: no base of the
    generated tables contains "each month" or "per month" -/
theorem vocabulary_bases_clean :
    Gen.Units.kcalMultNames = withForms kcalBases ∧ Gen.Units.fatMultNames = withForms fatBases ∧
    Gen.Units.proteinMultNames = withForms fatBases ∧
    (∀ b ∈ kcalBases ++ fatBases, Units.hasSub b "each month" = false ∧ Units.hasSub b "per month" = false) := by
  have names : Gen.Units.kcalMultNames = withForms kcalBases ∧ Gen.Units.fatMultNames = withForms fatBases ∧
      Gen.Units.proteinMultNames = withForms fatBases := by decide +kernel
  -- the substring tests on the bytes of the (ASCII) names: the kernel evaluates `String.toList` far slower (`Proofs/Ascii.lean`)
  have key : ∀ b ∈ kcalBases ++ fatBases, Ascii.isAscii b = true ∧
      Units.hasSubL (Ascii.asciiList "each month") (Ascii.asciiList b) = false ∧
      Units.hasSubL (Ascii.asciiList "per month") (Ascii.asciiList b) = false := by decide +kernel
  refine ⟨names.1, names.2.1, names.2.2, fun b hb => ?_⟩
  obtain ⟨h0, h1, h2⟩ := key b hb
  rw [Units.hasSub, Units.hasSub, Ascii.toList_eq_asciiList h0,
    Ascii.toList_eq_asciiList (s := "each month") (by decide +kernel),
    Ascii.toList_eq_asciiList (s := "per month") (by decide +kernel)]
  exact ⟨h1, h2⟩

/-! ## what the code did before the `fix:` commits, as definitions of their own, so that a regression is recognisable -/

/-- `r` succeeded with a value satisfying `p` -/
def okAnd {β : Type} (r : Except Err β) (p : β → Bool) : Bool :=
  match r with
  | .ok v => p v
  | .error _ => false
/-- `r` failed with error `e` -/
def isErr {β : Type} (r : Except Err β) (e : Err) : Bool :=
  match r with
  | .ok _ => false
  | .error e' => e' == e

def bk : List Label := [⟨"billion kcals", []⟩, ⟨"thousand tons", []⟩, ⟨"thousand tons", []⟩]
def mkScalar (k f p : ℚ) (l : List Label) : FoodVal ℚ :=
  buildScalar k f p (l.getD 0 default) (l.getD 1 default) (l.getD 2 default)
def mkSeries (k f p : List ℚ) (l : List Label) : FoodVal ℚ :=
  { series := true, kcals := k, fat := f, protein := p, ku := (l.getD 0 default).addEach, fu := (l.getD 1 default).addEach,
    pu := (l.getD 2 default).addEach, units := l.map Label.addEach }
def twoMonths : FoodVal ℚ := mkSeries [1, 2] [3, 4] [5, 6] bk

/-- F1, before the fix: `set_units_from_list_to_element` rewrote the labels and left `units` alone -/
def relabelElement_unfixed (v : FoodVal ℚ) : FoodVal ℚ :=
  { v with ku := v.ku.toElement, fu := v.fu.toElement, pu := v.pu.toElement }
def getMonth_unfixed (a : FoodVal ℚ) (i : Int) : Except Err (FoodVal ℚ) :=
  match pick a i with
  | .error e => .error e
  | .ok m => .ok (relabelElement_unfixed m)

/-- F1: the month of a correctly labelled series had a stale `units` list, and therefore could not
    be added to a per-month quantity carrying exactly the same three labels -/
theorem F1_stale_units_counterexample :
    labelOK twoMonths = true ∧
    okAnd (getMonth_unfixed twoMonths 0) (fun m => !unitsAgree m && m.labels == (mkScalar 1 1 1 (bk.map Label.addPer)).labels &&
                isErr (add m (mkScalar 1 1 1 (bk.map Label.addPer))) .assert) = true ∧
    okAnd (getMonth twoMonths 0) (fun m => unitsAgree m && (add m (mkScalar 1 1 1 (bk.map Label.addPer))).toBool) = true := by
  decide +kernel

/-- F2, before the fix: two single values multiplied kept `self`'s labels, whichever was the ratio -/
def mulScalars_unfixed (a b : FoodVal ℚ) : Except Err (FoodVal ℚ) :=
  guard' (a.isRatio || b.isRatio) .assert <| combine (· * ·) a b a.ku a.fu a.pu

theorem F2_ratio_label_counterexample :
    okAnd (mulScalars_unfixed (mkScalar 2 2 2 [Label.ratio, Label.ratio, Label.ratio]) (mkScalar 3 4 5 bk))
      (fun v => v.labels == [Label.ratio, Label.ratio, Label.ratio]) = true ∧
    okAnd (mul (mkScalar 2 2 2 [Label.ratio, Label.ratio, Label.ratio]) (mkScalar 3 4 5 bk)) (fun v => v.labels == bk) = true := by
  decide +kernel

/-- F3, before the fix: an integer index returned the month still labelled `each month` -/
theorem F3_index_label_counterexample :
    okAnd (pick twoMonths 1) (fun m => !labelOK m && !m.series && m.ku.hasEach) = true ∧
    okAnd (getInt twoMonths 1) (fun m => labelOK m && m.ku.render == "billion kcals per month") = true := by
  decide +kernel

/-- F4, before the fix: with an integer fat/protein the constructor appended " each month"
    unconditionally -/
def constructIntFat_unfixed (k : List ℚ) (ku fu pu : Label) : Except Err (FoodVal ℚ) :=
  guard' (0 < k.length) .assert <|
  .ok { series := true, kcals := k, fat := List.replicate k.length 0, protein := List.replicate k.length 0,
        ku := ku.fixEach, fu := fu.addEach, pu := pu.addEach, units := [ku.fixEach, fu.addEach, pu.addEach] }

theorem F4_doubled_suffix_counterexample :
    okAnd (constructIntFat_unfixed [1, 2] twoMonths.ku twoMonths.fu twoMonths.pu)
      (fun v => !labelOK v && v.fu.render == "thousand tons each month each month") = true ∧
    okAnd (construct (.series [1, 2] .int .int) twoMonths.ku twoMonths.fu twoMonths.pu)
      (fun v => labelOK v && v.fu.render == "thousand tons each month") = true := by
  decide +kernel

/-- F5, before the fix: the monthly branch of `any_greater_than` / `any_less_than` looked at fat and
    protein exactly when they are excluded -/
def anyGT_unfixed (iF iP : Bool) (a b : FoodVal ℚ) : Except Err Bool :=
  guard' (a.units == b.units) .assert <| guard' (validate a) .assert <|
  pred2 a b (relOf .gt) true (if a.series then combAnyExcl iF iP else combAnyIncl iF iP)

theorem F5_any_predicates_counterexample :
    anyGT_unfixed true true (mkScalar 1 5 1 bk) (mkScalar 1 1 1 bk) = .ok true ∧
    anyGT_unfixed true true (asSeries (mkScalar 1 5 1 bk)) (asSeries (mkScalar 1 1 1 bk)) = .ok false ∧
    anyGT true true (asSeries (mkScalar 1 5 1 bk)) (asSeries (mkScalar 1 1 1 bk)) = .ok true := by
  decide +kernel

/-- F5, before the fix: the monthly branch of `all_greater_than_zero` ignored the exclusion flags -/
def allGTZero_unfixed (iF iP : Bool) (a : FoodVal ℚ) : Except Err Bool :=
  guard' (validate a) .assert <|
  .ok (pred1 a (fun x => decide (0 < x)) false (if a.series then combAll true true else combAll iF iP))

theorem F5_all_gt_zero_counterexample :
    allGTZero_unfixed false true (mkScalar 1 0 1 bk) = .ok true ∧
    allGTZero_unfixed false true (asSeries (mkScalar 1 0 1 bk)) = .ok false ∧
    allGTZero false true (asSeries (mkScalar 1 0 1 bk)) = .ok true := by
  decide +kernel

/-- F6, before the fix: `any_less_than_or_equal_to` asserted equal units only for single values -/
def anyLE_unfixed (iF iP : Bool) (a b : FoodVal ℚ) : Except Err Bool :=
  guard' (a.series || a.units == b.units) .assert <| guard' (validate a) .assert <|
  pred2 a b (relOf .le) true (combAnyIncl iF iP)

def grams : List Label := [⟨"g", []⟩, ⟨"g", []⟩, ⟨"g", []⟩]

theorem F6_any_le_units_counterexample :
    (asSeries (mkScalar 1 1 1 grams)).units ≠ (asSeries (mkScalar 2 2 2 bk)).units ∧
    anyLE_unfixed true true (asSeries (mkScalar 1 1 1 grams)) (asSeries (mkScalar 2 2 2 bk)) = .ok true ∧
    anyLE true true (asSeries (mkScalar 1 1 1 grams)) (asSeries (mkScalar 2 2 2 bk)) = .error .assert := by
  decide +kernel

/-- F7, before the fix: the tolerance of `all_greater_than_or_equal_to_zero` was ignored for a single value -/
def allGEZero_unfixed (iF iP : Bool) (a : FoodVal ℚ) (thr : ℚ) : Except Err Bool :=
  guard' (validate a) .assert <|
  .ok (pred1 a (fun x => decide ((if a.series then -thr else 0) ≤ x)) false (combAll iF iP))

theorem F7_threshold_counterexample :
    allGEZero_unfixed true true (mkScalar (-1/2) 1 1 bk) 1 = .ok false ∧
    allGEZero_unfixed true true (asSeries (mkScalar (-1/2) 1 1 bk)) 1 = .ok true ∧
    allGEZero true true (mkScalar (-1/2) 1 1 bk) 1 = .ok true := by
  decide +kernel

def cfgQ : Cfg ℚ := { conv := Gen.Units.mkConv 2100 47 51 7800000000, inclFat := true, inclProtein := false, rnd := fun _ x => x }

example : labelOK twoMonths = true ∧ labelOK (mkScalar 1 1 1 bk) = true ∧
    labelOK (mkScalar 2 2 2 [Label.ratio, Label.ratio, Label.ratio]) = true := by decide +kernel
example : (add twoMonths twoMonths).toBool = true ∧ (sumMonths twoMonths).toBool = true ∧
    (getMonth twoMonths (-1)).toBool = true ∧ (div twoMonths twoMonths).toBool = true := by decide +kernel
example : okAnd (sumMonths twoMonths) (fun v => v.ku.render == "billion kcals" && v.kcals == [3]) = true := by decide +kernel
example : okAnd (getMonth twoMonths 1) (fun v => v.ku.render == "billion kcals per month" && v.fat == [4]) = true := by
  decide +kernel
def demoOps : List (Op ℚ) :=
  [.construct (.series [1, 2] (.arr [3, 4]) .int) ⟨"billion kcals", []⟩ ⟨"thousand tons", []⟩ ⟨"thousand tons", []⟩,
   .construct (.scalar 2 2 2) Label.ratio Label.ratio Label.ratio,
   .mul 1 0, .mul 0 1, .sum 2, .getMonth 3 0, .add 4 5, .inUnits 0 ⟨"billion people fed", []⟩ ⟨"billion people fed", []⟩ ⟨"billion people fed", []⟩,
   .div 0 0, .shift 0 1, .getSlice 0 0 1]
example : (∀ op ∈ demoOps, op.isSetter = false ∧ op.argsOK = true) := by decide +kernel
example : (runSkip cfgQ demoOps []).length = 10 ∧ (runSkip cfgQ demoOps []).all labelOK = true := by decide +kernel
example : isErr (add twoMonths (asSeries (mkScalar 1 1 1 grams))) .assert = true := by decide +kernel
example : isErr (mul (mkScalar 1 1 1 bk) (mkScalar 1 1 1 grams)) .assert = true := by decide +kernel
example : (mkScalar 2 2 2 [Label.ratio, Label.ratio, Label.ratio]).isRatio = true ∧ twoMonths.isRatio = false ∧
    (mul (mkScalar 2 2 2 [Label.ratio, Label.ratio, Label.ratio]) twoMonths).toBool = true ∧
    (mul twoMonths (mkScalar 2 2 2 [Label.ratio, Label.ratio, Label.ratio])).toBool = true := by decide +kernel
example : evalPred2 cfgQ .anyGT (asSeries (mkScalar 1 5 1 bk)) (asSeries (mkScalar 1 1 1 bk)) = .ok true ∧
    evalPred2 cfgQ .anyGT (mkScalar 1 5 1 bk) (mkScalar 1 1 1 bk) = .ok true := by decide +kernel

end Allfed.C11
