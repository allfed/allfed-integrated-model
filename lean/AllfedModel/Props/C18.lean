import AllfedModel.Model.Handoff
import AllfedModel.Proofs.Handoff
/-!
# C18 — hand-offs between rounds preserve totals, bounds and priorities
-/
namespace Allfed.C18
open Allfed.Handoff

variable {K : Type} [Field K] [LinearOrder K] [IsStrictOrderedRing K]

/-! ## minimum human consumption (`calculate_human_consumption_for_min_needs`) -/

/-- each month's minimum consumption adds up to exactly `min(cap, what was eaten)` -/
theorem fillMonth_sum (cap : K) (foods : List K) (hc : 0 ≤ cap) (hf : ∀ f ∈ foods, 0 ≤ f) :
    (fillMonth cap foods).sum = min cap foods.sum := by
  refine Proofs.fillMonth_cases (P := fun cap foods out => out.sum = min cap foods.sum) ?_ ?_ ?_ cap foods hc hf
  · intro cap hc; simp [hc]
  · intro cap f t _ _ ih
    rw [List.sum_cons, List.sum_cons, ih, ← min_add_add_left, add_sub_cancel]
  · intro cap f t _ h ht
    rw [List.sum_cons, List.sum_cons, List.sum_eq_zero (by simp), add_zero,
      min_eq_left (h.trans (le_add_of_nonneg_right (List.sum_nonneg ht)))]

/-- each month's minimum consumption never exceeds, food by food, what people ate in the no-feed round -/
theorem fillMonth_le (cap : K) (foods : List K) (hc : 0 ≤ cap) (hf : ∀ f ∈ foods, 0 ≤ f) :
    List.Forall₂ (· ≤ ·) (fillMonth cap foods) foods :=
  Proofs.fillMonth_le cap foods hc hf

theorem fillMonth_nonneg (cap : K) (foods : List K) (hc : 0 ≤ cap) (hf : ∀ f ∈ foods, 0 ≤ f) :
    ∀ c ∈ fillMonth cap foods, 0 ≤ c :=
  Proofs.fillMonth_nonneg cap foods hc hf

/-- priority order: a later food is drawn on only if every earlier food is used in full -/
theorem fillMonth_priority (cap : K) (foods : List K) (hc : 0 ≤ cap) (hf : ∀ f ∈ foods, 0 ≤ f)
    (i j : Nat) (hij : i < j) (hj : j < foods.length) (hpos : 0 < (fillMonth cap foods).getD j 0) :
    (fillMonth cap foods).getD i 0 = foods.getD i 0 := by
  revert i j
  refine Proofs.fillMonth_cases (P := fun _ foods out => ∀ i j, i < j → j < foods.length →
    0 < out.getD j 0 → out.getD i 0 = foods.getD i 0) ?_ ?_ ?_ cap foods hc hf
  · simp
  · intro cap f t _ _ ih i j hij hj hpos
    obtain ⟨j, rfl⟩ := Nat.exists_eq_add_one_of_ne_zero (Nat.ne_zero_of_lt hij)
    cases i with
    | zero => rfl
    | succ i => exact ih i j (by omega) (by simpa using hj) hpos
  · intro cap f t _ _ _ i j hij _ hpos
    obtain ⟨j, rfl⟩ := Nat.exists_eq_add_one_of_ne_zero (Nat.ne_zero_of_lt hij)
    -- nothing is eaten after the cut, so `hpos` says `0 < 0`
    simp [List.getD_eq_getElem?_getD] at hpos

/-- the ceiling is `KCALS_DAILY · min(p1, T) / 100` -/
theorem dailyMax_eq_min (kd p1 T : K) : dailyMax kd p1 T = kd * (min p1 T / 100) :=
  Proofs.dailyMax_eq_min kd p1 T

/-- with `p1` the worst month of round 1 (so every month ate at least `p1`), every month of the
    hand-off adds up to exactly `KCALS_DAILY · min(p1, T)/100` -/
theorem minNeeds_month_sum_eq_cap (kd p1 T : K) (months : List (List K)) (hkd : 0 ≤ kd) (hp : 0 ≤ p1) (hT : 0 ≤ T)
    (hf : ∀ row ∈ months, ∀ f ∈ row, 0 ≤ f)
    (hworst : ∀ row ∈ months, kd * (p1 / 100) ≤ row.sum) :
    ∀ out ∈ minNeeds (dailyMax kd p1 T) months, out.sum = kd * (min p1 T / 100) := by
  intro out hout
  obtain ⟨row, hrow, rfl⟩ := List.mem_map.mp hout
  have hcap : 0 ≤ kd * (min p1 T / 100) := by have := le_min hp hT; positivity
  rw [dailyMax_eq_min, fillMonth_sum _ _ hcap (hf row hrow)]
  refine min_eq_left (le_trans ?_ (hworst row hrow))
  exact mul_le_mul_of_nonneg_left
    (div_le_div_of_nonneg_right (min_le_left p1 T) (by norm_num)) hkd

/-! ## re-timing of meat (`fill_negatives_with_positives`, `get_second_round_kcals_with_redistributed_meat`) -/

theorem fillNeg_length (arr : List K) : (fillNeg arr).length = arr.length :=
  Proofs.fillNeg_length arr

theorem fillNeg_sum (arr : List K) : (fillNeg arr).sum = arr.sum :=
  (Proofs.fillOuter_length_sum _ _).2

/-- if the total is non-negative, the back-fill leaves no negative month -/
theorem fillNeg_nonneg (arr : List K) (h : 0 ≤ arr.sum) : ∀ x ∈ fillNeg arr, 0 ≤ x := by
  intro x hx
  obtain ⟨j, rfl⟩ := Proofs.mem_getD _ _ hx
  unfold fillNeg
  refine Proofs.fillOuter_nonneg _ _ ?_ ?_ h j
  · intro m hm
    unfold negIdx at hm
    have := (List.mem_filter.mp hm).2
    exact (of_decide_eq_true this).le
  · intro j hj
    unfold negIdx
    refine List.mem_filter.mpr ⟨List.mem_range.mpr (Proofs.lt_length_of_getD_ne _ _ hj.ne), ?_⟩
    exact decide_eq_true hj

/-- the documented `None`: exactly when round 1 has more meat in total -/
theorem redistribute_none_iff (r1 r2 : List K) : redistribute r1 r2 = none ↔ r2.sum < r1.sum := by
  unfold redistribute
  rw [Proofs.lsum_eq_sum, Proofs.lsum_eq_sum]
  split_ifs with h <;> simp [h]

theorem redistribute_total (r1 r2 out : List K) (hl : r1.length = r2.length)
    (h : redistribute r1 r2 = some out) : out.sum = r2.sum := by
  obtain ⟨_, rfl⟩ := Proofs.redistribute_eq r1 r2 out hl h
  rw [← List.sum_add_sum_eq_sum_zipWith_of_length_eq _ _ (by simp [fillNeg_length, hl]), fillNeg_sum,
    Proofs.sum_zipWith_sub _ _ hl.symm, add_sub_cancel]

/-- every month at or above the no-feed level -/
theorem redistribute_ge_round1 (r1 r2 out : List K) (hl : r1.length = r2.length)
    (h : redistribute r1 r2 = some out) : List.Forall₂ (· ≤ ·) r1 out := by
  obtain ⟨hs, rfl⟩ := Proofs.redistribute_eq r1 r2 out hl h
  refine Proofs.forall₂_le_zipWith_add _ _ (by simp [fillNeg_length, hl]) (fillNeg_nonneg _ ?_)
  rw [Proofs.sum_zipWith_sub _ _ hl.symm]; exact sub_nonneg.mpr hs

theorem redistribute_nonneg (r1 r2 out : List K) (hl : r1.length = r2.length) (h1 : ∀ x ∈ r1, 0 ≤ x)
    (h : redistribute r1 r2 = some out) : ∀ x ∈ out, 0 ≤ x := by
  have hf := redistribute_ge_round1 r1 r2 out hl h
  intro x hx
  obtain ⟨j, hj, rfl⟩ := List.mem_iff_getElem.mp hx
  have hj1 : j < r1.length := hf.length_eq ▸ hj
  exact (h1 _ (List.getElem_mem hj1)).trans (hf.get hj1 hj)

/-! ## final feed/biofuel adjustment (`increase_biofuels_then_feed`, after the `fix:` commit for D13) -/

theorem bump_never_lowers (b f inc mb mf av : K) :
    b ≤ (bump1 b f inc mb mf av).1 ∧ f ≤ (bump1 b f inc mb mf av).2 :=
  Proofs.bump1_never_lowers b f inc mb mf av

/-- never raises one above its ceiling — for *arbitrary* inputs: biofuel is either unchanged or
    ends at most at its ceiling; feed ends at most `1e-9` (the code's own regulariser, i.e. one
    kilocalorie) above the larger of its input value and its ceiling.

    The regulariser makes biofuel's share `pb / (pb + pf + 1e-9)` slightly too small and the remainder
    goes to feed, so feed overshoots by up to `1e-9`: above its ceiling when it had head-room
    (`bump1 2 4 1 3 5 100` ends with feed above 5), above its input when it had none
    (`bump_feed_leak_witness`; so `(bump1 …).2 = f` in place of `≤ f + 1e-9` would be false). -/
theorem bump_within_ceiling (b f inc mb mf av : K) :
    ((bump1 b f inc mb mf av).1 = b ∨ (bump1 b f inc mb mf av).1 ≤ mb) ∧
    ((bump1 b f inc mb mf av).2 ≤ f + 1e-9 ∨ (bump1 b f inc mb mf av).2 ≤ mf + 1e-9) :=
  Proofs.bump1_within_ceiling b f inc mb mf av

/-- `b = 2, f = 10, inc = 1, mb = 3, mf = 5, av = 100` gives feed `10 + 1e-9/(1 + 1e-9)`, neither `= 10`
    nor `≤ 5 + 1e-9` -/
theorem bump_feed_leak_witness :
    ¬ ((bump1 (2 : ℚ) 10 1 3 5 100).2 = 10 ∨ (bump1 (2 : ℚ) 10 1 3 5 100).2 ≤ 5 + 1e-9) := by
  decide +kernel

theorem bump_within_ceiling_of_le (b f inc mb mf av : K) :
    (b ≤ mb → (bump1 b f inc mb mf av).1 ≤ mb) ∧
    (f ≤ mf → (bump1 b f inc mb mf av).2 ≤ mf + 1e-9) := by
  obtain ⟨h1, h2⟩ := bump_within_ceiling b f inc mb mf av
  exact ⟨fun hb => h1.elim (fun h => h.le.trans hb) id,
    fun hf => h2.elim (fun h => h.trans (add_le_add hf le_rfl)) id⟩

/-- the helper as it was before the `fix:` commit (no clamp of the potential increases) -/
def bump1_unfixed (biofuel feed increase maxB maxF avail : K) : K × K :=
  let pb := min (biofuel + increase) maxB - biofuel
  let pf := min (feed + increase) maxF - feed
  let tot := pb + pf
  let allowed := if tot + biofuel + feed ≤ avail then tot else avail - biofuel - feed
  let prop := pb / (tot + 1e-9)
  let ab := allowed * prop
  let af := allowed - ab
  (biofuel + max 0 ab, feed + max 0 af)

/-- D13 (fixed): the unclamped helper raised biofuel above its ceiling (2 → 4 with ceiling 3)
    when feed was already above its own ceiling; witness kept so a regression is recognisable.

    With `feed = 6 + 2e-9` the divisor `tot + 1e-9` is `-1e-9`, `prop = -10⁹`, `allowed = -2e-9`, so
    biofuel receives `+2` and ends at `4 > 3`.  (`feed = 6 + 1e-9` is no witness over ℚ: the divisor is
    exactly 0, `x / 0 = 0` in Lean, and biofuel stays at 2 — the example below; the floating-point
    overshoot on that input is a rounding artefact of the same division by ≈ 0.) -/
theorem bump_above_ceiling_counterexample :
    (3 : ℚ) < (bump1_unfixed (2 : ℚ) (6 + 2e-9) 1 3 5 100).1 := by
  decide +kernel

example : (bump1_unfixed (2 : ℚ) (6 + 1e-9) 1 3 5 100).1 = 2 := by decide +kernel

example : fillMonth (10 : ℚ) [4, 7, 5] = [4, 6, 0] := by decide +kernel
example : fillNeg ([-3, 1, -1, 5] : List ℚ) = [0, 1, 0, 1] := by decide +kernel
example : redistribute ([3, 1, 0] : List ℚ) [1, 1, 4] = some [3, 1, 2] := by decide +kernel

/-! ## the third round's "potential increase" and the whole final adjustment

`Handoff.thirdRoundIncrease u const m1 m3` is the rule of thumb of `compute_parameters_third_round`
(described at `Handoff.increase1`), `Handoff.bumpAll` is `increase_biofuels_then_feed` on the monthly
arrays. -/

theorem increase_length (u c : K) (m1 m3 : List K) :
    (thirdRoundIncrease u c m1 m3).length = min m1.length m3.length :=
  Proofs.thirdRoundIncrease_length u c m1 m3

theorem increase_nonneg (u c : K) (m1 m3 : List K) (hu : 0 < u) :
    ∀ e ∈ thirdRoundIncrease u c m1 m3, 0 ≤ e := by
  intro e he
  obtain ⟨k, hk, rfl⟩ := List.mem_iff_getElem.mp he
  rw [← List.getD_eq_getElem _ 0 hk, Proofs.thirdRoundIncrease_getD u c m1 m3 k hk]
  exact Proofs.increase1_nonneg u c _ _ hu

/-- never more than half of the extra meat (and nothing where there is no extra meat) -/
theorem increase_le_half_extra (u c : K) (m1 m3 : List K) (hu : 0 < u) (hc : 0 ≤ c) (k : Nat) :
    (thirdRoundIncrease u c m1 m3).getD k 0 ≤ max 0 ((m3.getD k 0 - m1.getD k 0) / 2) := by
  by_cases hk : k < (thirdRoundIncrease u c m1 m3).length
  · rw [Proofs.thirdRoundIncrease_getD u c m1 m3 k hk]
    exact Proofs.increase1_le_half_extra u c _ _ hu hc
  · rw [List.getD_eq_default _ _ (not_lt.mp hk)]
    exact le_max_left _ _

/-- clipped to zero exactly where half of the extra meat is worth at most `const` kcals per person
    per day -/
theorem increase_zero_iff (u c : K) (m1 m3 : List K) (hu : 0 < u) (k : Nat)
    (hk : k < (thirdRoundIncrease u c m1 m3).length) :
    (thirdRoundIncrease u c m1 m3).getD k 0 = 0 ↔ (m3.getD k 0 - m1.getD k 0) / 2 * u ≤ c := by
  rw [Proofs.thirdRoundIncrease_getD u c m1 m3 k hk]
  exact Proofs.increase1_zero_iff u c _ _ hu

theorem increase1_eq (u c a b : K) (hu : 0 < u) :
    increase1 u c a b = max 0 (u * ((b - a) / 2) - c) / u :=
  Proofs.increase1_eq u c a b hu

/-- the whole pipeline of the final adjustment: no month's biofuel or feed is lowered; biofuel ends at
    most at the larger of its input and its demand, feed at most `1e-9` above the larger of its input and
    its demand -/
theorem final_charge_never_lowers_and_within_demand (u c : K) (m1 m3 b f mb mf av : List K) (k : Nat)
    (hk : k < (bumpAll b f (thirdRoundIncrease u c m1 m3) mb mf av).length) :
    b.getD k 0 ≤ ((bumpAll b f (thirdRoundIncrease u c m1 m3) mb mf av).getD k (0, 0)).1 ∧
    f.getD k 0 ≤ ((bumpAll b f (thirdRoundIncrease u c m1 m3) mb mf av).getD k (0, 0)).2 ∧
    ((bumpAll b f (thirdRoundIncrease u c m1 m3) mb mf av).getD k (0, 0)).1
      ≤ max (b.getD k 0) (mb.getD k 0) ∧
    ((bumpAll b f (thirdRoundIncrease u c m1 m3) mb mf av).getD k (0, 0)).2
      ≤ max (f.getD k 0) (mf.getD k 0) + 1e-9 := by
  rw [Proofs.bumpAll_getD _ _ _ _ _ _ k hk]
  exact ⟨(bump_never_lowers _ _ _ _ _ _).1, (bump_never_lowers _ _ _ _ _ _).2,
    (Proofs.bump1_within_max _ _ _ _ _ _).1, (Proofs.bump1_within_max _ _ _ _ _ _).2⟩

/-- a month where the increase is positive (extra meat 100 → 40) and one where it is clipped (extra meat
    10 → 0), and the pipeline on them -/
example : thirdRoundIncrease (2 : ℚ) 20 [0, 0] [100, 10] = [40, 0] ∧
    (bumpAll [1, 1] [5, 5] (thirdRoundIncrease (2 : ℚ) 20 [0, 0] [100, 10]) [3, 3] [6, 6] [100, 100]).length = 2 ∧
    (nzlConst "NZL" : ℚ) = 100 ∧ (nzlConst "ARG" : ℚ) = 20 := by
  refine ⟨by decide +kernel, by decide +kernel, ?_, ?_⟩
  · norm_num [nzlConst]
  · have h : ¬ ("ARG" = "NZL") := by decide
    norm_num [nzlConst, h]

end Allfed.C18
