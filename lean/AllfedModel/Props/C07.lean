import AllfedModel.Model.Herd
import AllfedModel.Proofs.Herd
import Mathlib.Algebra.Order.Field.Rat
/-!
# C07 — herd feeding accounts for energy and starvation consistently

`rnd` is Python's `round`: an arbitrary function, assumed only to satisfy `|rnd x - x| ≤ 1/2` where the
count of animals fed is concerned (monotonicity is not needed: the code caps the count at the herd size).
The model mirrors `AnimalSpecies.feed_the_species` AFTER the `fix:` commit for D3/D12; the count
formula before the fix (D3) is kept as `fedUnfixed` and refuted at the end.
-/
namespace Allfed.C07
open Allfed.Herd Allfed.HerdProofs

variable {K : Type} [Field K] [LinearOrder K] [IsStrictOrderedRing K]

/-- no more grass and no more feed is used than was offered (and none is created) -/
theorem C07_no_overuse (rnd : K → K) (eG eF need pop g f : K) (rum : Bool)
    (heG : 0 < eG) (heF : 0 < eF) (hn : 0 ≤ need) (hg : 0 ≤ g) (hf : 0 ≤ f) :
    0 ≤ (feedSpecies rnd eG eF need pop g f rum).grass ∧ (feedSpecies rnd eG eF need pop g f rum).grass ≤ g ∧
    0 ≤ (feedSpecies rnd eG eF need pop g f rum).feed ∧ (feedSpecies rnd eG eF need pop g f rum).feed ≤ f := by
  have h := feedSpecies_energy rnd pop rum heG heF hn hg hf
  exact ⟨h.grass_nonneg, h.grass_le, h.feed_nonneg, h.feed_le⟩

/-- the net energy delivered (efficiency × gross energy eaten) never exceeds the requirement -/
theorem C07_no_overdelivery (rnd : K → K) (eG eF need pop g f : K) (rum : Bool)
    (heG : 0 < eG) (heF : 0 < eF) (hn : 0 ≤ need) (hg : 0 ≤ g) (hf : 0 ≤ f) :
    eG * (g - (feedSpecies rnd eG eF need pop g f rum).grass) +
      eF * (f - (feedSpecies rnd eG eF need pop g f rum).feed) ≤ need := by
  have h := feedSpecies_energy rnd pop rum heG heF hn hg hf
  exact sub_nonneg.mp (h.balance_eq ▸ h.balance_nonneg)

/-- the same with the efficiencies the code uses -/
theorem C07_no_overdelivery_06_08 (rnd : K → K) (need pop g f : K) (rum : Bool)
    (hn : 0 ≤ need) (hg : 0 ≤ g) (hf : 0 ≤ f) :
    0.6 * (g - (feedSpecies rnd 0.6 0.8 need pop g f rum).grass) +
      0.8 * (f - (feedSpecies rnd 0.6 0.8 need pop g f rum).feed) ≤ need :=
  C07_no_overdelivery rnd 0.6 0.8 need pop g f rum (by norm_num) (by norm_num) hn hg hf

/-- the energy still owed is exactly the requirement minus what was delivered, and is not negative -/
theorem C07_energy_balance (rnd : K → K) (eG eF need pop g f : K) (rum : Bool)
    (heG : 0 < eG) (heF : 0 < eF) (hn : 0 ≤ need) (hg : 0 ≤ g) (hf : 0 ≤ f) :
    (feedSpecies rnd eG eF need pop g f rum).balance =
      need - (eG * (g - (feedSpecies rnd eG eF need pop g f rum).grass) +
        eF * (f - (feedSpecies rnd eG eF need pop g f rum).feed)) ∧
    0 ≤ (feedSpecies rnd eG eF need pop g f rum).balance := by
  have h := feedSpecies_energy rnd pop rum heG heF hn hg hf
  exact ⟨h.balance_eq, h.balance_nonneg⟩

theorem C07_grass_ruminants_only (rnd : K → K) (eG eF need pop g f : K)
    (heG : 0 < eG) (heF : 0 < eF) (hn : 0 ≤ need) (hg : 0 ≤ g) (hf : 0 ≤ f) :
    (feedSpecies rnd eG eF need pop g f false).grass = g :=
  (feedSpecies_energy rnd pop false heG heF hn hg hf).grass_of_not_rum rfl

theorem abs_min_sub_le {r x p c : K} (h : |r - x| ≤ c) (hx : x ≤ p) : |min r p - x| ≤ c := by
  rcases le_total r p with hrp | hrp
  · rwa [min_eq_left hrp]
  · rw [min_eq_right hrp, abs_of_nonneg (sub_nonneg.mpr hx)]
    exact (sub_le_sub_right hrp x).trans ((le_abs_self _).trans h)

/-- the count of animals fed: never more than the herd; the whole herd when the requirement is met;
    otherwise the herd scaled by the delivered fraction `(need − still owed)/need`, to within half an
    animal (the code rounds to whole animals); the starving count `pop − fed` is never negative -/
theorem C07_fed_count (rnd : K → K) (hr : ∀ x, |rnd x - x| ≤ 1 / 2) (eG eF need pop g f : K) (rum : Bool)
    (heG : 0 < eG) (heF : 0 < eF) (hn : 0 ≤ need) (hg : 0 ≤ g) (hf : 0 ≤ f) (hp : 0 ≤ pop) :
    (feedSpecies rnd eG eF need pop g f rum).fed ≤ pop ∧
    ((feedSpecies rnd eG eF need pop g f rum).balance = 0 → (feedSpecies rnd eG eF need pop g f rum).fed = pop) ∧
    ((feedSpecies rnd eG eF need pop g f rum).balance ≠ 0 →
      |(feedSpecies rnd eG eF need pop g f rum).fed -
        pop * ((need - (feedSpecies rnd eG eF need pop g f rum).balance) / need)| ≤ 1 / 2) ∧
    0 ≤ pop - (feedSpecies rnd eG eF need pop g f rum).fed := by
  rw [feedSpecies_eq rnd pop rum heG heF hn hg hf rfl rfl]
  obtain ⟨ha0, han, -⟩ := grassNE_bounds rum heG hn hg
  obtain ⟨hb0, -, hab⟩ := feedNE_bounds heF hf han
  have hprov0 := add_nonneg ha0 hb0
  generalize grassNE eG need g rum + feedNE eG eF need g f rum = prov at *
  split_ifs with hfull
  · exact ⟨le_rfl, fun _ => rfl, fun h => absurd (sub_eq_zero.mpr hfull.symm) h, (sub_self pop).ge⟩
  · have hlt : prov < need := lt_of_le_of_ne hab hfull
    have hle : min (rnd (prov / need * pop)) pop ≤ pop := min_le_right _ _
    refine ⟨hle, fun h => absurd (sub_eq_zero.mp h).symm hfull, fun _ => ?_, sub_nonneg.mpr hle⟩
    rw [sub_sub_cancel, mul_comm pop]
    exact abs_min_sub_le (hr _) (mul_le_of_le_one_left hp ((div_le_one (hprov0.trans_lt hlt)).mpr hlt.le))

/-- `feed_animals` serves every species of the list by `feed_the_species` on inputs that are non-negative
    and within the month's supplies — so all the single-species theorems above hold for every species of
    every list -/
theorem C07_all_each (rnd : K → K) (reqs : List (FeedReq K)) (g f : K)
    (hok : ∀ r ∈ reqs, 0 < r.effG ∧ 0 < r.effF ∧ 0 ≤ r.need) (hg : 0 ≤ g) (hf : 0 ≤ f) :
    List.Forall₂ (fun r o =>
      o = feedSpecies rnd r.effG r.effF r.need r.pop o.grassIn o.feedIn r.rum ∧
      0 ≤ o.grassIn ∧ o.grassIn ≤ g ∧ 0 ≤ o.feedIn ∧ o.feedIn ≤ f) reqs (feedAll rnd reqs g f).1 :=
  (feedAll_spec rnd reqs g f hok hg hf).1

/-- the whole list uses no more than was supplied; what it used is what the species ate -/
theorem C07_all_no_overuse (rnd : K → K) (reqs : List (FeedReq K)) (g f : K)
    (hok : ∀ r ∈ reqs, 0 < r.effG ∧ 0 < r.effF ∧ 0 ≤ r.need) (hg : 0 ≤ g) (hf : 0 ≤ f) :
    0 ≤ (feedAll rnd reqs g f).2.1 ∧ (feedAll rnd reqs g f).2.1 ≤ g ∧
    0 ≤ (feedAll rnd reqs g f).2.2 ∧ (feedAll rnd reqs g f).2.2 ≤ f ∧
    g - (feedAll rnd reqs g f).2.1 = ((feedAll rnd reqs g f).1.map (fun o => o.grassIn - o.grass)).sum ∧
    f - (feedAll rnd reqs g f).2.2 = ((feedAll rnd reqs g f).1.map (fun o => o.feedIn - o.feed)).sum := by
  obtain ⟨-, h1, h2, h3, h4⟩ := feedAll_spec rnd reqs g f hok hg hf
  exact ⟨h1, h2, h3, h4, (feedAll_sum rnd reqs g f).1, (feedAll_sum rnd reqs g f).2⟩

/-- strict priority: if species `j`, served after species `i`, eats any feed then `i`'s requirement
    is fully met; if `j` eats any grass then `i`'s requirement is fully met or `i` is not a ruminant -/
theorem C07_priority (rnd : K → K) (reqs : List (FeedReq K)) (g f : K)
    (hok : ∀ r ∈ reqs, 0 < r.effG ∧ 0 < r.effF ∧ 0 ≤ r.need) (hg : 0 ≤ g) (hf : 0 ≤ f)
    (i j : Nat) (hij : i < j) (ri : FeedReq K) (oi oj : FeedOut K)
    (hri : reqs[i]? = some ri) (hoi : (feedAll rnd reqs g f).1[i]? = some oi)
    (hoj : (feedAll rnd reqs g f).1[j]? = some oj) :
    (0 < oj.feedIn - oj.feed → oi.balance = 0) ∧
    (0 < oj.grassIn - oj.grass → oi.balance = 0 ∨ ri.rum = false) := by
  obtain ⟨hj, rfl⟩ := List.getElem?_eq_some_iff.mp hoj
  obtain ⟨hi, rfl⟩ := List.getElem?_eq_some_iff.mp hoi
  obtain ⟨hi', rfl⟩ := List.getElem?_eq_some_iff.mp hri
  have hlen := feedAll_length rnd reqs g f
  have := List.pairwise_iff_getElem.mp (feedAll_pairwise rnd reqs g f hok hg hf) i j
    (by rw [List.length_zip]; omega) (by rw [List.length_zip]; omega) hij
  simpa only [List.getElem_zip] using this

/-- in every month the feeding records of the herds are `feed_animals` on the herds' requirements
    (`nePerHead · population`) in list order, the month's `feed_used` / `grass_used` lie between 0
    and the supply, and each herd's starving count is `population − fed ≥ 0` -/
theorem C07_month_no_overuse (cn : Country K) (hcn : CountryOK cn) (rnd : K → K) (first : Bool) (month : K)
    (herds : List (Herd K)) (hh : ∀ h ∈ herds, HerdOK h) (feed grass : K) (hf : 0 ≤ feed) (hg : 0 ≤ grass)
    (r : MonthRec K) (herds' : List (Herd K))
    (h : monthStep cn rnd first month herds feed grass = .ok (r, herds')) :
    r.recs.map (fun d => d.c.b.a.fo) = (feedAll rnd (herds.map feedReqOf) grass feed).1 ∧
    0 ≤ r.feedUsed ∧ r.feedUsed ≤ feed ∧ 0 ≤ r.grassUsed ∧ r.grassUsed ≤ grass ∧
    (∀ d ∈ r.recs, d.c.b.a.starvingPre = d.c.b.a.h.st.pop - d.c.b.a.fo.fed) := by
  have hm := monthStep_spec cn hcn rnd first month herds hh feed grass r herds' h
  have hok : ∀ q ∈ herds.map feedReqOf, ReqOK q := by
    intro q hq
    obtain ⟨x, hx, rfl⟩ := List.mem_map.mp hq
    have := hh x hx
    exact ⟨this.sp.effG, this.sp.effF, mul_nonneg this.sp.ne this.pop⟩
  obtain ⟨-, h1, h2, h3, h4⟩ := feedAll_spec rnd (herds.map feedReqOf) grass feed hok hg hf
  refine ⟨hm.feeding, ?_, ?_, ?_, ?_, hm.starving⟩
  · rw [hm.usedFeed]; exact sub_nonneg.mpr h4
  · rw [hm.usedFeed]; exact sub_le_self _ h3
  · rw [hm.usedGrass]; exact sub_nonneg.mpr h2
  · rw [hm.usedGrass]; exact sub_le_self _ h1

/-- the serving order (`get_optimal_next_animal_to_feed`, `sorted(..., reverse=True)`) is a
    permutation of the species -/
theorem C07_sort_perm {β : Type} (key : β → K) (l : List β) : (sortDesc key l).Perm l := by
  induction l with
  | nil => exact List.Perm.refl _
  | cons x t ih =>
    unfold sortDesc
    exact (insertDesc_perm key x _).trans (List.Perm.cons x ih)

/-- the serving order is descending in the key (net kcals gained per slaughter hour, `priorityKey`) -/
theorem C07_sort_sorted {β : Type} (key : β → K) (l : List β) :
    (sortDesc key l).Pairwise (fun a b => key b ≤ key a) := by
  induction l with
  | nil => exact List.Pairwise.nil
  | cons x t ih => unfold sortDesc; exact insertDesc_sorted key x _ ih

/-! ## the formula before the fix (D3), kept on record

`population_fed = round(NE_provided / NE_balance_after_feeding · population)`: the fraction of the
requirement that is STILL OWED, not of the requirement.  With 90 % of the requirement supplied it
counts nine times the herd as fed, whatever `round` does within half an animal. -/

theorem C07_fed_count_unfixed_counterexample (rnd : ℚ → ℚ) (hr : ∀ x, |rnd x - x| ≤ 1 / 2) :
    (1000 : ℚ) < fedUnfixed rnd 1 1000 (9 / 10) := by
  unfold fedUnfixed
  have h := hr ((9 / 10) / (1 - 9 / 10) * 1000)
  rw [abs_le] at h
  have e : ((9 : ℚ) / 10) / (1 - 9 / 10) * 1000 = 9000 := by norm_num
  rw [e] at h ⊢
  linarith [h.1]

/-- with the formula before the fix the starving count `population − fed` was negative -/
theorem C07_starving_unfixed_counterexample (rnd : ℚ → ℚ) (hr : ∀ x, |rnd x - x| ≤ 1 / 2) :
    (1000 : ℚ) - fedUnfixed rnd 1 1000 (9 / 10) < 0 := by
  have := C07_fed_count_unfixed_counterexample rnd hr
  linarith

-- concrete instances on ℚ (`round` is the identity on these values):
-- a ruminant herd of 1000 needing 1 unit: 1 unit of grass (0.6 net) and 0.25 of feed (0.2 net): 80 % fed
example : (feedSpecies (fun x => x) (0.6 : ℚ) 0.8 1 1000 1 (1 / 4) true).fed = 800 := by decide +kernel
example : (feedSpecies (fun x => x) (0.6 : ℚ) 0.8 1 1000 1 (1 / 4) true).balance = 1 / 5 := by decide +kernel
-- the same supplies offered to a non-ruminant: the grass is untouched, 20 % fed
example : (feedSpecies (fun x => x) (0.6 : ℚ) 0.8 1 1000 1 (1 / 4) false).grass = 1 := by decide +kernel
example : (feedSpecies (fun x => x) (0.6 : ℚ) 0.8 1 1000 1 (1 / 4) false).fed = 200 := by decide +kernel
-- exactly enough grass: everything met, nothing else touched
example : (feedSpecies (fun x => x) (0.6 : ℚ) 0.8 3 1000 5 7 true).grass = 0 ∧
    (feedSpecies (fun x => x) (0.6 : ℚ) 0.8 3 1000 5 7 true).feed = 7 ∧
    (feedSpecies (fun x => x) (0.6 : ℚ) 0.8 3 1000 5 7 true).fed = 1000 := by decide +kernel
-- two species, feed for the first only: the second (served later) gets nothing and the first is met
example : ((feedAll (fun x => x) [⟨(0.6 : ℚ), 0.8, 4, 10, false⟩, ⟨0.6, 0.8, 4, 10, false⟩] 0 5).1.map (·.fed)) = [10, 0] := by
  decide +kernel
example : sortDesc (fun (p : String × ℚ) => p.2) [("a", 2), ("b", 3), ("c", 2)] = [("b", 3), ("a", 2), ("c", 2)] := by
  decide +kernel

end Allfed.C07
