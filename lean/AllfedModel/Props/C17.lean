import AllfedModel.Model.ImportAvg
import AllfedModel.Model.CountryTable
import AllfedModel.Proofs.ImportAvg
import AllfedModel.Proofs.CountryTable
import AllfedModel.Proofs.WeightedMean
import Mathlib.Data.List.MinMax
import AllfedModel.Gen.CountryTable
/-!
# C17 — shipped input tables are what the import pipeline derives; table invariants; the averaging helper

Three parts:
 1. `C17_avg*`   — the percentage-averaging helper (`ImportUtilities.weighted_average_percentages`,
                   `average_percentages`), for ALL percentage/weight lists over any ordered field.
 2. `C17_table*` — invariants of the combined country table, proved by the kernel over
                   `Gen/CountryTable.lean`, which is regenerated on every run from the table that the
                   21 import scripts produce from the raw data in a scratch copy (so the claim and the
                   tie coincide: the invariants are about the REGENERATED table).
 3. regeneration = shipped, byte for byte, for all 20 processed tables and the combined table: this
    is executed by the harness (`harness/props/c17.py`, quick tier) — the scripts are pandas/openpyxl
    programs that are run, not modelled (**partial** in that sense).
-/
namespace Allfed.C17
open Allfed.ImportAvg Allfed.CountryTable Allfed.Gen.CountryTable
open Allfed.Proofs.ImportAvg (vPW vW rW)
open Allfed.Proofs.CountryTable (toRat CellSpec RowSpec)

variable {K : Type} [Field K] [LinearOrder K] [IsStrictOrderedRing K]

/-!
`V` = the entries the code treats as valid = those with `impossible p = false`, where
`impossible p ↔ p > 1e5 ∨ p < -100` (exactly `-100` and exactly `1e5` are valid).
`vPW = Σ_V p·w`, `vW = Σ_V w`, `rW` = the rejected weight. -/

theorem C17_impossible_iff (p : K) : impossible p = true ↔ (100000 < p ∨ p < -100) := by
  unfold impossible
  have h1 : (1e5 : K) = 100000 := by norm_num
  have h2 : (100.0 : K) = 100 := by norm_num
  simp [h1, h2]

/-- `weighted_average_percentages` for weights that sum to exactly 1 (the tolerance the code accepts:
    `C17_avg_as_written`) -/
theorem C17_avg (ps ws : List K) (hl : ps.length = ws.length)
    (hw : ∀ w ∈ ws, 0 ≤ w ∧ w ≤ 1) (hs : ws.sum = 1) :
    weightedAverage ps ws = .ok (if vW ps ws = 0 then sentinel else vPW ps ws / vW ps ws) := by
  have hsum : lsum ws ≤ (1.00001 : K) ∧ (0.99999 : K) < lsum ws := by
    rw [Proofs.lsum_eq_sum, hs]; constructor <;> norm_num
  have hren : (1 : K) - rW ps ws = vW ps ws := by rw [← hs, Proofs.ImportAvg.sum_split ps ws hl, add_sub_cancel_left]
  unfold weightedAverage
  rw [if_neg (by simpa using hl), if_neg (not_not.mpr hsum), Proofs.ImportAvg.loop_eq ps ws hl, if_pos hw]
  simp only [Proofs.ImportAvg.after, zero_add, finish, hren]
  by_cases hz : vW ps ws = 0
  · -- `finish` answers the sentinel whether or not there is a valid entry: its second test sees the weight 0
    simp only [hz, le_refl, and_self, true_or, if_true, ite_self]
  · -- the four tests of `finish` in order: the claimed `if`, then `nValid ≠ 0`, then neither the divisor
    -- `1 − rejected = vW` nor the valid weight is 0, then the ratio `vW / vW = 1` is within the tolerance
    have hpos : 0 < vW ps ws := lt_of_le_of_ne (Proofs.ImportAvg.vW_nonneg ps ws hw) (Ne.symm hz)
    rw [if_neg hz, if_neg (mt (Proofs.ImportAvg.vW_zero_of_no_valid ps ws) hz), if_neg (by simp [hpos.not_ge]),
      div_self hz, if_neg (by norm_num)]

/-- About the value of `C17_avg` only: the code also accepts `0.99999 < Σw ≤ 1.00001`, and its result
    `Σ_V p·w / (1 − rejected weight)` can then leave the range by a factor of up to `1.0001` (`C17_avg_as_written`). -/
theorem C17_avg_range (ps ws : List K) (hw : ∀ w ∈ ws, 0 ≤ w ∧ w ≤ 1) (hpos : 0 < vW ps ws)
    (lo hi : K) (hb : ∀ p ∈ ps, impossible p = false → lo ≤ p ∧ p ≤ hi) :
    lo ≤ vPW ps ws / vW ps ws ∧ vPW ps ws / vW ps ws ≤ hi :=
  Proofs.weighted_mean_bounds (validPairs ps ws) Prod.fst Prod.snd lo hi
    (fun x hx => (hw x.2 (Proofs.ImportAvg.mem_validPairs hx).2.1).1)
    (fun x hx => hb x.1 (Proofs.ImportAvg.mem_validPairs hx).1 (Proofs.ImportAvg.mem_validPairs hx).2.2)
    hpos

theorem C17_avg_min_max (ps ws : List K) (hw : ∀ w ∈ ws, 0 ≤ w ∧ w ≤ 1) (hpos : 0 < vW ps ws) :
    ∃ pmin ∈ ps.filter (fun p => !impossible p), ∃ pmax ∈ ps.filter (fun p => !impossible p),
      (∀ p ∈ ps.filter (fun p => !impossible p), pmin ≤ p ∧ p ≤ pmax) ∧
      pmin ≤ vPW ps ws / vW ps ws ∧ vPW ps ws / vW ps ws ≤ pmax := by
  have hne : ps.filter (fun p => !impossible p) ≠ [] := by
    obtain ⟨x, hx⟩ := List.exists_mem_of_ne_nil (validPairs ps ws) fun h => hpos.ne' (by simp [vW, h])
    have hx := Proofs.ImportAvg.mem_validPairs hx
    exact List.ne_nil_of_mem (List.mem_filter.mpr ⟨hx.1, by simp [hx.2.2]⟩)
  have hlen := List.length_pos_iff.mpr hne
  have hmm : ∀ p ∈ ps.filter (fun p => !impossible p),
      List.minimum_of_length_pos hlen ≤ p ∧ p ≤ List.maximum_of_length_pos hlen := fun p hp =>
    ⟨List.minimum_of_length_pos_le_of_mem hp hlen, List.le_maximum_of_length_pos_of_mem hp hlen⟩
  exact ⟨_, List.minimum_of_length_pos_mem hlen, _, List.maximum_of_length_pos_mem hlen, hmm,
    C17_avg_range ps ws hw hpos _ _ fun p hp hv => hmm p (List.mem_filter.mpr ⟨hp, by simp [hv]⟩)⟩

/-- the function's docstring: "If only non-possible numbers are included, then the result is a non-possible
    number"; that a result other than the sentinel is a valid percentage is `C17_avg_range` with `lo = -100`, `hi = 1e5` -/
theorem C17_avg_sentinel_impossible : impossible (sentinel : K) = true := by
  have : (1e5 : K) < 9.37e36 := by norm_num
  simp [impossible, sentinel, this]

/-- **as written**, for weights that need not sum to exactly 1 (the code accepts `0.99999 < Σw ≤ 1.00001`);
    the bounds on `vW / (1 − rW)` are the code's own assertion -/
theorem C17_avg_as_written (ps ws : List K) (v : K) (h : weightedAverage ps ws = .ok v) :
    ps.length = ws.length ∧ (∀ w ∈ ws, 0 ≤ w ∧ w ≤ 1) ∧
    (v = sentinel ∨
      (v = vPW ps ws / (1 - rW ps ws) ∧ (0.9999 : K) ≤ vW ps ws / (1 - rW ps ws) ∧
        vW ps ws / (1 - rW ps ws) ≤ (1.0001 : K))) := by
  -- every `split_ifs at h` below closes by itself the branches where `h` reads `.error _ = .ok v`
  -- (length mismatch, weight sum, weight range); what is left are the branches that return a value
  unfold weightedAverage at h
  split_ifs at h with hl hsum
  rw [Proofs.ImportAvg.loop_eq ps ws (not_not.mp hl)] at h
  split_ifs at h with hw
  refine ⟨not_not.mp hl, hw, ?_⟩
  simp only [Proofs.ImportAvg.after, zero_add, finish] at h
  -- `finish`: no valid entry / a zero divisor or valid weight (both the sentinel) / the accepted ratio
  split_ifs at h with hn hz hc <;> cases h
  · exact Or.inl rfl
  · exact Or.inl rfl
  · exact Or.inr ⟨rfl, hc⟩

theorem C17_avg_even (ps : List K) (hne : ps ≠ []) :
    averagePercentages ps = .ok
      (if ps.filter (fun p => !impossible p) = [] then sentinel
       else (ps.filter (fun p => !impossible p)).sum / ((ps.filter (fun p => !impossible p)).length : K)) := by
  have hlen : ps.length ≠ 0 := mt List.length_eq_zero_iff.mp hne
  have hn : (0 : K) < ps.length := Nat.cast_pos.mpr (Nat.pos_of_ne_zero hlen)
  set c : K := 1 / (ps.length : K) with hc
  have hsum : (List.replicate ps.length c).sum = 1 := by
    rw [List.sum_replicate, nsmul_eq_mul, hc, mul_one_div_cancel hn.ne']
  have hw : ∀ w ∈ List.replicate ps.length c, 0 ≤ w ∧ w ≤ 1 := fun w hw => by
    rw [List.eq_of_mem_replicate hw, hc]
    exact ⟨by positivity, (div_le_one hn).mpr (Nat.one_le_cast.mpr (Nat.pos_of_ne_zero hlen))⟩
  have hev : (0.999999995 : K) ≤ lsum (List.replicate ps.length c) ∧
      lsum (List.replicate ps.length c) ≤ (1.000000005 : K) := by
    rw [Proofs.lsum_eq_sum, hsum]; constructor <;> norm_num
  unfold averagePercentages
  rw [if_neg hlen, if_neg (not_not.mpr hev), C17_avg ps _ (by simp) hw hsum]
  set V := ps.filter (fun p => !impossible p) with hV
  have hvw : vW ps (List.replicate ps.length c) = (V.length : K) * c := by
    simp [vW, Proofs.ImportAvg.validPairs_even, ← hV, Function.comp_def, List.sum_replicate]
  have hvpw : vPW ps (List.replicate ps.length c) = V.sum * c := by
    simp only [vPW, Proofs.ImportAvg.validPairs_even, List.map_map, Function.comp_def, ← hV]
    simpa using List.sum_map_mul_right (l := V) (f := fun p => p) (r := c)
  rw [hvw, hvpw]
  by_cases hv : V = []
  · simp [hv]
  · have hvl : (0 : K) < V.length := Nat.cast_pos.mpr (List.length_pos_iff.mpr hv)
    rw [if_neg hv, if_neg (mul_ne_zero hvl.ne' (one_div_ne_zero hn.ne')),
      mul_div_mul_right _ _ (one_div_ne_zero hn.ne')]

/-- this and the next: vectors of `tests/test_some_import_functions.py`, in exact arithmetic -/
example : weightedAverage [(-100 : ℚ), 100, 100000000000000000000] [1 / 102, 1 / 102, 100 / 102] = .ok 0 := by
  decide +kernel

example : averagePercentages [(100000000000 : ℚ), -101, 100000000, 100000000000000000000000000] = .ok sentinel := by
  decide +kernel

/-- the boundary values are valid: -100 and 1e5 are averaged, -100.5 is not -/
example : averagePercentages [(-100 : ℚ), 100000, -100.5] = .ok 49950 := by decide +kernel

example : weightedAverage [(1 : ℚ), 2] [3 / 2, -1 / 2] = .error .weightRange := by decide +kernel

example : ([(-100 : ℚ), 100, 100000000000000000000] : List ℚ).length = ([1 / 102, 1 / 102, 100 / 102] : List ℚ).length ∧
    (∀ w ∈ ([1 / 102, 1 / 102, 100 / 102] : List ℚ), 0 ≤ w ∧ w ≤ 1) ∧ ([1 / 102, 1 / 102, 100 / 102] : List ℚ).sum = 1 := by
  decide +kernel

/-- one evaluation by the kernel over the whole table: the rows share the walk over `kinds`, which a
    theorem per row would repeat -/
theorem table_all_ok : table.all rowOk = true := by decide +kernel

/-- **every row** of the table: both text cells present, exactly one exact-decimal cell per numeric
    column (the translator refuses to emit a missing / NaN cell), every cell within the range of
    its column group (`CellSpec`: population, quantities `≥ 0`, fractions in `[0,1]`, reductions
    `≥ -1` — crops with the runtime's own `1e-8` tolerance —, daily growth `≥ -100 %`), and the twelve
    seasonality shares summing to 1 within `1e-6` -/
theorem C17_table_ok : ∀ r ∈ table, RowSpec r :=
  fun r hr => Proofs.CountryTable.rowOk_spec r (List.all_eq_true.mp table_all_ok r hr)

theorem C17_table_header : columns = "iso3" :: "country" :: spec.map Prod.fst := by
  -- both sides reduce to lists of string literals, which are compared as literals; `decide` would
  -- compare them byte by byte, after encoding each
  rfl

theorem C17_table_shape : columns.length = 211 ∧ table.length = 164 ∧ ∀ r ∈ table, r.cells.length = 209 := by
  refine ⟨by decide +kernel, by decide +kernel, ?_⟩
  intro r hr
  rw [← (C17_table_ok r hr).cells.length_eq]
  decide +kernel

theorem C17_expected_positions : expectedCodes = expectedPos.map (fun i => (table.map (·.iso3)).getD i "") := by
  decide +kernel

theorem C17_positions_perm : expectedPos.Perm (List.range (table.map (·.iso3)).length) := by
  decide +kernel

/-- the 164 rows are exactly the expected countries (`ImportUtilities.country_codes` with SWZ → SWT),
    each once -/
theorem C17_table_codes : expectedCodes.Perm (table.map (·.iso3)) ∧ expectedCodes.length = 164 :=
  ⟨Proofs.CountryTable.perm_of_positions _ _ _ C17_expected_positions C17_positions_perm, by decide +kernel⟩

/-- why the crop-reduction bound carries the runtime's `1e-8` tolerance: the decimal
    `-1.0000000000000002` (36 cells of the shipped table; the IEEE mean of several `-100 %` entries
    divided by 100) is below -1 in exact arithmetic, passes the tolerant bound and would fail the exact one -/
theorem C17_crop_reduction_ulp_witness :
    toRat (nn 10000000000000002 16) < -1 ∧
    cellOk .cropReduc (nn 10000000000000002 16) = true ∧ cellOk .grassReduc (nn 10000000000000002 16) = false := by
  refine ⟨?_, by decide +kernel, by decide +kernel⟩
  norm_num [toRat, nn]

example : cellOk .qty (np 1 0) = false ∧ cellOk .frac (pn 11 1) = false ∧ cellOk .cropReduc (np 2 0) = false ∧
    cellOk .pop (pp 5 3) = false := by decide +kernel

/-- seasonality shares that sum to 0.9 -/
example : Dec.le (999999, -6) (Dec.sum [pn 5 1, pn 4 1]) = false := by decide +kernel

end Allfed.C17
