import AllfedModel.Model.Supply
import AllfedModel.Proofs.Supply.Crops
import AllfedModel.Proofs.Supply.OtherSeries
import Mathlib.Tactic.Positivity
/-!
# C08 — supply series follow the calendar, the disruption schedule and the configured delays

The horizon `NMONTHS` is arbitrary: the only bounds are the guards the code itself has, which appear as
hypotheses.

For every series there is
  * `C08_refines_spec_*` : the code-shaped function of `Model/Supply.lean` (concatenations, slices,
    `linspace`, loops) equals `(List.range NMONTHS).map spec` for the closed-form `spec`; this one
    statement gives "exactly one value per simulated month" (`C08_length_*`) and the documented
    formula pointwise,
  * `C08_nonneg_*`, `C08_homogeneous_*`, and for the delay-then-ramp schedules `C08_ramp_*`.

Which horizons the slicing supports (hypotheses below):
  crops ≤ 120 months (the reduction table has 8 + 8·12 + 16 = 120 entries, `C08_reductions_length`);
  greenhouses ≥ 42 months; grass: whole years, at least two (12 months give 8 values,
  `C08_grass_twelve_months`); feed/biofuel: shut-off month ≤ NMONTHS (otherwise the list is as long as
  the shut-off month, `C08_length_demand_outside`); SCP ≤ 2·delay + 1031; sugar ≤ delay + 1008;
  fish: as many as the percentage list has (192 for the nuclear-winter list).
-/
namespace Allfed.C08
open Allfed.Supply Allfed.Proofs.Supply

set_option linter.unusedSectionVars false

variable {K : Type} [Field K] [LinearOrder K] [IsStrictOrderedRing K]

/-- the reduction table of `calculate_monthly_production`: year 1 = months 0…7 (May–December), then
    twelve months per year, year 10 extended to month 119 -/
theorem C08_reductions_spec (y1 : K) (r : Nat → K) (i : Nat) :
    (allMonthsReductions y1 r)[i]? =
      if i < 120 then some (if i < 8 then y1 else r (Nat.min 9 (1 + (i - 8) / 12))) else none := by
  rw [allMonthsReductions_eq, getElem?_map_range]

theorem C08_reductions_length (y1 : K) (r : Nat → K) : (allMonthsReductions y1 r).length = 120 :=
  length_allMonthsReductions y1 r

/-- rotation of the January-based cycle: simulated month `i` reads calendar month `(start − 1 + i) mod 12`
    (start = 5: month 0 is May) -/
theorem C08_calendar (c : CropIn K) (i : Nat) (hl : c.season.length = 12) (hs : 1 ≤ c.startMonth ∧ c.startMonth ≤ 12) :
    (monthsCycle c.startMonth c.baseline c.season).getD (i % 12) 0 = monthSpec c i :=
  cycle_getD c i hl hs

/-- the year-1 correction is the documented closed form (no assertion fires in the well-formed range) -/
theorem C08_year1 (r1 : K) (season : List K) (country : String) (hr : r1 < 101)
    (h0 : 0 ≤ harvestBeforeMay country season) (h1 : harvestBeforeMay country season ≤ 1) :
    year1Ratio r1 season country = .ok (year1Spec r1 season country) :=
  year1Ratio_ok r1 season country hr h0 h1

/-- `init_outdoor_crops` + `init_greenhouse_params` return, for every horizon and every well-formed input,
    exactly the closed-form series: `KCALS_GROWN`, `NO_RELOCATION_KCALS_GROWN`, greenhouse area / fraction /
    yield / production and the outdoor production net of greenhouse land and waste. -/
theorem C08_refines_spec_crops (pow : K → K → K) (hp : PowOK pow) (c : CropIn K) (w : CropWF c) (g : GhIn K)
    (wg : GhWF c.nmonths g) (hrun : c.addOutdoor = true ∨ g.addGreenhouses = true) :
    cropsAndGreenhouses pow c g = .ok
      ⟨(List.range c.nmonths).map (grownSpec pow c), (List.range c.nmonths).map (noRelocSpec c),
       ⟨(List.range c.nmonths).map (ghAreaSpec' g), (List.range c.nmonths).map (ghFractionSpec g),
        (List.range c.nmonths).map (ghYieldSpec pow c g), (List.range c.nmonths).map (ghCropsSpec pow c g)⟩,
       (List.range c.nmonths).map (productionSpec pow c (ghFractionSpec g))⟩ :=
  cropsAndGreenhouses_ok pow hp c w g wg hrun

/-- with outdoor growing and greenhouses both switched off everything handed on is zero -/
theorem C08_refines_spec_crops_off (pow : K → K → K) (hp : PowOK pow) (c : CropIn K) (w : CropWF c) (g : GhIn K)
    (wg : GhWF c.nmonths g) (h1 : c.addOutdoor = false) (h2 : g.addGreenhouses = false) :
    cropsAndGreenhouses pow c g = .ok
      ⟨[], [],
       ⟨(List.range c.nmonths).map (ghAreaSpec' g), (List.range c.nmonths).map (ghFractionSpec g),
        (List.range c.nmonths).map (ghYieldSpec pow c g), (List.range c.nmonths).map (ghCropsSpec pow c g)⟩,
       (List.range c.nmonths).map (productionSpec pow c (ghFractionSpec g))⟩ := by
  unfold cropsAndGreenhouses
  rw [if_neg (by rw [h1, h2]; simp)]
  dsimp only
  rw [greenhouse_ok pow hp c w g wg none (fun h => by rw [h2] at h; exact absurd h (by simp))]
  simp only [h1, Bool.false_eq_true, false_and, if_false]
  refine congrArg _ (congrArg _ ?_)
  unfold cropProduction
  simp only [h1, Bool.false_eq_true, if_false, replicate_eq_map_range, List.map_map]
  refine map_range_congr fun i _ => ?_
  unfold productionSpec
  simp [h1]

theorem C08_length_crops (pow : K → K → K) (hp : PowOK pow) (c : CropIn K) (w : CropWF c) (g : GhIn K)
    (wg : GhWF c.nmonths g) (hrun : c.addOutdoor = true ∨ g.addGreenhouses = true) :
    ∃ o, cropsAndGreenhouses pow c g = .ok o ∧ o.production.length = c.nmonths ∧ o.gh.crops.length = c.nmonths ∧
      o.gh.area.length = c.nmonths := by
  refine ⟨_, cropsAndGreenhouses_ok pow hp c w g wg hrun, ?_, ?_, ?_⟩ <;> simp

theorem C08_nonneg_crops (pow : K → K → K) (hp : PowOK pow) (c : CropIn K) (w : CropWF c) (g : GhIn K)
    (ht : 0 ≤ ghTotal g) (hm0 : 0 ≤ g.areaMultiplier) (hm1 : g.areaMultiplier ≤ 1) (hw : c.waste ≤ 100) (i : Nat) :
    0 ≤ productionSpec pow c (ghFractionSpec g) i :=
  productionSpec_nonneg pow hp c w _ i (ghFractionSpec_range g i ht hm0 hm1).2 hw

theorem C08_nonneg_greenhouse (pow : K → K → K) (hp : PowOK pow) (c : CropIn K) (w : CropWF c) (g : GhIn K)
    (ht : 0 ≤ ghTotal g) (hm : 0 ≤ g.areaMultiplier) (hw : c.waste ≤ 100) (hwr : g.wasteRetail ≤ 100)
    (hg : -100 ≤ g.gainPct) (i : Nat) : 0 ≤ ghCropsSpec pow c g i :=
  mul_nonneg (ghYieldSpec_nonneg pow hp c w g i ht hw hwr hg) (ghAreaSpec'_nonneg g i ht hm)

/-- greenhouse area: zero until `delay + 5`, then 36 equal steps, capped at the limit -/
theorem C08_ramp_monotone_capped_greenhouse (delay : Nat) (limit : K) (hl : 0 ≤ limit) (i j : Nat) (hij : i ≤ j) :
    (i < delay + 5 → ghAreaSpec delay limit i = 0) ∧ ghAreaSpec delay limit i ≤ ghAreaSpec delay limit j ∧
      ghAreaSpec delay limit j ≤ limit ∧ (delay + 5 + 36 ≤ j → ghAreaSpec delay limit j = limit) := by
  rw [ghAreaSpec_eq]
  exact ⟨fun h => ramp_of_lt h (by omega), ramp_mono hl hij, ramp_le hl, ramp_of_ge⟩

/-- the cropland-expansion ramp: 1 until the first harvest, monotone, capped at the configured ratio -/
theorem C08_ramp_monotone_capped_area (N total : Nat) (maxv : K) (hm : 1 ≤ maxv) (i j : Nat) (hij : i ≤ j) :
    (i < N → i < total → rampFn N total maxv i = 1) ∧ rampFn N total maxv i ≤ rampFn N total maxv j ∧
      rampFn N total maxv j ≤ maxv ∧ (total ≤ j → rampFn N total maxv j = maxv) := by
  rw [rampFn_eq]
  exact ⟨ramp_of_lt, ramp_mono hm hij, ramp_le hm, ramp_of_ge⟩

/-- the array the code builds with its loop is that ramp -/
theorem C08_refines_spec_area_ramp (n N total : Nat) (maxv : K) (h1 : total ≠ N) (h2 : ¬ (N < total ∧ n < total)) :
    areaRamp n N total maxv = .ok ((List.range n).map (rampFn N total maxv)) :=
  areaRamp_ok n N total maxv h1 h2

theorem C08_homogeneous_crops (pow : K → K → K) (hp : PowOK pow) (c : CropIn K) (w : CropWF c) (g : GhIn K)
    (wg : GhWF c.nmonths g) (hrun : c.addOutdoor = true ∨ g.addGreenhouses = true) (k : K) (hk : 0 ≤ k) :
    ∃ o o', cropsAndGreenhouses pow c g = .ok o ∧
      cropsAndGreenhouses pow (setBaseline c (k * c.baseline)) g = .ok o' ∧
      o'.production = o.production.map (k * ·) ∧ o'.gh.crops = o.gh.crops.map (k * ·) :=
  cropsAndGreenhouses_scale pow hp c w g wg hrun k hk

/-- `set_seafood_production`: one value per month of the percentage list, up to `NMONTHS` -/
theorem C08_refines_spec_fish (add : Bool) (n : Nat) (annual wd wr : K) (pct : List K) :
    fishSeries add n annual wd wr pct
      = (List.range (Nat.min n pct.length)).map (fishSpec add annual wd wr fun i => pct.getD i 0) := by
  unfold fishSeries fishSpec fishKcalsMonthly
  conv_lhs => rw [← Proofs.map_getD_range pct 0]
  rw [take_map_range]
  cases add <;> simp only [Bool.false_eq_true, if_false, if_true, List.map_map] <;> rfl

theorem C08_length_fish (add : Bool) (n : Nat) (annual wd wr : K) (pct : List K) (h : n ≤ pct.length) :
    (fishSeries add n annual wd wr pct).length = n := by
  rw [C08_refines_spec_fish]; simp [Nat.min_eq_left h]

/-- the nuclear-winter percentage list: 192 values, linear interpolation between yearly values -/
theorem C08_refines_spec_fish_percent : (fishPercentNW : List K) = (List.range 192).map fishPercentNWSpec := by
  unfold fishPercentNW linspaceOpen
  dsimp only
  rw [yearlyFish_length, flatMap_map_range, replicate_eq_map_range, map_range_append, List.map_map]
  refine map_range_congr fun i _ => ?_
  unfold fishPercentNWSpec
  dsimp only [Function.comp]
  split_ifs <;> rfl

theorem C08_nonneg_fish (add : Bool) (annual wd wr : K) (pct : Nat → K) (i : Nat) (ha : 0 ≤ annual)
    (hp : 0 ≤ pct i) (hwd : wd ≤ 100) (hwr : wr ≤ 100) : 0 ≤ fishSpec add annual wd wr pct i := by
  unfold fishSpec
  split_ifs
  · exact mul_nonneg (div_nonneg hp (by norm_num)) (div_nonneg (div_nonneg (mul_nonneg (mul_nonneg ha
      (mul_nonneg (wasteFactor_nonneg wd hwd) (wasteFactor_nonneg wr hwr))) (by norm_num)) (by norm_num)) (by norm_num))
  · exact le_rfl

theorem C08_homogeneous_fish (add : Bool) (annual wd wr k : K) (pct : Nat → K) (i : Nat) :
    fishSpec add (k * annual) wd wr pct i = k * fishSpec add annual wd wr pct i := by
  unfold fishSpec
  simp only [Proofs.sci_100, sci_12]
  split_ifs <;> ring

/-- years of 8, 12, …, 12, 16 months; `4000 · ratio(year) · monthly baseline` billion kcals -/
theorem C08_refines_spec_grass (n : Nat) (base : K) (ratios : List K) (w : GrassWF n ratios) :
    grassSeries n base ratios = .ok ((List.range n).map (grassSpec n base ratios)) := by
  unfold grassSeries
  have h2 : ((ratios.take (n / 12)).any fun r => !(decide (0 ≤ r ∧ r ≤ 10000.0))) = false := by
    rw [List.any_eq_false]
    intro r hr
    simp [(w.bounds r hr).1, sci_10000, (w.bounds r hr).2]
  simp only [w.enough.not_gt, if_false, h2, Bool.false_eq_true]
  obtain ⟨m, hm⟩ : ∃ m, n / 12 = m + 2 := ⟨n / 12 - 2, by have := w.two; omega⟩
  have hn : n = 12 * (m + 2) := by rw [← hm, w.years]
  subst hn
  rw [grassTons_eq, List.map_map]
  refine congrArg _ (map_range_congr fun i _ => ?_)
  simp only [Function.comp, grassSpec, hm, tonsToKcals_eq, Nat.add_sub_cancel]
  norm_num

theorem C08_length_grass (n : Nat) (base : K) (ratios : List K) (w : GrassWF n ratios) :
    ∃ l, grassSeries n base ratios = .ok l ∧ l.length = n :=
  ⟨_, C08_refines_spec_grass n base ratios w, by simp⟩

/-- outside the supported horizons: a 12-month horizon yields only the eight months of year 1 -/
theorem C08_grass_twelve_months (base : K) (ratio : Nat → K) :
    (grassTons 12 base ratio).length = 8 := by
  rw [grassTons_twelve]; simp

theorem C08_nonneg_grass (n : Nat) (base : K) (ratios : List K) (i : Nat) (hb : 0 ≤ base) (hr : ∀ r ∈ ratios, 0 ≤ r) :
    0 ≤ grassSpec n base ratios i :=
  mul_nonneg (by norm_num) (mul_nonneg (Proofs.getD_nonneg _ hr _) hb)

theorem C08_homogeneous_grass (n : Nat) (base k : K) (ratios : List K) (i : Nat) :
    grassSpec n (k * base) ratios i = k * grassSpec n base ratios i := by
  unfold grassSpec
  rw [sci_4000]
  ring

theorem C08_refines_spec_demand (n d : Nat) (annual : K) (ha : 0 ≤ annual) (hd : d ≤ n) :
    demandSeries n d annual = .ok ((List.range n).map (demandSpec d annual)) := by
  have hm : 0 ≤ demandMonthly annual := by
    unfold demandMonthly
    positivity
  unfold demandSeries
  rw [if_neg hm.not_gt, replicate_eq_map_range, replicate_eq_map_range,
    map_range_append, Nat.add_sub_cancel' hd]
  rfl

theorem C08_length_demand (n d : Nat) (annual : K) (ha : 0 ≤ annual) (hd : d ≤ n) :
    ∃ l, demandSeries n d annual = .ok l ∧ l.length = n :=
  ⟨_, C08_refines_spec_demand n d annual ha hd, by simp⟩

/-- outside `duration ≤ NMONTHS` the list has `duration` entries (`[x]*d + [0]*(n-d)` with a negative count) -/
theorem C08_length_demand_outside (n d : Nat) (annual : K) (l : List K) (h : demandSeries n d annual = .ok l) :
    l.length = d + (n - d) := by
  unfold demandSeries at h
  split_ifs at h
  injection h with h; rw [← h]; simp

theorem C08_nonneg_demand (d : Nat) (annual : K) (i : Nat) (ha : 0 ≤ annual) :
    0 ≤ demandSpec d annual i ∧ (d ≤ i → demandSpec d annual i = 0) := by
  unfold demandSpec
  refine ⟨?_, fun h => if_neg h.not_gt⟩
  split_ifs <;> positivity

theorem C08_homogeneous_demand (d : Nat) (annual k : K) (i : Nat) :
    demandSpec d (k * annual) i = k * demandSpec d annual i := by
  unfold demandSpec
  rw [sci_12]
  split_ifs <;> ring

theorem C08_refines_spec_scp (add : Bool) (n d : Nat) (slope gp km fr wd : K) (hn : n ≤ 2 * d + 1031) :
    scpSeries add n d slope gp km fr wd = (List.range n).map (scpSpec add d slope gp km fr wd) := by
  unfold scpSeries scpSpec
  cases add
  · exact replicate_eq_map_range _ _
  · rw [if_pos rfl, scpPercentList_eq, List.map_map, take_map_range_of_le _ hn]
    exact map_range_congr fun i _ => (if_pos rfl).symm

theorem C08_length_scp (add : Bool) (n d : Nat) (slope gp km fr wd : K) (hn : n ≤ 2 * d + 1031) :
    (scpSeries add n d slope gp km fr wd).length = n := by
  rw [C08_refines_spec_scp _ _ _ _ _ _ _ _ hn]; simp

theorem C08_ramp_monotone_capped_scp (d : Nat) (slope gp km fr wd : K) (i j : Nat) (hij : i ≤ j) :
    scpSpec true d slope gp km fr wd i = (scpLevel d i : K) * industrialFactor slope gp km fr wd ∧
      (i < 2 * d + 12 → scpLevel d i = 0) ∧ scpLevel d i ≤ scpLevel d j ∧ scpLevel d j ≤ 15 :=
  ⟨scpSpec_eq d slope gp km fr wd i, scpLevel_zero d i, scpLevel_mono d hij, scpLevel_le d j⟩

theorem C08_nonneg_scp (add : Bool) (d : Nat) (slope gp km fr wd : K) (i : Nat) (h1 : 0 ≤ slope) (h2 : 0 ≤ gp)
    (h3 : 0 ≤ km) (h4 : 0 ≤ fr) (h5 : wd ≤ 100) : 0 ≤ scpSpec add d slope gp km fr wd i := by
  cases add
  · rw [scpSpec_off]
  · rw [scpSpec_eq]
    exact mul_nonneg (Nat.cast_nonneg _) (industrialFactor_nonneg slope gp km fr wd h1 h2 h3 h4 h5)

theorem C08_monotone_scp (d : Nat) (slope gp km fr wd : K) (i j : Nat) (hij : i ≤ j) (h1 : 0 ≤ slope) (h2 : 0 ≤ gp)
    (h3 : 0 ≤ km) (h4 : 0 ≤ fr) (h5 : wd ≤ 100) :
    scpSpec true d slope gp km fr wd i ≤ scpSpec true d slope gp km fr wd j := by
  rw [scpSpec_eq, scpSpec_eq]
  exact mul_le_mul_of_nonneg_right (Nat.cast_le.mpr (scpLevel_mono d hij))
    (industrialFactor_nonneg slope gp km fr wd h1 h2 h3 h4 h5)

/-- scaling the country's share of global production scales the series -/
theorem C08_homogeneous_scp (add : Bool) (d : Nat) (slope gp km fr wd k : K) (i : Nat) :
    scpSpec add d slope gp km (k * fr) wd i = k * scpSpec add d slope gp km fr wd i := by
  unfold scpSpec
  rw [Proofs.sci_100]
  split_ifs <;> ring

theorem C08_refines_spec_cs (add : Bool) (n d : Nat) (slope gp km fr wd : K) (hn : n ≤ d + 1008) :
    csSeries add n d slope gp km fr wd = (List.range n).map (csSpec add d slope gp km fr wd) := by
  unfold csSeries csSpec
  cases add
  · rw [if_neg Bool.false_ne_true, replicate_eq_map_range, take_map_range_of_le _ le_rfl]
    rfl
  · rw [if_pos rfl, csPercentList_eq, List.map_map, take_map_range_of_le _ hn]
    exact map_range_congr fun i _ => (if_pos rfl).symm

theorem C08_length_cs (add : Bool) (n d : Nat) (slope gp km fr wd : K) (hn : n ≤ d + 1008) :
    (csSeries add n d slope gp km fr wd).length = n := by
  rw [C08_refines_spec_cs _ _ _ _ _ _ _ _ hn]; simp

theorem C08_ramp_monotone_capped_cs (d : Nat) (slope gp km fr wd : K) (i j : Nat) (hij : i ≤ j) :
    csSpec true d slope gp km fr wd i = csLevel d i * industrialFactor slope gp km fr wd ∧
      (i < d + 5 → (csLevel d i : K) = 0) ∧ (csLevel d i : K) ≤ csLevel d j ∧ (csLevel d j : K) ≤ 9.5 :=
  ⟨csSpec_eq d slope gp km fr wd i, csLevel_zero d i, csLevel_mono d hij, csLevel_le d j⟩

theorem C08_nonneg_cs (add : Bool) (d : Nat) (slope gp km fr wd : K) (i : Nat) (h1 : 0 ≤ slope) (h2 : 0 ≤ gp)
    (h3 : 0 ≤ km) (h4 : 0 ≤ fr) (h5 : wd ≤ 100) : 0 ≤ csSpec add d slope gp km fr wd i := by
  cases add
  · rw [csSpec_off]
  · rw [csSpec_eq]
    exact mul_nonneg (csLevel_nonneg d i) (industrialFactor_nonneg slope gp km fr wd h1 h2 h3 h4 h5)

theorem C08_homogeneous_cs (add : Bool) (d : Nat) (slope gp km fr wd k : K) (i : Nat) :
    csSpec add d slope gp km (k * fr) wd i = k * csSpec add d slope gp km fr wd i := by
  unfold csSpec
  rw [Proofs.sci_100]
  split_ifs <;> ring

theorem C08_refines_spec_seaweed_area (add : Bool) (n delay : Nat) (newFrac maxFrac : K) :
    seaweedBuiltArea add n delay newFrac maxFrac
      = (List.range n).map (seaweedAreaSpec add delay newFrac maxFrac) := by
  unfold seaweedBuiltArea
  dsimp only
  rw [linspace_arith, replicate_eq_map_range, map_range_append, List.map_map,
    take_map_range_of_le _ (Nat.le_add_left _ _)]
  rfl

theorem C08_length_seaweed_area (add : Bool) (n delay : Nat) (newFrac maxFrac : K) :
    (seaweedBuiltArea add n delay newFrac maxFrac).length = n := by
  rw [C08_refines_spec_seaweed_area]; simp

theorem C08_ramp_monotone_capped_seaweed (add : Bool) (delay : Nat) (newFrac maxFrac : K) (hn : 0 ≤ newFrac)
    (i j : Nat) (hij : i ≤ j) :
    seaweedAreaSpec add delay newFrac maxFrac i
        = min (seaweedMaxArea maxFrac) (seaweedRaw (if add then delay else 1000) newFrac i) ∧
      (i ≤ (if add then delay else 1000) → seaweedRaw (if add then delay else 1000) newFrac i = seaweedInitBuilt newFrac) ∧
      seaweedAreaSpec add delay newFrac maxFrac i ≤ seaweedAreaSpec add delay newFrac maxFrac j ∧
      seaweedAreaSpec add delay newFrac maxFrac j ≤ seaweedMaxArea maxFrac := by
  refine ⟨seaweedAreaSpec_eq _ _ _ _ _, seaweedRaw_before _ _ _, ?_, ?_⟩
  · rw [seaweedAreaSpec_eq, seaweedAreaSpec_eq]
    exact min_le_min le_rfl (seaweedRaw_mono _ _ hn hij)
  · rw [seaweedAreaSpec_eq]; exact min_le_left _ _

theorem C08_nonneg_seaweed_area (add : Bool) (delay : Nat) (newFrac maxFrac : K) (hn : 0 ≤ newFrac) (hm : 0 ≤ maxFrac)
    (i : Nat) : 0 ≤ seaweedAreaSpec add delay newFrac maxFrac i := by
  rw [seaweedAreaSpec_eq]
  apply le_min
  · exact mul_nonneg (by norm_num) hm
  · have h0 : 0 ≤ seaweedInitBuilt newFrac := mul_nonneg (by norm_num) hn
    calc (0 : K) ≤ seaweedInitBuilt newFrac := h0
      _ = seaweedRaw (if add then delay else 1000) newFrac 0 := (seaweedRaw_before _ _ 0 (Nat.zero_le _)).symm
      _ ≤ seaweedRaw (if add then delay else 1000) newFrac i := seaweedRaw_mono _ _ hn (Nat.zero_le _)

/-- growth factors: the columns in any order, with distinct month keys, give the list sorted by key -/
theorem C08_refines_spec_seaweed_growth (cols sorted : List (Int × K)) (hperm : cols.Perm sorted)
    (hs : sorted.Pairwise (fun a b => a.1 ≤ b.1)) (hinj : ∀ a ∈ sorted, ∀ b ∈ sorted, a.1 = b.1 → a = b) :
    seaweedGrowth cols = sorted.map fun c => 100 * (c.2 / 100 + 1) ^ 30 := by
  unfold seaweedGrowth
  have hms : (cols.mergeSort fun a b => decide (a.1 ≤ b.1)) = sorted := by
    apply List.Perm.eq_of_pairwise (le := fun a b => a.1 ≤ b.1)
    · intro a b ha hb h1 h2
      have ha' : a ∈ sorted := hperm.mem_iff.mp ((List.mergeSort_perm _ _).mem_iff.mp ha)
      exact hinj a ha' b hb (le_antisymm h1 h2)
    · have := List.pairwise_mergeSort (le := fun (a b : Int × K) => decide (a.1 ≤ b.1))
        (fun a b c h1 h2 => by simp only [decide_eq_true_eq] at *; exact le_trans h1 h2)
        (fun a b => by simp only [Bool.or_eq_true, decide_eq_true_eq]; exact le_total _ _) cols
      simpa using this
    · exact hs
    · exact (List.mergeSort_perm _ _).trans hperm
  rw [hms]
  exact List.map_congr_left fun c _ => growthFactor_eq c.2

theorem C08_length_seaweed_growth (cols : List (Int × K)) : (seaweedGrowth cols).length = cols.length := by
  unfold seaweedGrowth
  rw [List.length_map, List.length_mergeSort]

/-- a non-negative daily growth percentage gives a monthly factor of at least 100 (percent) -/
theorem C08_nonneg_seaweed_growth (p : K) (hp : 0 ≤ p) : 100 ≤ growthFactor p := by
  rw [growthFactor_eq]
  exact le_mul_of_one_le_right (by norm_num) (one_le_pow₀ (le_add_of_nonneg_left (div_nonneg hp (by norm_num))))

/-- stock at the end of the month before the start × share used − untouched share of the annual minimum,
    in billion kcals net of distribution waste -/
theorem C08_refines_spec_stored_food (sm : Nat) (stocks : List K) (unt pct wd : K) (h1 : 1 ≤ sm ∧ sm ≤ 12)
    (h2 : stocks.length = 12) (h3 : unt ≤ pct / 100.0)
    (h4 : 0 ≤ stocks.getD ((sm + 10) % 12) 0 * (pct / 100.0) - listMin stocks * unt) :
    storedFood sm stocks unt pct wd = .ok (storedFoodSpec sm stocks unt pct wd) := by
  unfold storedFood storedFoodSpec
  have hidx : (if sm = 1 then 11 else sm - 2) = (sm + 10) % 12 := by
    split_ifs <;> omega
  simp only [h1, h2, h3, hidx, h4, not_true_eq_false, if_false, ne_eq, and_self]

theorem C08_nonneg_stored_food (sm : Nat) (stocks : List K) (unt pct wd : K)
    (h4 : 0 ≤ stocks.getD ((sm + 10) % 12) 0 * (pct / 100.0) - listMin stocks * unt) (hw : wd ≤ 100) :
    0 ≤ storedFoodSpec sm stocks unt pct wd :=
  mul_nonneg (div_nonneg (mul_nonneg h4 (by norm_num)) (by norm_num)) (wasteFactor_nonneg wd hw)

theorem C08_homogeneous_stored_food (sm : Nat) (stocks : List K) (unt pct wd k : K) (hk : 0 ≤ k) :
    storedFoodSpec sm (stocks.map (k * ·)) unt pct wd = k * storedFoodSpec sm stocks unt pct wd := by
  unfold storedFoodSpec
  -- the default `0` of `getD` read as `k * 0`, so that `List.getD_map` applies
  rw [listMin_scale k hk, ← mul_zero k, List.getD_map, mul_zero, Proofs.sci_100]
  ring

/-- the identity satisfies the assumptions made on `x ** e` (so they are consistent);
    `Real.rpow` satisfies them on `[0,1] × (0,1]` as well -/
theorem powOK_id : PowOK (fun (x _ : ℚ) => x) :=
  ⟨fun _ _ _ _ _ _ => le_rfl, fun _ _ _ h _ _ => h, fun _ => rfl⟩

def exampleCrops : CropIn ℚ :=
  { nmonths := 48, startMonth := 5, baseline := 1000, season := List.replicate 12 (1 / 12),
    ratios := [1, 1 / 2, 1 / 4, 1 / 4, 1 / 4, 1 / 2, 1 / 2, 3 / 4, 1, 1], country := "ARG", addOutdoor := true,
    relocation := true, exponent := 4 / 5, ratioArea := 72 / 39, yearsToReach := 3, harvestDuration := 8,
    rotationDelay := 2, waste := 20 }

def exampleGh : GhIn ℚ :=
  { addGreenhouses := true, globalCropArea := 1430000000, cropAreaFraction := 1 / 100, delay := 2,
    areaMultiplier := 19 / 143, gainPct := 44, wasteRetail := 10 }

example : CropWF exampleCrops := by
  constructor <;> decide +kernel

example : GhWF 48 exampleGh := by
  constructor <;> decide +kernel

example : GrassWF 48 ([1, 1 / 2, 1 / 4, 1 / 4] : List ℚ) := by
  constructor <;> decide +kernel

/-- month 0 is May: with all the harvest in May the first month carries the whole year -/
example : (monthsCycle 5 (3898 : ℚ) [0, 0, 0, 0, 1, 0, 0, 0, 0, 0, 0, 0]).getD 0 0 = 3806 * 4000000 / 1000000000 := by
  decide +kernel

example : scpSeries true 20 2 (1 : ℚ) 1 100 1 0 =
    (List.replicate 16 0 ++ List.replicate 4 (2 / (1 - 12 / 100) / 100 * (1 * 100 / 1000000000))) := by
  decide +kernel

end Allfed.C08
