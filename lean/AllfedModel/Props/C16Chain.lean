import AllfedModel.Proofs.Round2
/-!
# C16, the chain C18 → C16: after the hand-off the feed-maximising round is feasible

`Handoff.minNeeds` (the model of `calculate_human_consumption_for_min_needs`, property C18) turns
the monthly human consumption of round 1 — nine foods in priority order: fish, meat, dairy,
greenhouse, outdoor crops, stored food, SCP, cellulosic sugar, seaweed — into the minimum
consumption of round 2.  C18 proves, on lists, that every entry of the result lies between 0 and
the corresponding entry of the input.  Here this is carried over to the `at'`/`getD` shape of the
LP inputs and combined with `C16.round2_feasible_of_round1`.

Units: the hand-off works in kcals per person per day, the LP in billion kcals (seaweed in tonnes,
times `seaweedKcals`).  The conversion is one positive factor `u`; that the six series `i.min…`
are (times `u`) the components of the hand-off's result is the hypothesis `MinsFromHandoff`
(`Model/AllocSpec.lean`), which the harness can check per instance — it is how the pipeline
builds the inputs of round 2.
-/
namespace Allfed.C16
open Allfed.LP Allfed.AllocLP Allfed.Certificate Allfed.AllocSpec Allfed.Handoff

variable {K : Type} [Field K] [LinearOrder K] [IsStrictOrderedRing K]

theorem getD_le_of_forall₂ {a b : List K} (h : List.Forall₂ (· ≤ ·) a b) (k : Nat) :
    a.getD k 0 ≤ b.getD k 0 :=
  Proofs.getD_le_of_forall₂ h k

theorem handoffEntry_bounds (i : Inp K) (x : Var → K) (u cap : K) (m k : Nat) (hm : m < i.nmonths)
    (hcap : 0 ≤ cap) (hrow : ∀ f ∈ humanRow i x u m, 0 ≤ f) :
    0 ≤ handoffEntry i x u cap m k ∧ handoffEntry i x u cap m k ≤ (humanRow i x u m).getD k 0 :=
  Proofs.Round2.handoffEntry_bounds i x u cap m k hm hcap hrow

theorem pinsWithin_of_handoff (i : Inp K) (x₁ : Var → K) (u cap : K) (hu : 0 < u) (hcap : 0 ≤ cap)
    (hx : ∀ v, 0 ≤ x₁ v) (hkc : 0 ≤ i.seaweedKcals)
    (hconst : ∀ m, m < i.nmonths → 0 ≤ at' i.fish m ∧ 0 ≤ at' i.milk m ∧ 0 ≤ at' i.greenhouse m)
    (hmins : MinsFromHandoff i x₁ u cap) : PinsWithin i x₁ :=
  Proofs.Round2.pinsWithin_of_handoff i x₁ u cap hu hcap hx hkc hconst hmins

theorem round2_feasible_after_handoff (i : Inp K) (x₁ : Var → K) (u cap : K) (hu : 0 < u)
    (hcap : 0 ≤ cap) (hw : WellFormed i)
    (hceil : anyFeedVar i = true → ∀ m, m < i.nmonths → 0 ≤ at' i.maxFeed m ∧ 0 ≤ at' i.maxBiofuel m)
    (hconst : ∀ m, m < i.nmonths → 0 ≤ at' i.fish m ∧ 0 ≤ at' i.milk m ∧ 0 ≤ at' i.greenhouse m)
    (h₁ : Feasible (buildLP i .toHumans) x₁) (hmins : MinsFromHandoff i x₁ u cap) :
    ∃ x, Feasible (buildLP i .toAnimals) x :=
  Proofs.Round2.round2_feasible_after_handoff i x₁ u cap hu hcap hw hceil hconst h₁ hmins

/-- `round2_feasible_after_handoff` for the ceiling the code computes, `dailyMax KCALS_DAILY p₁ T` with a
    non-negative threshold `T`, daily requirement and round-1 percentage `p₁` -/
theorem round2_feasible_after_handoff_dailyMax (i : Inp K) (x₁ : Var → K) (u kd p1 T : K)
    (hu : 0 < u) (hkd : 0 ≤ kd) (hp : 0 ≤ p1) (hT : 0 ≤ T) (hw : WellFormed i)
    (hceil : anyFeedVar i = true → ∀ m, m < i.nmonths → 0 ≤ at' i.maxFeed m ∧ 0 ≤ at' i.maxBiofuel m)
    (hconst : ∀ m, m < i.nmonths → 0 ≤ at' i.fish m ∧ 0 ≤ at' i.milk m ∧ 0 ≤ at' i.greenhouse m)
    (h₁ : Feasible (buildLP i .toHumans) x₁)
    (hmins : MinsFromHandoff i x₁ u (dailyMax kd p1 T)) :
    ∃ x, Feasible (buildLP i .toAnimals) x :=
  round2_feasible_after_handoff i x₁ u _ hu (Proofs.dailyMax_nonneg kd p1 T hkd hp hT)
    hw hceil hconst h₁ hmins

/-- for the seaweed instance of `round2_seaweed_pin_infeasible_before_fix`, with the ceiling 1/2
    and unit 1, the hand-off of its round-1 point returns exactly the instance's minimum-consumption
    series -/
example : MinsFromHandoff Proofs.Round2.swInst Proofs.Round2.swX 1 (1 / 2) where
  meat := fun h => absurd h (by decide)
  crops := fun h => absurd h (by decide)
  stored := fun h => absurd h (by decide)
  scp := fun h => absurd h (by decide)
  cs := fun h => absurd h (by decide)
  seaweed := by
    intro _ m hm
    have hm' : m < 2 := hm
    obtain rfl | rfl : m = 0 ∨ m = 1 := by omega
    · decide +kernel
    · decide +kernel

end Allfed.C16
