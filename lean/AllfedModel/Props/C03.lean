import AllfedModel.Model.Rounds
import AllfedModel.Proofs.LP
import AllfedModel.Props.C18
/-!
# C03 — humans come before animal feed and biofuel

Proved for all inputs: in every round and month the feed and biofuel drawn from human-edible food
stay within the demand schedule (given what each round is charged / capped with), which is zero
from the shut-off month on; feed drawn under a zero bound is zero, and a round that charges nothing
draws neither; the feed round can never raise feed or biofuel from one month to the next, so "no
surplus in month 0 ⇒ no feed ever"; the charge of the final round is the herds' feed use bumped
within demand (C18).
NOT provable from the row sets alone, monitored by the check on every three-round run instead
(`Rounds.relOK`): "final < T ⇒ essentially no feed/biofuel and final ≥ round 1", "round 1 ≥ T ⇒
final ≥ T" — statements about optimal solutions of three coupled LPs plus two rule-of-thumb
corrections.  This property is therefore labelled *partial*.
-/
set_option linter.unusedSectionVars false

namespace Allfed.C03
open Allfed.LP Allfed.AllocLP Allfed.PhysSpec Allfed.Rounds Allfed.Proofs.LP

variable {K : Type} [Field K] [LinearOrder K] [IsStrictOrderedRing K]

theorem demand_schedule (monthly : K) (d n m : Nat) :
    at' (demandSeries monthly d n) m = if m < d then monthly else 0 := by
  unfold demandSeries at'
  rw [List.getD_eq_getElem?_getD, List.getElem?_append, List.length_replicate]
  split_ifs with h
  · rw [List.getElem?_replicate, if_pos h]; rfl
  · rw [List.getElem?_replicate]; split_ifs <;> rfl

theorem demand_zero_after_shutoff (monthly : K) (d n m : Nat) (h : d ≤ m) :
    at' (demandSeries monthly d n) m = 0 := by
  rw [demand_schedule, if_neg (Nat.not_lt.mpr h)]

/-- human-maximising rounds (1 and 3): the feed and biofuel drawn equal the round's charge, so they are
    within the demand schedule whenever the charge is -/
theorem human_round_within_schedule (i : Inp K) (x : Var → K) (fd bd : List K)
    (h : Feasible (buildLP i .toHumans) x) (hany : anyFeedVar i = true)
    (hf : ∀ m, at' i.feed m ≤ at' fd m) (hb : ∀ m, at' i.biofuel m ≤ at' bd m)
    (m : Nat) (hm : m < i.nmonths) :
    feedTotal i x m ≤ at' fd m ∧ biofuelTotal i x m ≤ at' bd m := by
  have := feed_biofuel_eq_charge h hany hm
  exact ⟨this.1 ▸ hf m, this.2 ▸ hb m⟩

/-- round 1 charges nothing, so it draws nothing -/
theorem round1_draws_nothing (i : Inp K) (x : Var → K)
    (h : Feasible (buildLP i .toHumans) x) (hany : anyFeedVar i = true)
    (hf : ∀ m, at' i.feed m = 0) (hb : ∀ m, at' i.biofuel m = 0) (m : Nat) (hm : m < i.nmonths) :
    feedTotal i x m = 0 ∧ biofuelTotal i x m = 0 := by
  have := feed_biofuel_eq_charge h hany hm
  exact ⟨this.1.trans (hf m), this.2.trans (hb m)⟩

/-- the feed-maximising round stays within its ceilings, hence within the schedule when the ceilings do -/
theorem feed_round_within_schedule (i : Inp K) (x : Var → K) (fd bd : List K)
    (h : Feasible (buildLP i .toAnimals) x) (hany : anyFeedVar i = true)
    (hf : ∀ m, at' i.maxFeed m ≤ at' fd m) (hb : ∀ m, at' i.maxBiofuel m ≤ at' bd m)
    (m : Nat) (hm : m < i.nmonths) :
    feedTotal i x m ≤ at' fd m ∧ biofuelTotal i x m ≤ at' bd m := by
  have := feed_biofuel_le_ceiling h hany hm
  exact ⟨this.1.trans (hf m), this.2.trans (hb m)⟩

theorem round2_monotone (i : Inp K) (x : Var → K) (h : Feasible (buildLP i .toAnimals) x)
    (hany : anyFeedVar i = true) (m : Nat) (hm : m < i.nmonths) :
    feedTotal i x m ≤ feedTotal i x 0 ∧ biofuelTotal i x m ≤ biofuelTotal i x 0 := by
  induction m with
  | zero => exact ⟨le_refl _, le_refl _⟩
  | succ k ih =>
    have hk := ih (by omega)
    have := feed_biofuel_never_rise h hany hm (by omega)
    simp only [Nat.add_sub_cancel] at this
    exact ⟨this.1.trans hk.1, this.2.trans hk.2⟩

/-- the feed drawn is zero wherever the bound it sits under is zero (non-negativity of all variables) -/
theorem zero_where_bound_zero (i : Inp K) (kind : Kind) (x : Var → K) (h : Feasible (buildLP i kind) x)
    (hk : 0 ≤ i.seaweedKcals) (m : Nat) (b : K) (hb : b = 0) (hle : feedTotal i x m ≤ b) : feedTotal i x m = 0 :=
  le_antisymm (hb ▸ hle) (feed_biofuel_nonneg i h.2 hk m).1

/-- the final round's charge: the herds' feed use and round 2's biofuel, bumped — never beyond a
    demand ceiling they started under (C18; feed up to the helper's own 1e-9 regulariser) -/
theorem final_charge_within_demand (b f inc mb mf av : K) (hb : b ≤ mb) (hf : f ≤ mf) :
    (Handoff.bump1 b f inc mb mf av).1 ≤ mb ∧ (Handoff.bump1 b f inc mb mf av).2 ≤ mf + 1e-9 :=
  ⟨(C18.bump_within_ceiling_of_le b f inc mb mf av).1 hb, (C18.bump_within_ceiling_of_le b f inc mb mf av).2 hf⟩

/-- the executable statement of the inter-round relations means what it says -/
theorem relOK_spec (T p1 p3 drawn need tolP tolF : K) :
    relOK T p1 p3 drawn need tolP tolF = true ↔
      ((p3 < T - tolP → drawn ≤ tolF * need ∧ p1 - tolP ≤ p3) ∧ (T ≤ p1 → T - tolP ≤ p3)) := by
  simp only [relOK, Bool.and_eq_true, Bool.ite_eq_true_distrib, decide_eq_true_eq, if_true_right]

/-- a run that starves (40 % of a 100 % threshold) with no feed drawn satisfies the relations,
    one that draws feed while starving does not -/
example : relOK (100 : ℚ) 38 40 0 2800 (1/100) (1/1000) = true ∧ relOK (100 : ℚ) 38 40 500 2800 (1/100) (1/1000) = false := by
  decide +kernel

end Allfed.C03
