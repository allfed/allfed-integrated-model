import AllfedModel.Proofs.Completion
import AllfedModel.Proofs.Round2
import AllfedModel.Proofs.Validators
import AllfedModel.Props.C01
import AllfedModel.Props.C03
import AllfedModel.Props.C04
import AllfedModel.Props.C18
/-!
# C16 — every country completes under every documented preset

The property itself is decided by executing the grid (harness/props/c16.py).  What a theorem can
add: the LP of a round that charges no feed and no biofuel (round 1, and round 3 when round 2 was
skipped or found nothing) always has a feasible point and a bounded objective when no seaweed is
farmed, for every well-formed input — so a failure of such a round can only be numerical.
With seaweed the statement is false in general (biomass that may neither be harvested beyond the
human intake cap nor exceed the density ceiling), which is why it is excluded here.
The other two sections: round 2 has a feasible point after round 1 and the hand-off; each built-in
validator passes on exact solutions, or a counter-example shows what it needs beyond C01/C03/C04/C18.
-/
set_option linter.unusedSectionVars false

namespace Allfed.C16
open Allfed.LP Allfed.AllocLP Allfed.Certificate Allfed.AllocSpec

variable {K : Type} [Field K] [LinearOrder K] [IsStrictOrderedRing K]

/-- inputs of a zero-charge human round as the pipeline produces them -/
structure ZeroChargeInput (i : Inp K) : Prop where
  months : 2 ≤ i.nmonths
  noSeaweed : i.addSeaweed = false
  wf : WellFormed i
  need : 0 < i.billionKcalsNeeded
  feed0 : ∀ m, at' i.feed m = 0
  biofuel0 : ∀ m, at' i.biofuel m = 0
  supplies : (∀ m, 0 ≤ at' i.milk m) ∧ (∀ m, 0 ≤ at' i.greenhouse m) ∧ (∀ m, 0 ≤ at' i.fish m) ∧
             (∀ m, 0 ≤ at' i.scp m) ∧ (∀ m, 0 ≤ at' i.cs m) ∧ (∀ m, 0 ≤ at' i.slaughtered m) ∧
             (∀ m, 0 ≤ at' i.maxCulled m) ∧ 0 ≤ i.meatSummed
  /-- only the human intake limits matter: the feed and biofuel caps `lim·charge` are `lim·0`
      whatever the sign of the limit -/
  limits : 0 ≤ i.limScpH ∧ 0 ≤ i.limCsH
  population : 0 ≤ i.pop ∧ 0 ≤ i.kcalsMonthly

/-- feasibility: eat the stock in month 0 and every harvest in the month it appears
    (`months` is not needed for this half; `WellFormed` is used for `wStored, wCrop < 100`,
    `0 ≤ storedInitial`, `0 ≤ cropProd m` on the horizon) -/
theorem zero_charge_feasible_no_seaweed (i : Inp K) (h : ZeroChargeInput i) :
    ∃ x, Feasible (buildLP i .toHumans) x :=
  Proofs.Completion.zero_charge_feasible_no_seaweed i h.noSeaweed h.wf h.need h.feed0 h.biofuel0
    h.supplies h.limits h.population

/-- boundedness: the objective never exceeds month 0's supply relative to need -/
theorem objective_bounded (i : Inp K) (h : ZeroChargeInput i) (x : Var → K) (hx : Feasible (buildLP i .toHumans) x) :
    x .objective ≤
      (i.storedInitial + at' i.cropProd 0 + at' i.milk 0 + (if i.storeBetweenYears then i.meatSummed else at' i.slaughtered 0)
        + at' i.cs 0 + at' i.scp 0 + at' i.greenhouse 0 + at' i.fish 0) / i.billionKcalsNeeded * 100 :=
  Proofs.Completion.objective_bounded i h.months h.noSeaweed h.wf h.need h.supplies x hx

/-! ## the feed-maximising round after a human-maximising round

Round 2 pins what people eat of every food to the result of round 1.  For seaweed an *upper* pin
can make the LP infeasible: seaweed that has grown must be harvested (equality ledger, density
ceiling, no disposal) and the feed/biofuel share caps may absorb nothing.  The code adds no row
`Seaweed_Max_Requirement` (`buildLP` pins seaweed from below only; `buildLPBeforeSeaweedFix` is the
programme with that row, as the code had it before its repair). -/

/-- before the fix: a two-month instance (1 t of seaweed on 1 km² at the density ceiling, doubling
    in month 1, no feed or biofuel allowed) that satisfies every hypothesis of
    `round2_feasible_of_round1` and for which the feed-maximising LP with the upper pin has NO
    feasible point -/
theorem round2_seaweed_pin_infeasible_before_fix :
    ∃ (i : Inp ℚ) (x₁ : Var → ℚ), WellFormed i ∧
      (anyFeedVar i = true → ∀ m, m < i.nmonths → 0 ≤ at' i.maxFeed m ∧ 0 ≤ at' i.maxBiofuel m) ∧
      Feasible (buildLP i .toHumans) x₁ ∧ PinsWithin i x₁ ∧
      (∀ x, ¬ Feasible (buildLPBeforeSeaweedFix i .toAnimals) x) ∧
      ∃ x, Feasible (buildLP i .toAnimals) x :=
  Proofs.Round2.round2_seaweed_pin_infeasible_before_fix

/-- `buildLP`, after a feasible human-maximising round with any charge: people get exactly the
    minimum of every food but seaweed, the seaweed farm runs as in `x₁` with the whole harvest going
    to people, nothing is fed or burnt; the stock variables follow from their ledgers -/
theorem round2_feasible_of_round1 (i : Inp K) (x₁ : Var → K) (hw : WellFormed i)
    (hceil : anyFeedVar i = true → ∀ m, m < i.nmonths → 0 ≤ at' i.maxFeed m ∧ 0 ≤ at' i.maxBiofuel m)
    (h₁ : Feasible (buildLP i .toHumans) x₁) (hp : PinsWithin i x₁) :
    ∃ x, Feasible (buildLP i .toAnimals) x :=
  Proofs.Round2.round2_feasible_of_round1 i x₁ hw hceil h₁ hp

/-- the instance of the counter-example satisfies every hypothesis -/
example : ∃ (i : Inp ℚ) (x₁ : Var → ℚ), WellFormed i ∧
    (anyFeedVar i = true → ∀ m, m < i.nmonths → 0 ≤ at' i.maxFeed m ∧ 0 ≤ at' i.maxBiofuel m) ∧
    Feasible (buildLP i .toHumans) x₁ ∧ PinsWithin i x₁ ∧ i.addSeaweed = true :=
  ⟨Proofs.Round2.swInst, Proofs.Round2.swX, Proofs.Round2.swInst_wellFormed,
    Proofs.Round2.swInst_ceilings, Proofs.Round2.swX_feasible, Proofs.Round2.swInst_pins, rfl⟩

/-! ## the built-in validators (`validate_results.py`) are implied by C01 / C03 / C04 / C18 for exact solutions

`Model/Validators.lean` is the executable model of class `Validator` (tied to the real code on every run by
`harness/lib/validators.py`).  For every numeric validator: either a theorem "the series come from an exactly
feasible point of `buildLP` / from the hand-off helpers ⇒ the validator passes for every tolerance ε ≥ 0", citing
the property theorem it rests on, or — where the validator tests a heuristic relation between rounds, or uses its
tolerance in a way an exact solution can violate — a concrete `…_counterexample` over ℚ.  `Outcome.ok` = the call
does not raise; `.pass` = the test ran and held; `.skipped` = early return; `.warned` = only printed.

Fat and protein are switched off (`⟨false, false⟩`), as in `buildLP` and in every documented option set. -/

open Allfed.Validators Allfed.Proofs.Validators Allfed.PhysSpec Allfed.Report Allfed.Handoff

/-- `ensure_all_greater_than_or_equal_to_zero`: the reported percent series are the allocation (non-negative: the
    `nonneg` clause of `C01.feasible_is_physical`, here directly `Feasible.2`) and the non-negative inputs times positive
    constants (`C04.contribution_linear`), and the "new stored" half of the crop split is never negative.
    Holds for both kinds of round and for all three tolerances the code uses (`1e-6`, rounding to 6 decimals, none). -/
theorem validator_all_ge_zero_of_feasible (i : Inp K) (kind : Kind) (x : Var → K) (produced : Nat → K)
    (h : Feasible (buildLP i kind) x) (hkm : 0 < i.kcalsMonthly) (hb : 0 < i.billionKcalsNeeded)
    (hgh : ∀ m, m < i.nmonths → 0 ≤ at' i.greenhouse m) (hfish : ∀ m, m < i.nmonths → 0 ≤ at' i.fish m)
    (hmilk : ∀ m, m < i.nmonths → 0 ≤ at' i.milk m) :
    ensureAllGe0 ⟨false, false⟩ (reportedFoods i x produced) = .pass := by
  have hinv : 0 ≤ 1 / i.kcalsMonthly := one_div_nonneg.2 hkm.le
  have hfed := fun on k m => billionsFed_nonneg i hkm zero_le_one (Proofs.LP.X_nonneg h.2 on k m)
  apply ensureAllGe0_of_nonneg <;> apply nutrNonneg_nutrOf <;> intro m hm <;> apply toPercent_nonneg i hkm hb
  -- sugar, SCP, greenhouse, fish, meat, milk, new stored crops
  · exact hfed ..
  · exact hfed ..
  · exact mul_nonneg hinv (hgh m hm)
  · exact mul_nonneg hinv (hfish m hm)
  · exact mul_nonneg (Proofs.LP.X_nonneg h.2 ..) hinv
  · exact div_nonneg (hmilk m hm) hkm.le
  · exact billionsFed_nonneg i hkm zero_le_one (splitCrops_snd_nonneg _ _)

/-- `ensure_never_nan`: in exact arithmetic there is nothing to find — for ALL series.  What a total order cannot express
    is NaN itself: NaN only arises from IEEE operations (`0/0`, `inf − inf`) the exact model does not have; the divisions
    of the reporting chain are by `kcals_monthly`, `billion_kcals_needed`, `population`, guarded as hypotheses
    wherever a theorem uses them.  At `Float` the model's test `¬(x ≤ x)` is exactly `isnan`. -/
theorem validator_never_nan (r : Foods K) : ensureNeverNan r = .pass := by
  simp only [ensureNeverNan, nutrNoNan_true, Bool.and_self, outcome_ofBool_true]

/-- `ensure_zero_kcals_have_zero_fat_and_protein`: with fat and protein off it tests nothing -/
theorem validator_zero_kcals_excluded (r : Foods K) : ensureZeroKcals ⟨false, false⟩ r = .pass := by
  simp only [ensureZeroKcals, foodZeroKcals, Bool.not_false, Bool.true_or, Bool.and_self, outcome_ofBool_true]

/-- `ensure_zero_kcals_have_zero_fat_and_protein` with fat and protein on: it holds for every series whose three nutrients are one allocation times three constants
    (`C04.contribution_linear`: that is how every reported series is made), kcals constant non-zero -/
theorem validator_zero_kcals_linear (fl : Flags) (a : List K) (ck cf cp : K) (hck : ck ≠ 0) :
    foodZeroKcals fl ⟨a.map (· * ck), a.map (· * cf), a.map (· * cp)⟩ = true := by
  simp only [foodZeroKcals, zeroWhereZero_of_linear a ck _ hck, Bool.or_true, Bool.and_self]

/-- `ensure_optimizer_returns_same_as_sum_nutrients` (headline vs the first solve's optimum, tolerance: half a
    percentage point after `round(·, 0)`): implied by `C04.headline_ge_floor` and `C04.headline_le_optimum`
    whenever the optimum is at most 10 000 % — the floor `0.99995·z` is relative, the validator's tolerance absolute. -/
theorem validator_optimizer_same_as_sum_of_feasible (i : Inp K) (x : Var → K) (zopt : K) (code : String)
    (hopt : ∀ x', Feasible (buildLP i .toHumans) x' → x' .objective ≤ zopt)
    (h : Feasible (buildLP i .toHumans ++ floorRows i .toHumans zopt) x)
    (hkm : i.kcalsMonthly ≠ 0) (hN : 0 < i.nmonths) (hz : 0 ≤ zopt) (hz4 : zopt ≤ 10000) :
    optimizerSameAsSum zopt (headline i x) code = .pass :=
  optimizerSameAsSum_of_feasible i x zopt code hopt h hkm hN hz hz4

/-- NOT implied beyond 10 000 %: optimum 20 000 %, headline 19 999 % — inside C04's floor, one whole point apart -/
theorem validator_optimizer_same_as_sum_counterexample :
    (20000 : ℚ) * 0.99995 ≤ 19999 ∧ (19999 : ℚ) ≤ 20000 ∧ optimizerSameAsSum (20000 : ℚ) 19999 "USA" = .raised := by
  decide +kernel

/-- the same on a programme: two months, 20 000 of stored food that need not be eaten (D14), optimum 20 000 %; a point that
    satisfies the rows AND the `0.99995·z` floors of the later solves, headline 19 999 % — every hypothesis of
    `validator_optimizer_same_as_sum_of_feasible` except `zopt ≤ 10000`, and the validator raises -/
theorem validator_optimizer_same_as_sum_feasible_counterexample :
    (∀ x', Feasible (buildLP bigI .toHumans) x' → x' .objective ≤ 20000) ∧
      Feasible (buildLP bigI .toHumans ++ floorRows bigI .toHumans 20000) bigX ∧ bigI.kcalsMonthly ≠ 0 ∧ 0 < bigI.nmonths ∧
      headline bigI bigX = 19999 ∧ optimizerSameAsSum (20000 : ℚ) (headline bigI bigX) "USA" = .raised :=
  ⟨big_optimum, ⟨Proofs.LP.rows_hold_of_all _ _ (by decide +kernel), bigX_nonneg⟩, by decide +kernel, by decide +kernel, by decide +kernel, by decide +kernel⟩

/-- `check_constraints_satisfied` re-evaluates every row at the reported values; in terms of the LP model it says:
    every residual of `PhysSpec.rowExcess` (the evaluator of `C01.rowExcess_iff`) is `≤ tol`, for equalities `< tol` -/
theorem validator_check_row_iff_rowExcess (tol : K) (x : Var → K) (r : Row K) :
    checkRow tol x r = true ↔
      (r.rel = .eq → ∀ e ∈ rowExcess x r, e.value < tol) ∧ (r.rel ≠ .eq → ∀ e ∈ rowExcess x r, e.value ≤ tol) :=
  checkRow_iff_rowExcess tol x r

/-- `check_constraints_satisfied`: every exactly feasible point passes for every POSITIVE tolerance (the code's is the literal `1`), whatever
    rows are skipped; in particular every feasible point of `buildLP i kind ++ floorRows i kind z` -/
theorem validator_check_constraints_of_feasible (tol : K) (htol : 0 < tol) (skip : List String) (rows : List (Row K))
    (x : Var → K) (hne : rows ≠ []) (h : Feasible rows x) : checkConstraints tol skip rows x = some .pass := by
  unfold checkConstraints
  rw [if_neg (by rwa [List.isEmpty_iff]), Option.some.injEq, ofBool_eq_pass, List.all_eq_true]
  exact fun r hr => Bool.or_eq_true_iff.2 (.inr (checkRow_of_holds tol htol x r (h.1 r hr)))

/-- NOT for tolerance 0: the equality test is strict -/
theorem validator_check_constraints_zero_tolerance_counterexample :
    Feasible [eqRow] eqX ∧ checkConstraints (0 : ℚ) [] [eqRow] eqX = some .raised ∧
      checkConstraints (1 : ℚ) [] [eqRow] eqX = some .pass := by
  refine ⟨⟨Proofs.LP.rows_hold_of_all _ _ (by decide +kernel), fun v => by unfold eqX; norm_num⟩, by decide +kernel, by decide +kernel⟩

/-- `assert_population_not_increasing` (not called by the pipeline): a sufficient condition — herds that never grow and
    are never negative pass for every positive ε … -/
theorem validator_population_of_antitone (eps : K) (heps : 0 < eps) (dict : List (String × List K))
    (h : ∀ kv ∈ dict, strContains kv.1 "population" = true → (∀ v ∈ kv.2, 0 ≤ v) ∧ kv.2.IsChain (fun a b => b ≤ a)) :
    populationNotIncreasing eps dict = .pass := by
  rw [populationNotIncreasing, ofBool_eq_pass, List.all_eq_true]
  intro kv hkv
  cases hc : strContains kv.1 "population"
  · rfl
  · exact popSeriesOK_of_antitone eps heps kv.2 (h kv hkv hc).1 (h kv hkv hc).2

/-- `assert_population_not_increasing` is NOT implied by anything proved about the herd model (C05–C07 prove the ledger, not a growth bound): 11 % growth fails -/
theorem validator_population_counterexample :
    populationNotIncreasing (1/10 : ℚ) [("beef_population", [100, 111])] = .raised ∧
      populationNotIncreasing (1/10 : ℚ) [("beef_population", [100, 110])] = .pass := by
  decide +kernel

/-- `assert_round2_meat_and_population_greater_than_round1` (not called by the pipeline): sufficient condition … -/
theorem validator_round2_greater_of_ge (eps small : K) (heps : 0 ≤ eps) (d1 d2 : List (String × List K))
    (h : ∀ kv ∈ d1, ∃ s2, d2.lookup kv.1 = some s2 ∧ 0 ≤ lsum kv.2 ∧ lsum kv.2 ≤ lsum s2) :
    round2GreaterThanRound1 eps small d1 d2 = some .pass := by
  rw [round2GreaterThanRound1, round2Loop_of_ge eps small heps d2 d1 h]
  rfl

/-- `assert_round2_meat_and_population_greater_than_round1` is NOT implied: a heuristic relation between two herd simulations (2 % fewer animals with feed fails; milk is exempt;
    a key missing in round 2 is a KeyError) -/
theorem validator_round2_greater_counterexample :
    round2GreaterThanRound1 (1/100 : ℚ) 100 [("beef_population", [500, 500])] [("beef_population", [490, 490])] = some .raised ∧
      round2GreaterThanRound1 (1/100 : ℚ) 100 [("milk_produced", [500, 500])] [("milk_produced", [1, 1])] = some .pass ∧
      round2GreaterThanRound1 (1/100 : ℚ) 100 [("beef_population", [500, 500])] [] = none := by
  decide +kernel

/-- `assert_meat_dairy_doesnt_decrease_round_2` is called with the round-2 slaughter series AFTER the re-timing of
    C18: `C18.redistribute_total` (total preserved) and `C18.redistribute_none_iff` (a result exists only if round 2
    has at least round 1's total) imply it for every ε ≥ 0 -/
theorem validator_meat_dairy_of_redistribute (eps : K) (heps : 0 ≤ eps) (r1 r2 out milk1 milk2 : List K)
    (hl : r1.length = r2.length) (h : redistribute r1 r2 = some out) (h0 : 0 ≤ r1.sum + milk1.sum) :
    meatDairyNotDecreasing eps r1 out milk1 milk2 = .pass := by
  have hge : r1.sum ≤ r2.sum := by
    by_contra hlt
    rw [(C18.redistribute_none_iff r1 r2).mpr (not_le.mp hlt)] at h
    cases h
  rw [meatDairyNotDecreasing, ofBool_eq_pass, decide_eq_true_eq, Proofs.lsum_eq_sum, Proofs.lsum_eq_sum, Proofs.lsum_eq_sum,
    C18.redistribute_total r1 r2 out hl h]
  exact (mul_one_sub_le h0 heps).trans (add_le_add_left hge _)

/-- `verify_minimum_food_consumption_sum_round2` on the output of the hand-off: `C18.fillMonth_sum` (every month adds
    up to `min(cap, eaten)`) and `C18.dailyMax_eq_min` (`cap = KCALS_DAILY·min(p1, T)/100`) imply it as long as
    `min(p1, T) ≤ 100` -/
theorem validator_min_consumption_sum_of_handoff (fl : Flags) (eps kd p1 T : K) (heps : 0 ≤ eps) (hkd : 0 ≤ kd) (hp : 0 ≤ p1)
    (hT : 0 ≤ T) (hT100 : min p1 T ≤ 100) (avail : List (List K)) (hf : ∀ row ∈ avail, ∀ f ∈ row, 0 ≤ f) :
    (minConsumptionSum fl eps kd (minNeeds (dailyMax kd p1 T) avail)).ok = true := by
  have hcap0 := Proofs.dailyMax_nonneg kd p1 T hkd hp hT
  have hcap : dailyMax kd p1 T ≤ kd := by
    rw [C18.dailyMax_eq_min]; exact mul_le_of_le_one_right hkd ((div_le_one (by norm_num)).2 hT100)
  refine minConsumptionSum_of_le fl eps kd heps hkd _ fun row hrow => ?_
  obtain ⟨a, ha, rfl⟩ := List.mem_map.mp hrow
  rw [C18.fillMonth_sum _ a hcap0 (hf a ha)]
  exact (min_le_left _ _).trans hcap

/-- NOT beyond: a threshold of 120 % (round 1 at 150 %) makes the hand-off's exact output fail its own check -/
theorem validator_min_consumption_sum_counterexample :
    minConsumptionSum ⟨false, false⟩ (1/10000 : ℚ) 2100 (minNeeds (dailyMax 2100 150 120) [[3150, 0, 0, 0, 0, 0, 0, 0, 0]]) = .raised := by
  decide +kernel

/-- `verify_food_usage_priorities_round2` on the output of the hand-off, for every ε ≥ 0 and every cap ≥ 0: a food is
    drawn on only when every earlier one is used to 100 %, none beyond 100 % (`prioMonth_fill` follows the validator's
    scan along `fillMonth`) -/
theorem validator_usage_priorities_of_handoff (fl : Flags) (eps cap : K) (heps : 0 ≤ eps) (hcap : 0 ≤ cap) (avail : List (List K))
    (hf : ∀ row ∈ avail, ∀ f ∈ row, 0 ≤ f) :
    (usagePriorities fl eps (avail.map fun row => (fillMonth cap row).zip row)).ok = true := by
  unfold usagePriorities
  split_ifs
  · rfl
  · rw [List.all_eq_true.2 fun p hp => by
      obtain ⟨row, hrow, rfl⟩ := List.mem_map.mp hp
      exact prioMonth_fill eps heps cap _ hcap (.inr (by norm_num)) row (hf row hrow)]
    rfl

/-- `assert_feed_used_below_feed_demand` / `assert_biofuels_used_below_biofuels_demand` after a human-maximising round
    (rounds 1 and 3): `C03.human_round_within_schedule` — what is drawn equals the charge, the charge is within demand -/
theorem validator_used_below_demand_human_round (i : Inp K) (x : Var → K) (fd bd : List K) (eps : K) (heps : 0 ≤ eps)
    (h : Feasible (buildLP i .toHumans) x) (hany : anyFeedVar i = true)
    (hf : ∀ m, at' i.feed m ≤ at' fd m) (hb : ∀ m, at' i.biofuel m ≤ at' bd m)
    (hbk : 0 < i.billionKcalsNeeded) (hk : 0 ≤ i.seaweedKcals) :
    usedBelowDemand ⟨false, false⟩ eps (100 / i.billionKcalsNeeded) (monthly i.nmonths (at' fd)) (feedSources i x) = some .pass ∧
    usedBelowDemand ⟨false, false⟩ eps (100 / i.billionKcalsNeeded) (monthly i.nmonths (at' bd)) (biofuelSources i x) = some .pass :=
  usedBelowDemand_of_within i x fd bd eps heps h.2 hbk hk (C03.human_round_within_schedule i x fd bd h hany hf hb)

/-- the same two validators after the feed-maximising round (round 2): `C03.feed_round_within_schedule` — within the ceilings, the ceilings within demand -/
theorem validator_used_below_demand_feed_round (i : Inp K) (x : Var → K) (fd bd : List K) (eps : K) (heps : 0 ≤ eps)
    (h : Feasible (buildLP i .toAnimals) x) (hany : anyFeedVar i = true)
    (hf : ∀ m, at' i.maxFeed m ≤ at' fd m) (hb : ∀ m, at' i.maxBiofuel m ≤ at' bd m)
    (hbk : 0 < i.billionKcalsNeeded) (hk : 0 ≤ i.seaweedKcals) :
    usedBelowDemand ⟨false, false⟩ eps (100 / i.billionKcalsNeeded) (monthly i.nmonths (at' fd)) (feedSources i x) = some .pass ∧
    usedBelowDemand ⟨false, false⟩ eps (100 / i.billionKcalsNeeded) (monthly i.nmonths (at' bd)) (biofuelSources i x) = some .pass :=
  usedBelowDemand_of_within i x fd bd eps heps h.2 hbk hk (C03.feed_round_within_schedule i x fd bd h hany hf hb)

/-- `assert_fewer_calories_round2_than_round3` (not called by the pipeline): sufficient condition on the two totals … -/
theorem validator_fewer_calories_of_le (eps absEps : K) (heps : 0 ≤ eps) (habs : 0 ≤ absEps) (feed2 biofuel2 : List K)
    (foods2 foods3 : List (List K))
    (h : List.Forall₂ (fun a3 a2 => 0 ≤ a2 ∧ a2 ≤ a3) (sumSeries foods3) (sumSeries foods2)) :
    (fewerCaloriesRound2 ⟨false, false⟩ eps absEps feed2 biofuel2 foods2 foods3).ok = true := by
  unfold fewerCaloriesRound2
  simp only [Bool.or_self, Bool.false_eq_true, if_false]
  split_ifs with h1 h2
  · rfl
  · exact absurd h2 (h.length_eq ▸ lt_irrefl _)
  · rw [all_zipWith_of_forall₂ (fun a3 a2 hab => decide_eq_true ?_) h]
    · rfl
    · exact (sub_le_self _ habs).trans ((mul_one_sub_le hab.1 heps).trans hab.2)

/-- `assert_feed_used_round3_below_feed_used_round2` (not called by the pipeline): sufficient condition, and ε must be
    POSITIVE (strict comparison with an absolute ε) … -/
theorem validator_feed_round3_below_round2_of_le (eps : K) (heps : 0 < eps) (s2 s3 : List (List K)) (h3 : s3 ≠ [])
    (h : List.Forall₂ (fun a2 a3 => a3 ≤ a2) (sumSeries s2) (sumSeries s3)) :
    ∃ o, feedRound3BelowRound2 ⟨false, false⟩ eps s2 s3 = some o ∧ o.ok = true := by
  unfold feedRound3BelowRound2
  simp only [Bool.or_self, Bool.false_eq_true, if_false]
  split_ifs with h1 h2 h4
  · exact ⟨_, rfl, rfl⟩
  · exact absurd (List.isEmpty_iff.1 h2) h3
  · exact absurd h.length_eq h4
  · rw [all_zipWith_of_forall₂ (fun a2 a3 hab => decide_eq_true ?_) h]
    · exact ⟨_, rfl, rfl⟩
    · exact (neg_lt_zero.2 heps).trans_le (sub_nonneg.2 hab)

theorem validator_feed_round3_below_round2_zero_eps_counterexample :
    feedRound3BelowRound2 ⟨false, false⟩ (0 : ℚ) [[1, 2]] [[1, 2]] = some .raised ∧
      feedRound3BelowRound2 ⟨false, false⟩ (1/10000 : ℚ) [[1, 2]] [[1, 2]] = some .pass := by
  decide +kernel

/-- `assert_round3_percent_fed_not_lower_than_round1` and `assert_feed_and_biofuel_used_is_zero_if_humans_are_starving`
    can never make a run fail: their tests end in a `print` (the second one raises only when fat or protein is required) -/
theorem validator_round3_not_lower_never_raises (T p1 p3 eps : K) : (round3NotLowerThanRound1 T p1 p3 eps).ok = true := by
  unfold round3NotLowerThanRound1
  split_ifs <;> rfl

theorem validator_feed_zero_if_starving_never_raises (pf : K) (b f : List (List K)) :
    (feedZeroIfStarving ⟨false, false⟩ pf b f).ok = true := by
  unfold feedZeroIfStarving
  simp only [Bool.or_self, Bool.false_eq_true, if_false]
  split_ifs <;> rfl

/-- the four relations BETWEEN rounds are NOT implied by C01/C03/C04/C18 (they are about the optimal solutions of
    three coupled programmes; C03 monitors them per run and D15 is an open finding of that kind).  One instance — crops only,
    two months, need 100: exactly feasible points of the three rounds' programmes, round 2 optimal at its ceilings
    (feed 50 of 50 a month), round 3 charged 250 a month within a demand of 250 (so `assert_feed_used_below_feed_demand`
    passes) and solved to its optimum 50 % — on which
    `assert_fewer_calories_round2_than_round3` raises (1050 < 2100·0.9 − 0.1 kcal a day),
    `assert_feed_used_round3_below_feed_used_round2` raises (250 > 50),
    `assert_round3_percent_fed_not_lower_than_round1` prints (round 1: 300 %, round 3: 50 % < 99.9 %), and
    `assert_feed_and_biofuel_used_is_zero_if_humans_are_starving` prints. -/
theorem validator_round_relations_counterexample :
    (Feasible (buildLP cexI1 .toHumans) cexX1 ∧ Feasible (buildLP cexI2 .toAnimals) cexX2 ∧ Feasible (buildLP cexI3 .toHumans) cexX3) ∧
    (∀ x, Feasible (buildLP cexI3 .toHumans) x → x .objective ≤ 50) ∧ headline cexI3 cexX3 = 50 ∧ headline cexI1 cexX1 = 300 ∧
    usedBelowDemand ⟨false, false⟩ (1/10000 : ℚ) (100 / cexI3.billionKcalsNeeded) [250, 250] (feedSources cexI3 cexX3) = some .pass ∧
    fewerCaloriesRound2 ⟨false, false⟩ (1/10 : ℚ) (1/10) (feedKeq cexI2 2100 cexX2) (biofuelKeq cexI2 2100 cexX2)
        (round2Series cexI2 2100 cexX2) (round3Series cexI3 2100 cexX3) = .raised ∧
    feedRound3BelowRound2 ⟨false, false⟩ (1/10000 : ℚ) (feedSources cexI2 cexX2) (feedSources cexI3 cexX3) = some .raised ∧
    round3NotLowerThanRound1 (100 : ℚ) (headline cexI1 cexX1) (headline cexI3 cexX3) 1 = .warned ∧
    feedZeroIfStarving ⟨false, false⟩ (headline cexI3 cexX3) (biofuelSources cexI3 cexX3) (feedSources cexI3 cexX3) = .warned :=
  ⟨cex_feasible, cex_round3_optimal, by decide +kernel, by decide +kernel, by decide +kernel, by decide +kernel,
    by decide +kernel, by decide +kernel, by decide +kernel⟩

/-- `validator_all_ge_zero_of_feasible`, `validator_used_below_demand_human_round`: the round-3 instance of the
    counter-example satisfies every hypothesis (demand 250 a month) -/
example : Feasible (buildLP cexI3 .toHumans) cexX3 ∧ 0 < cexI3.kcalsMonthly ∧ 0 < cexI3.billionKcalsNeeded ∧
    anyFeedVar cexI3 = true ∧ (∀ m, at' cexI3.feed m ≤ at' [250, 250] m) ∧ 0 ≤ cexI3.seaweedKcals ∧
    ensureAllGe0 ⟨false, false⟩ (reportedFoods cexI3 cexX3 (at' cexI3.cropProd)) = .pass :=
  ⟨cex_feasible.2.2, by decide +kernel, by decide +kernel, rfl,
    fun m => by
      match m with
      | 0 => decide +kernel
      | 1 => decide +kernel
      | m + 2 => exact le_refl _,
    by decide +kernel, by decide +kernel⟩

/-- `validator_used_below_demand_feed_round`: round 2 of the same instance, ceilings 50 within a demand of 250 -/
example : Feasible (buildLP cexI2 .toAnimals) cexX2 ∧ anyFeedVar cexI2 = true ∧
    usedBelowDemand ⟨false, false⟩ (1/10000 : ℚ) (100 / cexI2.billionKcalsNeeded) [250, 250] (feedSources cexI2 cexX2) = some .pass :=
  ⟨cex_feasible.2.1, rfl, by decide +kernel⟩

/-- `validator_optimizer_same_as_sum_of_feasible`: round 3 of the instance with its optimum 50 % and the floors of the later solves -/
example : (∀ x', Feasible (buildLP cexI3 .toHumans) x' → x' .objective ≤ 50) ∧
    Feasible (buildLP cexI3 .toHumans ++ floorRows cexI3 .toHumans 50) cexX3 ∧ cexI3.kcalsMonthly ≠ 0 ∧ 0 < cexI3.nmonths ∧
    optimizerSameAsSum (50 : ℚ) (headline cexI3 cexX3) "ARG" = .pass :=
  ⟨cex_round3_optimal,
    ⟨Proofs.LP.rows_hold_of_all _ _ (by decide +kernel), cexX3_nonneg⟩, by decide +kernel, by decide +kernel, by decide +kernel⟩

/-- `validator_check_constraints_of_feasible` on the same programme with the code's tolerance 1, objective rows skipped -/
example : checkConstraints (1 : ℚ) ["Kcals_Fed_Month_0_Objective_Constraint"] (buildLP cexI3 .toHumans) cexX3 = some .pass := by
  decide +kernel

/-- `validator_meat_dairy_of_redistribute`, `validator_min_consumption_sum_of_handoff`, `validator_usage_priorities_of_handoff`:
    the concrete hand-offs of the C18 examples -/
example : redistribute ([3, 1, 0] : List ℚ) [1, 1, 4] = some [3, 1, 2] ∧
    meatDairyNotDecreasing (1/100 : ℚ) [3, 1, 0] [3, 1, 2] [5, 5, 5] [0, 0, 0] = .pass := by decide +kernel

example : minConsumptionSum ⟨false, false⟩ (1/10000 : ℚ) 2100 (minNeeds (dailyMax 2100 150 100) [[900, 0, 300, 0, 1500, 0, 450, 0, 0]]) = .pass ∧
    usagePriorities ⟨false, false⟩ (1/10000 : ℚ) ([[900, 0, 300, 0, 1500, 0, 450, 0, 0]].map fun row => (fillMonth (2100 : ℚ) row).zip row) = .pass := by
  decide +kernel

/-- `validator_population_of_antitone`, `validator_round2_greater_of_ge`, `validator_fewer_calories_of_le`,
    `validator_feed_round3_below_round2_of_le`: concrete passing inputs -/
example : populationNotIncreasing (1/10 : ℚ) [("pig_population", [50, 40, 40, 0]), ("pig_meat", [1, 9])] = .pass ∧
    round2GreaterThanRound1 (1/100 : ℚ) 100 [("pig_population", [50, 40])] [("pig_population", [60, 45])] = some .pass ∧
    fewerCaloriesRound2 ⟨false, false⟩ (1/10 : ℚ) (1/10) [5] [0] [[1000], [500]] [[1200], [400]] = .pass ∧
    feedRound3BelowRound2 ⟨false, false⟩ (1/10000 : ℚ) [[3], [2]] [[2], [2]] = some .pass := by
  decide +kernel

end Allfed.C16
