import Mathlib.Data.List.Sort
/-!
`List.Nodup` of a long list of strings, for the kernel.  Deciding `Nodup` directly costs `n²/2`
comparisons, each of which encodes both strings anew; here every entry is turned into a number once,
the numbers are sorted, and neighbours are compared.
-/
namespace Allfed.Proofs

/-- The UTF-8 bytes of a string read as one number: digits 1 … 256 to the base 256, so distinct strings
    give distinct numbers.  Nothing below needs that (`List.Nodup.of_map` holds for every function); it
    only means that the test cannot fail on a list without duplicates. -/
def strKey (s : String) : Nat := s.toByteArray.data.toList.foldl (fun a b => a * 256 + (b.toNat + 1)) 0

theorem nodup_of_sorted_keys {α : Type} (key : α → Nat) (l : List α)
    (h : ((l.map key).insertionSort (· ≤ ·)).IsChain (· < ·)) : l.Nodup := by
  refine List.Nodup.of_map key (((l.map key).perm_insertionSort (· ≤ ·)).nodup_iff.mp ?_)
  exact (List.isChain_iff_pairwise.mp h).imp ne_of_lt

end Allfed.Proofs
