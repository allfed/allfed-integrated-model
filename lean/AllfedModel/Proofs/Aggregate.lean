import AllfedModel.Model.Aggregate
import AllfedModel.Proofs.Basic
import Mathlib.Data.List.Nodup
/-!
The multi-country runner of `run_model_no_trade.py` (C15): selection of countries, the loop, the keys
of `results`.
-/
namespace Allfed.Proofs.Aggregate
open Allfed.Aggregate

set_option linter.unusedSectionVars false

theorem runAndSkip_nil : runAndSkip [] = ([], []) := rfl

theorem runAndSkip_allBang (l : List String) (hne : l ≠ []) (h : ∀ c ∈ l, hasBang c = true) :
    runAndSkip l = ([], l.map stripBang) := by
  unfold runAndSkip
  have h1 : l.isEmpty = false := List.isEmpty_eq_false_iff.mpr hne
  have h2 : l.all hasBang = true := List.all_eq_true.mpr h
  have h3 : l.filter hasBang = l := List.filter_eq_self.mpr h
  simp [h1, h2, h3]

theorem runAndSkip_mixed (l : List String) (h : ∃ c ∈ l, hasBang c = false) :
    runAndSkip l = (l.filter (fun c => !hasBang c), []) := by
  unfold runAndSkip
  obtain ⟨c, hc, hb⟩ := h
  have h1 : l.isEmpty = false := List.isEmpty_eq_false_iff.mpr (List.ne_nil_of_mem hc)
  have h2 : l.all hasBang = false := List.all_eq_false.mpr ⟨c, hc, by simp [hb]⟩
  simp [h1, h2]

theorem select_allBang (l table : List String) (hne : l ≠ []) (h : ∀ c ∈ l, hasBang c = true) :
    select l table = table.filter (fun code => !(l.map stripBang).contains code) := by
  unfold select
  rw [runAndSkip_allBang l hne h]
  apply List.filter_congr
  simp [selected]

theorem select_mixed (l table : List String) (h : ∃ c ∈ l, hasBang c = false) :
    select l table = table.filter (fun code => (l.filter (fun c => !hasBang c)).contains code) := by
  unfold select
  rw [runAndSkip_mixed l h]
  obtain ⟨c, hc, hb⟩ := h
  have hne : (l.filter (fun c => !hasBang c)).isEmpty = false :=
    List.isEmpty_eq_false_iff.mpr (List.ne_nil_of_mem (List.mem_filter.mpr ⟨hc, by simp [hb]⟩))
  apply List.filter_congr
  intro a _
  simp only [selected, hne, Bool.false_or, List.contains_nil, Bool.not_false, Bool.and_true]

theorem hasBang_bang_append (x : String) : hasBang ("!" ++ x) = true := by
  unfold hasBang
  simp [String.toList_append]

theorem stripBang_bang_append (x : String) (hx : hasBang x = false) : stripBang ("!" ++ x) = x := by
  unfold stripBang
  unfold hasBang at hx
  have hf : x.toList.filter (fun ch => ch != '!') = x.toList := by
    apply List.filter_eq_self.mpr
    intro a ha
    simp only [bne_iff_ne, ne_eq]
    intro hEq
    subst hEq
    simp [ha] at hx
  simp [String.toList_append, hf]

variable {K : Type} [Field K] [LinearOrder K] [IsStrictOrderedRing K]

theorem cap_eq_min (r : K) : cap r = min 1 r := (min_def 1 r).symm

theorem sum_pop_pos (l : List (K × K)) (hne : l ≠ []) (h : ∀ x ∈ l, 0 < x.1) :
    0 < (l.map Prod.fst).sum :=
  List.sum_pos _ (fun p hp => by obtain ⟨x, hx, rfl⟩ := List.mem_map.mp hp; exact h x hx)
    (by simpa using hne)

/-- the rows that are run and return a number -/
def ranRows (l : List String) (table : List (Country K)) (frac : Country K → Option K) : List (Country K) :=
  table.filter (fun c => selected (runAndSkip l) c.iso3 && (frac c).isSome)
-- `ran l table frac` lists the `(population, fraction)` pairs of exactly these rows, in the same order

theorem ran_cons (l : List String) (c : Country K) (t : List (Country K)) (frac : Country K → Option K) :
    ran l (c :: t) frac =
      (if selected (runAndSkip l) c.iso3 = true then
        (match frac c with | none => [] | some r => [(c.pop, r)]) else []) ++ ran l t frac := by
  unfold ran
  by_cases hs : selected (runAndSkip l) c.iso3 = true
  · cases hf : frac c <;> simp [hs, hf]
  · simp [hs]

theorem foldl_step (l : List String) (frac : Country K → Option K) (table : List (Country K))
    (acc : Outcome K) :
    (table.foldl (step (runAndSkip l) frac) acc).netPop =
      acc.netPop + ((ran l table frac).map Prod.fst).sum ∧
    (table.foldl (step (runAndSkip l) frac) acc).netPopFed =
      acc.netPopFed + ((ran l table frac).map (fun x => x.1 * min 1 x.2)).sum ∧
    (table.foldl (step (runAndSkip l) frac) acc).keys =
      ((ranRows l table frac).map (·.name)).foldl dictInsert acc.keys := by
  induction table generalizing acc with
  | nil => simp [ran, ranRows]
  | cons c t ih =>
    obtain ⟨i1, i2, i3⟩ := ih (step (runAndSkip l) frac acc c)
    rw [List.foldl_cons, ran_cons, i1, i2, i3]
    unfold step ranRows
    by_cases hs : selected (runAndSkip l) c.iso3 = true
    · cases hf : frac c
      · simp [hs, hf]
      · simp [hs, hf, cap_eq_min, add_assoc, mul_comm c.pop]
    · simp [hs]

theorem runLoop_keys_fold (l : List String) (table : List (Country K)) (frac : Country K → Option K) :
    (runLoop l table frac).keys = ((ranRows l table frac).map (·.name)).foldl dictInsert [] :=
  (foldl_step l frac table _).2.2

theorem foldl_dictInsert_eq_append (names acc : List String) (h : (acc ++ names).Nodup) :
    names.foldl dictInsert acc = acc ++ names := by
  induction names generalizing acc with
  | nil => simp
  | cons n t ih =>
    simp only [List.foldl_cons]
    have hdis : ∀ a ∈ acc, ∀ b ∈ n :: t, a ≠ b := (List.nodup_append.mp h).2.2
    have hn : n ∉ acc := fun hmem => hdis n hmem n (by simp) rfl
    have hd : dictInsert acc n = acc ++ [n] := by
      unfold dictInsert
      simp [hn]
    rw [hd, ih (acc ++ [n]) (by simpa using h)]
    simp

theorem dictInsert_nodup (acc : List String) (k : String) (h : acc.Nodup) : (dictInsert acc k).Nodup := by
  unfold dictInsert
  by_cases hk : k ∈ acc
  · simp [hk, h]
  · simp only [List.contains_iff_mem, hk, if_false, ← List.concat_eq_append]
    exact h.concat hk

theorem runLoop_keys_nodup (l : List String) (table : List (Country K)) (frac : Country K → Option K) :
    (runLoop l table frac).keys.Nodup := by
  rw [runLoop_keys_fold]
  exact List.foldlRecOn _ _ List.nodup_nil fun acc h n _ => dictInsert_nodup acc n h

end Allfed.Proofs.Aggregate
