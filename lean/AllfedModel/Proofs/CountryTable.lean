import AllfedModel.Model.CountryTable
import AllfedModel.Proofs.Basic
import Mathlib.Algebra.Order.Field.Power
import Mathlib.Tactic.Linarith
/-!
The exact-decimal row checker of `Model/CountryTable.lean` read in ℚ (C17).
`rowOk r = true` (what the kernel establishes for every row of the generated table, `table_all_ok` in
`Props/C17.lean`) implies the statement `RowSpec r` about the rational numbers the cells denote.
-/
namespace Allfed.Proofs.CountryTable
open Allfed.CountryTable

/-- the rational number an exact decimal denotes -/
def toRat (d : Dec) : ℚ := (d.1 : ℚ) * (10 : ℚ) ^ d.2

theorem toRat_rescale (d : Dec) (e : ℤ) (h : e ≤ d.2) :
    toRat d = ((d.1 * 10 ^ (d.2 - e).toNat : ℤ) : ℚ) * (10 : ℚ) ^ e := by
  have hn : ((d.2 - e).toNat : ℤ) = d.2 - e := Int.toNat_of_nonneg (sub_nonneg.mpr h)
  unfold toRat
  push_cast
  rw [mul_assoc, ← zpow_natCast (10 : ℚ), hn, ← zpow_add₀ (by norm_num : (10 : ℚ) ≠ 0), sub_add_cancel]

theorem scale_fst (a b : Dec) : toRat a = ((Dec.scale a b).1 : ℚ) * (10 : ℚ) ^ (min a.2 b.2) :=
  toRat_rescale a _ (min_le_left _ _)

theorem scale_snd (a b : Dec) : toRat b = ((Dec.scale a b).2 : ℚ) * (10 : ℚ) ^ (min a.2 b.2) :=
  toRat_rescale b _ (min_le_right _ _)

theorem le_iff (a b : Dec) : Dec.le a b = true ↔ toRat a ≤ toRat b := by
  unfold Dec.le
  rw [decide_eq_true_iff, scale_fst a b, scale_snd a b, mul_le_mul_iff_of_pos_right (zpow_pos (by norm_num) _)]
  exact Int.cast_le.symm

theorem lt_iff (a b : Dec) : Dec.lt a b = true ↔ toRat a < toRat b := by
  unfold Dec.lt
  rw [decide_eq_true_iff, scale_fst a b, scale_snd a b, mul_lt_mul_iff_of_pos_right (zpow_pos (by norm_num) _)]
  exact Int.cast_lt.symm

theorem add_spec (a b : Dec) : toRat (Dec.add a b) = toRat a + toRat b := by
  rw [scale_fst a b, scale_snd a b]
  unfold Dec.add toRat
  push_cast
  exact add_mul _ _ _

theorem sum_spec (l : List Dec) : toRat (Dec.sum l) = (l.map toRat).sum := by
  induction l with
  | nil => simp [Dec.sum, toRat]
  | cons a t ih =>
    have : Dec.sum (a :: t) = Dec.add a (Dec.sum t) := rfl
    rw [this, add_spec, ih]
    simp

def CellSpec : Kind → ℚ → Prop
  | .pop, v => 10000 < v ∧ v < 10000000000
  | .qty, v => 0 ≤ v
  | .frac, v => 0 ≤ v ∧ v ≤ 1
  | .season, v => 0 ≤ v ∧ v ≤ 1
  | .cropReduc, v => -1 - 1 / 100000000 ≤ v
  | .grassReduc, v => -1 ≤ v
  | .growth, v => -100 ≤ v
  | .free, _ => True

theorem c_zero : toRat (0, 0) = 0 := by simp [toRat]
theorem c_one : toRat (1, 0) = 1 := by simp [toRat]
theorem c_1e4 : toRat (1, 4) = 10000 := by norm_num [toRat]
theorem c_1e10 : toRat (1, 10) = 10000000000 := by norm_num [toRat]
theorem c_negOne : toRat (-1, 0) = -1 := by simp [toRat]
theorem c_neg100 : toRat (-100, 0) = -100 := by simp [toRat]
theorem c_cropTol : toRat (-100000001, -8) = -1 - 1 / 100000000 := by norm_num [toRat]
theorem c_seasonLo : toRat (999999, -6) = 1 - 1 / 1000000 := by norm_num [toRat]
theorem c_seasonHi : toRat (1000001, -6) = 1 + 1 / 1000000 := by norm_num [toRat]

theorem cellOk_spec (k : Kind) (d : Dec) (h : cellOk k d = true) : CellSpec k (toRat d) := by
  cases k <;> simp only [cellOk, Bool.and_eq_true, le_iff, lt_iff] at h <;> simp only [CellSpec]
  · rw [c_1e4, c_1e10] at h; exact h
  · rw [c_zero] at h; exact h
  · rw [c_zero, c_one] at h; exact h
  · rw [c_zero, c_one] at h; exact h
  · rw [c_cropTol] at h; exact h
  · rw [c_negOne] at h; exact h
  · rw [c_neg100] at h; exact h

theorem cellsOk_spec (ks : List Kind) (cs : List Dec) (h : cellsOk ks cs = true) :
    List.Forall₂ (fun k c => CellSpec k (toRat c)) ks cs := by
  induction ks generalizing cs with
  | nil =>
    cases cs with
    | nil => exact List.Forall₂.nil
    | cons c t => simp [cellsOk] at h
  | cons k ks ih =>
    cases cs with
    | nil => simp [cellsOk] at h
    | cons c cs =>
      simp only [cellsOk, Bool.and_eq_true] at h
      exact List.Forall₂.cons (cellOk_spec k c h.1) (ih cs h.2)

structure RowSpec (r : Row) : Prop where
  iso3_present : r.iso3 ≠ ""
  name_present : r.name ≠ ""
  cells : List.Forall₂ (fun k c => CellSpec k (toRat c)) kinds r.cells
  season : |((seasonCells kinds r.cells).map toRat).sum - 1| ≤ 1 / 1000000

theorem rowOk_spec (r : Row) (h : rowOk r = true) : RowSpec r := by
  unfold rowOk at h
  simp only [Bool.and_eq_true, bne_iff_ne, ne_eq] at h
  obtain ⟨⟨⟨h1, h2⟩, h3⟩, h4⟩ := h
  refine ⟨h1, h2, cellsOk_spec _ _ h3, ?_⟩
  unfold seasonOk at h4
  simp only [Bool.and_eq_true, le_iff, sum_spec, c_seasonLo, c_seasonHi] at h4
  rw [abs_le]
  constructor <;> linarith [h4.1, h4.2]

theorem perm_of_positions (codes expected : List String) (pos : List Nat)
    (h1 : expected = pos.map (fun i => codes.getD i ""))
    (h2 : pos.Perm (List.range codes.length)) : expected.Perm codes := by
  rw [h1]
  have := List.Perm.map (fun i => codes.getD i "") h2
  rwa [Allfed.Proofs.map_getD_range codes ""] at this

end Allfed.Proofs.CountryTable
