import AllfedModel.Proofs.Basic
import Mathlib.Algebra.BigOperators.Ring.List
/-!
A weighted mean lies between any two bounds of its values: the aggregate fed fraction of C15 and the
averaged percentage of C17 are both instances.
-/
namespace Allfed.Proofs

variable {K : Type} [Field K] [LinearOrder K] [IsStrictOrderedRing K]

theorem weighted_mean_bounds {ι : Type} (l : List ι) (v w : ι → K) (lo hi : K)
    (hw : ∀ x ∈ l, 0 ≤ w x) (hv : ∀ x ∈ l, lo ≤ v x ∧ v x ≤ hi) (hpos : 0 < (l.map w).sum) :
    lo ≤ (l.map fun x => v x * w x).sum / (l.map w).sum ∧
    (l.map fun x => v x * w x).sum / (l.map w).sum ≤ hi := by
  -- termwise `lo · w x ≤ v x · w x ≤ hi · w x`, summed
  rw [le_div_iff₀ hpos, div_le_iff₀ hpos, ← List.sum_map_mul_left, ← List.sum_map_mul_left]
  exact ⟨List.sum_le_sum fun x hx => mul_le_mul_of_nonneg_right (hv x hx).1 (hw x hx),
    List.sum_le_sum fun x hx => mul_le_mul_of_nonneg_right (hv x hx).2 (hw x hx)⟩

end Allfed.Proofs
