import AllfedModel.Proofs.Supply.Series
/-!
What the theorems of `Props/C08.lean` about the series other than crops and greenhouses need beyond
`Series.lean`: the code-shaped lists brought to the form `(List.range n).map f`, and the step schedules of SCP
and sugar as `stairs`.
-/
namespace Allfed.Proofs.Supply
open Allfed.Supply

set_option linter.unusedSectionVars false

variable {K : Type} [Field K] [LinearOrder K] [IsStrictOrderedRing K]

theorem yearlyFish_length : (yearlyFishReduction : List K).length = 16 := rfl

theorem grassTons_eq (m : Nat) (base : K) (ratio : Nat → K) :
    grassTons (12 * (m + 2)) base ratio
      = (List.range (12 * (m + 2))).map fun i => ratio (grassYear (m + 2) i + 1) * base := by
  unfold grassTons
  rw [show 12 * (m + 2) / 12 = m + 1 + 1 by omega, ← List.flatMap_eq_foldl, List.range'_succ,
    List.range'_concat, List.flatMap_cons, List.flatMap_append, List.flatMap_singleton,
    List.range'_eq_map_range, List.flatMap_map, ← List.append_assoc]
  refine Eq.trans ?_ (yearBlocks_eq (fun k => ratio (k + 1) * base) m)
  refine congrArg₂ (· ++ ·) (congrArg₂ (· ++ ·) ?_ (List.flatMap_congr fun k hk => ?_)) ?_
  · -- year 1: eight months
    rw [if_pos rfl]
  · -- the middle years: twelve months each
    have := List.mem_range.mp hk
    rw [if_neg (by omega), if_neg (by omega), show 1 + 1 + k = k + 1 + 1 by omega]
  · -- the last year: sixteen months
    rw [if_neg (by omega), if_pos (by omega), show 1 + 1 + 1 * m = m + 1 + 1 by omega]

theorem grassTons_twelve (base : K) (ratio : Nat → K) : grassTons 12 base ratio = List.replicate 8 (ratio 1 * base) := by
  unfold grassTons
  simp

theorem tonsToKcals_eq : (tonsToKcals : K) = 4000 := by
  unfold tonsToKcals; norm_num

/-- `bounds`: the `assert` "Error: Unreasonable ratio of grass production" -/
structure GrassWF (n : Nat) (ratios : List K) : Prop where
  years : 12 * (n / 12) = n
  two : 24 ≤ n
  enough : n / 12 ≤ ratios.length
  bounds : ∀ r ∈ ratios.take (n / 12), 0 ≤ r ∧ r ≤ 10000

theorem scpStep_eq : scpStep = stairs [(12, 0), (17, 2), (18, 4), (23, 7), (24, 9), (30, 11), (31, 13)] 15 := rfl

theorem scpStep_sorted :
    (([(12, 0), (17, 2), (18, 4), (23, 7), (24, 9), (30, 11), (31, 13)] : List (Nat × Nat)).map Prod.snd
      ++ [15]).Pairwise (· ≤ ·) := by
  decide

theorem scpStep_mono : Monotone scpStep := scpStep_eq ▸ stairs_mono _ _ scpStep_sorted

theorem scpStep_le (i : Nat) : scpStep i ≤ 15 := scpStep_eq ▸ stairs_le _ _ scpStep_sorted i

/-- the level of the schedule, in percent of global needs -/
def scpLevel (d i : Nat) : Nat := if i < 2 * d then 0 else scpStep (i - 2 * d)

/-- the 31 months of steps by evaluation, the plateau because the schedule has reached its last level -/
theorem scpPercentList_eq (d : Nat) : scpPercentList d = (List.range (2 * d + 1031)).map (scpLevel d) := by
  have head : ∀ t, List.replicate 12 0 ++ (List.replicate 5 2 ++ ([4] ++ (List.replicate 5 7 ++ ([9] ++
      (List.replicate 6 11 ++ ([13] ++ t)))))) = (List.range 31).map scpStep ++ t := fun _ => rfl
  have plateau : List.replicate 1000 15 = (List.range 1000).map fun i => scpStep (i + 31) :=
    (replicate_eq_map_range _ _).trans (map_range_congr fun i _ =>
      le_antisymm (show scpStep 31 ≤ _ from scpStep_mono (Nat.le_add_left 31 i)) (scpStep_le _))
  unfold scpPercentList
  simp only [List.append_assoc]
  rw [head, plateau, map_range_append, ← List.append_assoc, List.replicate_append_replicate, ← two_mul,
    replicate_eq_map_range, map_range_append]
  refine map_range_congr fun i _ => ?_
  unfold scpLevel
  split_ifs
  · rfl
  · rfl
  · rw [Nat.sub_add_cancel (by omega)]

theorem scpLevel_mono (d : Nat) : Monotone (scpLevel d) := delay_mono scpStep_mono (Nat.zero_le _)

theorem scpLevel_zero (d i : Nat) (h : i < 2 * d + 12) : scpLevel d i = 0 :=
  delay_eq_of_lt (fun k (hk : k < 12) => by unfold scpStep; rw [if_pos hk]) h

theorem scpLevel_le (d i : Nat) : scpLevel d i ≤ 15 := delay_le (Nat.zero_le _) scpStep_le i

/-- the constant that turns a percentage of global needs into billion kcals for this country -/
def industrialFactor (slope gp km fr wd : K) : K :=
  1 / (1 - 0.12) * slope / 100.0 * (gp * km / 1e9) * fr * (1 - wd / 100.0)

theorem industrialFactor_nonneg (slope gp km fr wd : K) (h1 : 0 ≤ slope) (h2 : 0 ≤ gp) (h3 : 0 ≤ km) (h4 : 0 ≤ fr)
    (h5 : wd ≤ 100) : 0 ≤ industrialFactor slope gp km fr wd := by
  unfold industrialFactor
  have a1 : (0 : K) ≤ 1 / (1 - 0.12) := by norm_num
  have a2 : (0 : K) ≤ 100.0 := by norm_num
  have a3 : (0 : K) ≤ 1e9 := by norm_num
  exact mul_nonneg (mul_nonneg (mul_nonneg (div_nonneg (mul_nonneg a1 h1) a2)
    (div_nonneg (mul_nonneg h2 h3) a3)) h4) (wasteFactor_nonneg wd h5)

theorem scpSpec_eq (d : Nat) (slope gp km fr wd : K) (i : Nat) :
    scpSpec true d slope gp km fr wd i = (scpLevel d i : K) * industrialFactor slope gp km fr wd := by
  unfold scpSpec scpLevel industrialFactor
  rw [if_pos rfl, sci_100]
  ring

theorem scpSpec_off (d : Nat) (slope gp km fr wd : K) (i : Nat) : scpSpec false d slope gp km fr wd i = 0 :=
  if_neg Bool.false_ne_true

theorem csStep_eq : (csStep : Nat → K) = stairs [(5, 0.0), (8, 4.7)] 9.5 := rfl

theorem csStep_sorted : (([(5, 0.0), (8, 4.7)] : List (Nat × K)).map Prod.snd ++ [9.5]).Pairwise (· ≤ ·) := by
  norm_num

theorem csStep_mono : Monotone (csStep : Nat → K) := csStep_eq (K := K) ▸ stairs_mono _ _ csStep_sorted

theorem csStep_le (i : Nat) : (csStep i : K) ≤ 9.5 := csStep_eq (K := K) ▸ stairs_le _ _ csStep_sorted i

theorem csStep_zero (k : Nat) (h : k < 5) : (csStep k : K) = 0 := by
  unfold csStep; rw [if_pos h]; norm_num

/-- the level of the sugar schedule, in percent of global needs -/
def csLevel (d i : Nat) : K := if i < d then 0 else csStep (i - d)

theorem csPercentList_eq (d : Nat) : (csPercentList d : List K) = (List.range (d + 1008)).map (csLevel d) := by
  unfold csPercentList
  simp only [replicate_eq_map_range, map_range_append]
  refine map_range_congr fun i _ => ?_
  unfold csLevel csStep
  split_ifs <;> first | rfl | omega

theorem csLevel_mono (d : Nat) : Monotone (csLevel d : Nat → K) :=
  delay_mono csStep_mono (csStep_zero 0 (by norm_num)).ge

theorem csLevel_zero (d i : Nat) (h : i < d + 5) : (csLevel d i : K) = 0 := delay_eq_of_lt csStep_zero h

theorem csLevel_nonneg (d i : Nat) : (0 : K) ≤ csLevel d i :=
  (csLevel_zero d 0 (by omega)).ge.trans (csLevel_mono d (Nat.zero_le i))

theorem csLevel_le (d i : Nat) : (csLevel d i : K) ≤ 9.5 := delay_le (by norm_num) csStep_le i

theorem csSpec_eq (d : Nat) (slope gp km fr wd : K) (i : Nat) :
    csSpec true d slope gp km fr wd i = csLevel d i * industrialFactor slope gp km fr wd := by
  unfold csSpec csLevel industrialFactor
  rw [if_pos rfl, sci_100]
  ring

theorem csSpec_off (d : Nat) (slope gp km fr wd : K) (i : Nat) : csSpec false d slope gp km fr wd i = 0 :=
  if_neg Bool.false_ne_true

/-- the uncapped area -/
def seaweedRaw (d : Nat) (newFrac : K) (i : Nat) : K :=
  if i < d then seaweedInitBuilt newFrac else ((i - d : Nat) : K) * seaweedNewPerMonth newFrac + seaweedInitBuilt newFrac

theorem seaweedAreaSpec_eq (add : Bool) (delay : Nat) (newFrac maxFrac : K) (i : Nat) :
    seaweedAreaSpec add delay newFrac maxFrac i
      = min (seaweedMaxArea maxFrac) (seaweedRaw (if add then delay else 1000) newFrac i) :=
  (min_def_lt _ _).symm

theorem seaweedRaw_mono (d : Nat) (newFrac : K) (h : 0 ≤ newFrac) : Monotone (seaweedRaw d newFrac) := by
  have hs : 0 ≤ seaweedNewPerMonth newFrac := mul_nonneg (by norm_num) h
  refine delay_mono (f := fun k : Nat => (k : K) * seaweedNewPerMonth newFrac + seaweedInitBuilt newFrac) ?_ ?_
  · intro i j hij; dsimp only; gcongr
  · simp

theorem seaweedRaw_before (d : Nat) (newFrac : K) (i : Nat) (h : i ≤ d) :
    seaweedRaw d newFrac i = seaweedInitBuilt newFrac :=
  delay_eq_of_lt (m := 1) (f := fun k : Nat => (k : K) * seaweedNewPerMonth newFrac + seaweedInitBuilt newFrac)
    (fun k hk => by rw [Nat.lt_one_iff.mp hk]; simp) (Nat.lt_succ_of_le h)

theorem npow_eq_pow (x : K) (n : Nat) : npow x n = x ^ n := by
  induction n with
  | zero => simp [npow]
  | succ n ih => rw [npow, ih, pow_succ]

theorem growthFactor_eq (p : K) : growthFactor p = 100 * (p / 100 + 1) ^ 30 := by
  unfold growthFactor
  rw [npow_eq_pow, sci_100]

theorem foldl_pmin_scale (k : K) (hk : 0 ≤ k) (l : List K) (a : K) :
    (l.map (k * ·)).foldl pmin (k * a) = k * l.foldl pmin a := by
  induction l generalizing a with
  | nil => rfl
  | cons x t ih => simp only [List.map_cons, List.foldl_cons, pmin_scale k a x hk, ih]

theorem listMin_scale (k : K) (hk : 0 ≤ k) (l : List K) : listMin (l.map (k * ·)) = k * listMin l := by
  cases l with
  | nil => simp [listMin]
  | cons x t => simp only [List.map_cons, listMin, foldl_pmin_scale k hk]

end Allfed.Proofs.Supply
