import AllfedModel.Proofs.Supply.Series
import Mathlib.Tactic.FieldSimp
import Mathlib.Tactic.Linarith
import Mathlib.Tactic.Positivity
/-!
Outdoor crops and greenhouses (C08, C09).  `cropsAndGreenhouses_ok`: `init_outdoor_crops` followed by
`init_greenhouse_params` returns, for every well-formed input (`CropWF`, `GhWF`: at most 120 months, at least
42 with greenhouses), the closed-form series of `Model/Supply.lean`.  Sign, relocation, expansion and scaling
are then pointwise facts about those closed forms.
-/
namespace Allfed.Proofs.Supply
open Allfed.Supply

set_option linter.unusedSectionVars false

variable {K : Type} [Field K] [LinearOrder K] [IsStrictOrderedRing K]

theorem allMonthsReductions_eq (y1 : K) (r : Nat → K) :
    allMonthsReductions y1 r
      = (List.range 120).map fun i => if i < 8 then y1 else r (Nat.min 9 (1 + (i - 8) / 12)) := by
  unfold allMonthsReductions
  simp only [linspace_const, List.dropLast_replicate]
  -- year 0 carries `y1`, year `k ≥ 1` carries `r k`; `grassYear 10` is the model year of the table
  refine (yearBlocks_eq (fun k => if k = 0 then y1 else r k) 8).trans (map_range_congr fun i _ => ?_)
  unfold grassYear
  by_cases h8 : i < 8
  · simp only [h8, if_true]
  · have : Nat.min (8 + 2 - 1) (1 + (i - 8) / 12) ≠ 0 := by simp only [Nat.min_def]; split_ifs <;> omega
    simp only [h8, if_false, this]

theorem length_allMonthsReductions (y1 : K) (r : Nat → K) : (allMonthsReductions y1 r).length = 120 := by
  rw [allMonthsReductions_eq, List.length_map, List.length_range]

/-- the assumptions on the real-exponent power `x ** e` (DESIGN §3) -/
structure PowOK (pow : K → K → K) : Prop where
  ge : ∀ x e, 0 ≤ x → x ≤ 1 → 0 < e → e ≤ 1 → x ≤ pow x e
  le_one : ∀ x e, 0 ≤ x → x ≤ 1 → 0 < e → e ≤ 1 → pow x e ≤ 1
  one : ∀ x, pow x 1 = x

/-- every clause is a guard of the code (`assert`, index or division) or the sign of a physical quantity -/
structure CropWF (c : CropIn K) : Prop where
  start : 1 ≤ c.startMonth ∧ c.startMonth ≤ 12
  season_len : c.season.length = 12
  ratios_len : c.ratios.length = 10
  season_nonneg : ∀ s ∈ c.season, 0 ≤ s
  season_sum : (lsum (c.season.take 12) < 1.001 ∧ 0.999 < lsum (c.season.take 12)) ∨ lsum (c.season.take 12) = 0
  hb_le : harvestBeforeMay c.country c.season ≤ 1
  baseline : 0 ≤ c.baseline
  ratios : ∀ r ∈ c.ratios, -(5e-9) < r
  r1 : ratioAt c.ratios 0 < 101
  exponent : c.relocation = true → 0 < c.exponent ∧ c.exponent ≤ 1
  horizon : c.nmonths ≤ 120
  ramp : 1 < c.ratioArea → c.yearsToReach * 12 ≠ c.harvestDuration ∧
    ¬ (c.harvestDuration < c.yearsToReach * 12 ∧ c.nmonths < c.yearsToReach * 12)

theorem monthKcals_nonneg {s b : K} (hs : 0 ≤ s) (hb : 0 ≤ b) : 0 ≤ s * annualYield b * 4e6 / 1e9 := by
  have : 0 ≤ annualYield b := mul_nonneg hb (by unfold seedPercent; norm_num)
  positivity

theorem harvestBeforeMay_nonneg (country : String) (season : List K) (h : ∀ s ∈ season, 0 ≤ s) :
    0 ≤ harvestBeforeMay country season := by
  unfold harvestBeforeMay
  split_ifs <;> first | exact zero_le_one | exact le_rfl | skip
  exact lsum_nonneg _ (fun x hx => h x (List.mem_of_mem_take hx))

theorem year1Spec_nonneg (r1 : K) (season : List K) (country : String)
    (hb1 : harvestBeforeMay country season ≤ 1) : 0 ≤ year1Spec r1 season country := by
  unfold year1Spec
  dsimp only
  generalize (if r1 - harvestBeforeMay country season < 0 then (0 : K) else r1 - harvestBeforeMay country season) = a
  split_ifs with h1 h2
  · exact zero_le_one
  · exact div_nonneg h1.le (sub_nonneg.mpr hb1)
  · exact le_rfl

theorem year1Ratio_ok (r1 : K) (season : List K) (country : String) (hr : r1 < 101)
    (hb0 : 0 ≤ harvestBeforeMay country season) (hb1 : harvestBeforeMay country season ≤ 1) :
    year1Ratio r1 season country = .ok (year1Spec r1 season country) := by
  unfold year1Ratio year1Spec
  have hlt : (if r1 < 0 then (0 : K) else r1) < 101.0 := by
    rw [sci_101]; split_ifs
    · norm_num
    · exact hr
  simp only [hlt, not_true_eq_false, if_false, sub_nonneg.mpr hb1, sub_le_self _ hb0]
  split_ifs <;> rfl

theorem clampTiny_ok (x : K) (h : -(5e-9) < x) : clampTiny x = .ok (if x ≤ 0 then 0 else x) := by
  unfold clampTiny
  by_cases hx : x ≤ 0
  · simp [hx, h]
  · simp [hx, (not_le.mp hx).le]

theorem monthSpec_nonneg (c : CropIn K) (i : Nat) (hs : ∀ s ∈ c.season, 0 ≤ s) (hb : 0 ≤ c.baseline) :
    0 ≤ monthSpec c i :=
  monthKcals_nonneg (getD_nonneg _ hs _) hb

theorem cycle_nonneg (c : CropIn K) (hs : ∀ s ∈ c.season, 0 ≤ s) (hb : 0 ≤ c.baseline) :
    ∀ x ∈ monthsCycle c.startMonth c.baseline c.season, 0 ≤ x := by
  intro x hx
  have hj : ∀ y ∈ monthsFromJanuary c.baseline c.season, 0 ≤ y := by
    intro y hy
    obtain ⟨s, hs1, rfl⟩ := List.mem_map.mp hy
    exact monthKcals_nonneg (hs s (List.mem_of_mem_take hs1)) hb
  rcases List.mem_append.mp hx with h | h
  · exact hj x (List.mem_of_mem_drop h)
  · exact hj x (List.mem_of_mem_take h)

theorem cycle_getD (c : CropIn K) (i : Nat) (hl : c.season.length = 12)
    (hst : 1 ≤ c.startMonth ∧ c.startMonth ≤ 12) :
    (monthsCycle c.startMonth c.baseline c.season).getD (i % 12) 0 = monthSpec c i := by
  unfold monthsCycle monthSpec
  have hjl : (monthsFromJanuary c.baseline c.season).length = 12 := by
    unfold monthsFromJanuary; simp [hl]
  rw [getD_rotate _ 0 (c.startMonth - 1) (i % 12) hjl (by omega) (Nat.mod_lt _ (by norm_num)),
    show (c.startMonth - 1 + i % 12) % 12 = (c.startMonth - 1 + i) % 12 by omega]
  unfold monthsFromJanuary
  rw [List.getD_eq_getElem?_getD, List.getD_eq_getElem?_getD, List.getElem?_map, List.getElem?_take,
    if_pos (Nat.mod_lt _ (by norm_num))]
  cases c.season[(c.startMonth - 1 + i) % 12]? <;> simp

theorem reductions_getElem? (c : CropIn K) (i : Nat) (hi : i < 120) :
    (allMonthsReductions (year1Spec (ratioAt c.ratios 0) c.season c.country) (ratioAt c.ratios))[i]?
      = some (ratioYearRaw c i) := by
  rw [allMonthsReductions_eq, getElem?_map_range, if_pos hi]
  rfl

theorem ratioYearSpec_nonneg (c : CropIn K) (i : Nat) : 0 ≤ ratioYearSpec c i := by
  unfold ratioYearSpec
  split_ifs with h
  · exact le_rfl
  · exact (not_le.mp h).le

theorem expSpec_range (c : CropIn K) (w : CropWF c) : 0 < expSpec c ∧ expSpec c ≤ 1 := by
  unfold expSpec
  split_ifs with h
  · exact w.exponent h
  · exact ⟨zero_lt_one, le_rfl⟩

theorem le_relocGain (pow : K → K → K) (hp : PowOK pow) (e x : K) (he : 0 < e ∧ e ≤ 1) (hx : 0 ≤ x) :
    x ≤ relocGain pow e x := by
  unfold relocGain
  split_ifs with h
  · exact le_rfl
  · exact hp.ge x e hx (not_lt.mp h) he.1 he.2

theorem relocGain_nonneg (pow : K → K → K) (hp : PowOK pow) (e x : K) (he : 0 < e ∧ e ≤ 1) (hx : 0 ≤ x) :
    0 ≤ relocGain pow e x := le_trans hx (le_relocGain pow hp e x he hx)

/-! the body of the two loops over the reduction table (`monthGrown`, `ghMonth`), for any month value `m` -/

theorem mul_relocGain (pow : K → K → K) (m e x : K) :
    (if 1 < x then m * x else m * pow x e) = m * relocGain pow e x := by
  unfold relocGain; split_ifs <;> rfl

theorem clamp_reduction (c : CropIn K) (w : CropWF c) (i : Nat) :
    clampTiny (ratioYearRaw c i) = .ok (ratioYearSpec c i) := by
  refine clampTiny_ok _ ?_
  have he : -(5e-9 : K) < 0 := by norm_num
  unfold ratioYearRaw
  split_ifs
  · exact he.trans_le (year1Spec_nonneg _ _ _ w.hb_le)
  · exact getD_of_forall_mem w.ratios he _

/-- the `assert` "ERROR: Relocation has somehow decreased crop production!" passes -/
theorem mul_ratio_le_mul_relocGain (pow : K → K → K) (hp : PowOK pow) (c : CropIn K) (w : CropWF c) (m : K)
    (hm : 0 ≤ m) (i : Nat) : m * ratioYearSpec c i ≤ m * relocGain pow (expSpec c) (ratioYearSpec c i) :=
  mul_le_mul_of_nonneg_left (le_relocGain pow hp _ _ (expSpec_range c w) (ratioYearSpec_nonneg c i)) hm

theorem monthGrown_ok (pow : K → K → K) (hp : PowOK pow) (c : CropIn K) (w : CropWF c) (i : Nat) (hi : i < 120) :
    monthGrown pow (monthsCycle c.startMonth c.baseline c.season)
        (allMonthsReductions (year1Spec (ratioAt c.ratios 0) c.season c.country) (ratioAt c.ratios))
        (expSpec c) i
      = .ok (monthSpec c i * relocGain pow (expSpec c) (ratioYearSpec c i), monthSpec c i * ratioYearSpec c i) := by
  unfold monthGrown
  rw [reductions_getElem? c i hi, cycle_getD c i w.season_len w.start]
  simp only [clamp_reduction c w, mul_relocGain]
  rw [if_pos (mul_ratio_le_mul_relocGain pow hp c w _ (monthSpec_nonneg c i w.season_nonneg w.baseline) i)]

theorem ghMonth_ok (pow : K → K → K) (hp : PowOK pow) (c : CropIn K) (w : CropWF c) (monthly : K)
    (hm : 0 ≤ monthly) (i : Nat) (hi : i < 120) :
    ghMonth pow monthly
        (allMonthsReductions (year1Spec (ratioAt c.ratios 0) c.season c.country) (ratioAt c.ratios))
        (expSpec c) i
      = .ok (monthly * relocGain pow (expSpec c) (ratioYearSpec c i)) := by
  unfold ghMonth
  rw [reductions_getElem? c i hi]
  simp only [clamp_reduction c w, mul_relocGain]
  rw [if_pos (mul_ratio_le_mul_relocGain pow hp c w _ hm i)]

theorem assignReduction_ok (pow : K → K → K) (hp : PowOK pow) (c : CropIn K) (w : CropWF c) :
    assignReduction pow c.nmonths (monthsCycle c.startMonth c.baseline c.season)
        (allMonthsReductions (year1Spec (ratioAt c.ratios 0) c.season c.country) (ratioAt c.ratios)) (expSpec c)
      = .ok ((List.range c.nmonths).map (fun i => monthSpec c i * relocGain pow (expSpec c) (ratioYearSpec c i)),
             (List.range c.nmonths).map (noRelocSpec c)) := by
  unfold assignReduction
  rw [mapE_ok _ (fun i => (monthSpec c i * relocGain pow (expSpec c) (ratioYearSpec c i),
      monthSpec c i * ratioYearSpec c i)) _
    (fun i hi => monthGrown_ok pow hp c w i (by have := List.mem_range.mp hi; have := w.horizon; omega))]
  simp only [List.map_map]
  rfl

/-- closed form of the ramp array -/
def rampFn (N total : Nat) (maxv : K) (i : Nat) : K :=
  if total ≤ i then maxv
  else if N ≤ i then 1 + ((i - N : Nat) : K) * ((maxv - 1) / ((total : K) - (N : K))) else 1

theorem rampFn_eq (N total : Nat) (maxv : K) : rampFn N total maxv = ramp N total 1 maxv := rfl

theorem areaRamp_ok (n N total : Nat) (maxv : K) (h1 : total ≠ N) (h2 : ¬ (N < total ∧ n < total)) :
    areaRamp n N total maxv = .ok ((List.range n).map (ramp N total 1 maxv)) := by
  unfold areaRamp
  rw [if_neg h1, if_neg h2]
  dsimp only
  rw [replicate_eq_map_range, foldl_set_map_range, take_map_range, replicate_eq_map_range, map_range_append,
    show min total n + (n - total) = n by omega]
  refine congrArg _ (map_range_congr fun i hi => ?_)
  unfold ramp
  by_cases ht : total ≤ i
  · rw [if_neg (by omega), if_pos ht]
  · rw [if_pos (by omega), if_neg ht]
    split_ifs <;> first | rfl | omega

theorem areaRampSpec_eq (c : CropIn K) (i : Nat) :
    areaRampSpec c i = if 1 < c.ratioArea then ramp c.harvestDuration (c.yearsToReach * 12) 1 c.ratioArea i else 1 :=
  rfl

theorem areaRampSpec_ge_one (c : CropIn K) (i : Nat) : 1 ≤ areaRampSpec c i := by
  rw [areaRampSpec_eq]
  split_ifs with h
  · exact le_ramp h.le
  · exact le_rfl

/-- the shape of the object `calculate_monthly_production` leaves behind -/
def cropState (pow : K → K → K) (c : CropIn K) : CropState K :=
  ⟨monthsCycle c.startMonth c.baseline c.season,
   allMonthsReductions (year1Spec (ratioAt c.ratios 0) c.season c.country) (ratioAt c.ratios),
   expSpec c, (List.range c.nmonths).map (grownSpec pow c), (List.range c.nmonths).map (noRelocSpec c)⟩

theorem monthlyProduction_ok (pow : K → K → K) (hp : PowOK pow) (c : CropIn K) (w : CropWF c) :
    monthlyProduction pow c = .ok (cropState pow c) := by
  unfold monthlyProduction cropState
  have hsum : (lsum (c.season.take 12) < 1.001 ∧ 0.999 < lsum (c.season.take 12)) ∨
      (lsum (c.season.take 12) ≤ 0 ∧ 0 ≤ lsum (c.season.take 12)) :=
    w.season_sum.imp id fun h => ⟨h.le, h.ge⟩
  rw [if_neg (by rw [w.season_len]; omega), if_neg (by rw [w.ratios_len]; omega)]
  simp only [hsum, not_true_eq_false, if_false]
  rw [year1Ratio_ok _ _ _ w.r1 (harvestBeforeMay_nonneg _ _ w.season_nonneg) w.hb_le]
  dsimp only
  rw [show (if c.relocation = true then c.exponent else 1) = expSpec c from rfl, assignReduction_ok pow hp c w]
  dsimp only
  by_cases hr : 1 < c.ratioArea
  · rw [if_pos hr, areaRamp_ok _ _ _ _ (w.ramp hr).1 (w.ramp hr).2]
    dsimp only
    rw [zipWith_map_range]
    refine congrArg _ (congrArg₂ _ (map_range_congr fun i _ => ?_) rfl)
    unfold grownSpec
    rw [areaRampSpec_eq, if_pos hr]
  · rw [if_neg hr]
    refine congrArg _ (congrArg₂ _ (map_range_congr fun i _ => ?_) rfl)
    unfold grownSpec
    rw [areaRampSpec_eq, if_neg hr, mul_one]

theorem cropProduction_ok (c : CropIn K) (G R F : Nat → K) :
    cropProduction c ((List.range c.nmonths).map G) ((List.range c.nmonths).map R) ((List.range c.nmonths).map F)
      = (List.range c.nmonths).map fun i =>
          if c.addOutdoor then
            (if c.relocation ∧ c.harvestDuration + c.rotationDelay ≤ i then G i else R i) * (1 - F i)
              * (1 - c.waste / 100.0)
          else 0 := by
  unfold cropProduction
  simp only [List.map_take, List.map_drop, ← List.take_zipWith, ← List.drop_zipWith, List.map_map,
    zipWith_map_range, take_append_drop_map_range, replicate_eq_map_range]
  -- every branch of the code is now one `(List.range _).map _`, mapped once more by the waste factor
  split_ifs with hA hR <;> rw [List.map_map] <;> refine map_range_congr fun i _ => ?_
  · -- outdoor growing with relocation: `i < hd` in the code, `hd ≤ i` in the closed form
    simp only [Function.comp, hR, true_and, ← not_lt]
    split_ifs <;> rfl
  · -- outdoor growing without relocation
    simp only [Function.comp, hR, Bool.false_eq_true, false_and, if_false]
  · -- no outdoor growing
    exact zero_mul _

theorem ghAreaSpec_eq (delay : Nat) (limit : K) :
    ghAreaSpec delay limit = ramp (delay + 5) (delay + 5 + 36) 0 limit := by
  funext i
  unfold ghAreaSpec ramp
  rw [show ((delay + 5 + 36 : Nat) : K) - ((delay + 5 : Nat) : K) = 36.0 by push_cast; norm_num, sub_zero, zero_add]
  split_ifs <;> first | rfl | omega

theorem ghAreaList_ok (n delay : Nat) (limit : K) (hn : 42 ≤ n) :
    ghAreaList n n delay limit = (List.range n).map (ghAreaSpec delay limit) := by
  unfold ghAreaList
  rw [linspace_const, linspace_const, linspace_const, linspace_eq 0 limit 37 (by norm_num)]
  simp only [replicate_eq_map_range, map_range_append]
  rw [take_map_range_of_le _ (by omega)]
  refine map_range_congr fun i _ => ?_
  unfold ghAreaSpec
  rw [show (((37 - 1 : Nat) : K)) = 36.0 by norm_num, sub_zero, add_zero]
  split_ifs <;> first | rfl | omega | skip
  -- the last point of the `linspace`: 36 steps of `limit / 36`
  rw [show i - (delay + 5) = 36 by omega]; norm_num; field_simp

structure GhWF (n : Nat) (g : GhIn K) : Prop where
  total_nonneg : 0 ≤ ghTotal g
  /-- `assert len(outdoor_crops.KCALS_GROWN) >= 42` -/
  horizon : g.addGreenhouses = true → ¬ noCropland g → 42 ≤ n
  /-- a zero cropland comes from the country's share being zero (otherwise the code asserts) -/
  frac : noCropland g → g.cropAreaFraction = 0

theorem ghTotal_pos (g : GhIn K) (ht : 0 ≤ ghTotal g) (hz : ¬ noCropland g) : 0 < ghTotal g :=
  lt_of_le_of_ne ht fun h => hz ⟨h.ge, h.le⟩

theorem monthlyPerHa_nonneg (c : CropIn K) (w : CropWF c) (g : GhIn K) (hpos : 0 < ghTotal g) :
    0 ≤ lsum (monthsCycle c.startMonth c.baseline c.season) / 12.0 / ghTotal g := by
  have := lsum_nonneg _ (cycle_nonneg c w.season_nonneg w.baseline)
  positivity

theorem ghOut_off (pow : K → K → K) (c : CropIn K) (g : GhIn K) (h : ¬ (g.addGreenhouses = true ∧ ¬ noCropland g))
    (n : Nat) :
    (⟨List.replicate n 0, List.replicate n 0, List.replicate n 0, List.replicate n 0⟩ : GhOut K)
      = ⟨(List.range n).map (ghAreaSpec' g), (List.range n).map (ghFractionSpec g),
         (List.range n).map (ghYieldSpec pow c g), (List.range n).map (ghCropsSpec pow c g)⟩ := by
  rw [replicate_eq_map_range]
  congr 1 <;> refine map_range_congr fun i _ => ?_
  · unfold ghAreaSpec'; rw [if_neg h]
  · unfold ghFractionSpec; rw [if_neg h]
  · unfold ghYieldSpec; rw [if_neg h]
  · unfold ghCropsSpec ghYieldSpec; rw [if_neg h, zero_mul]

theorem greenhouse_ok (pow : K → K → K) (hp : PowOK pow) (c : CropIn K) (w : CropWF c) (g : GhIn K)
    (wg : GhWF c.nmonths g) (st : Option (CropState K))
    (hst : g.addGreenhouses = true → st = some (cropState pow c)) :
    greenhouse pow c.nmonths g c.waste st = .ok
      ⟨(List.range c.nmonths).map (ghAreaSpec' g), (List.range c.nmonths).map (ghFractionSpec g),
       (List.range c.nmonths).map (ghYieldSpec pow c g), (List.range c.nmonths).map (ghCropsSpec pow c g)⟩ := by
  unfold greenhouse
  simp only [show g.globalCropArea * g.cropAreaFraction = ghTotal g from rfl]
  by_cases hz : noCropland g
  · -- no cropland: the code returns zeros, provided the country's share is zero
    rw [if_pos (show ghTotal g ≤ 0 ∧ 0 ≤ ghTotal g from hz), if_pos (by rw [wg.frac hz]; exact ⟨le_rfl, le_rfl⟩),
      ghOut_off pow c g (fun h => h.2 hz)]
  · have hpos := ghTotal_pos g wg.total_nonneg hz
    rw [if_neg (show ¬ (ghTotal g ≤ 0 ∧ 0 ≤ ghTotal g) from hz)]
    cases hadd : g.addGreenhouses
    · -- greenhouses off: zeros again, the fraction as `0 / total`
      simp only [Bool.false_eq_true, if_false, List.map_replicate, zero_div]
      rw [ghOut_off pow c g (by rw [hadd]; simp)]
    · -- greenhouses on cropland: the three asserts pass (`h42`, `hpos`, `h2`), then the loop over the months
      have hcond : g.addGreenhouses = true ∧ ¬ noCropland g := ⟨hadd, hz⟩
      have h42 : 42 ≤ c.nmonths := wg.horizon hadd hz
      have h2 : ¬ (allMonthsReductions (year1Spec (ratioAt c.ratios 0) c.season c.country)
          (ratioAt c.ratios)).length < c.nmonths := by
        rw [length_allMonthsReductions]; exact w.horizon.not_gt
      rw [hst hadd]
      simp only [if_true, cropState, List.length_map, List.length_range]
      rw [if_neg h42.not_gt]
      simp only [hpos, not_true_eq_false, if_false, h2]
      rw [mapE_ok _ (fun i => lsum (monthsCycle c.startMonth c.baseline c.season) / 12.0 / ghTotal g
          * relocGain pow (expSpec c) (ratioYearSpec c i)) _
        (fun i hi => ghMonth_ok pow hp c w _ (monthlyPerHa_nonneg c w g hpos) i
          (by have := List.mem_range.mp hi; have := w.horizon; omega))]
      simp only [List.map_map, take_map_range_of_le _ le_rfl, ghAreaList_ok _ _ _ h42, zipWith_map_range]
      congr 2 <;> refine map_range_congr fun i _ => ?_
      · unfold ghAreaSpec' ghLimit; rw [if_pos hcond]
      · unfold ghFractionSpec ghLimit; rw [if_pos hcond]; rfl
      · unfold ghYieldSpec; rw [if_pos hcond]; rfl
      · unfold ghCropsSpec ghYieldSpec ghAreaSpec' ghLimit; rw [if_pos hcond, if_pos hcond]; rfl

theorem cropsAndGreenhouses_ok (pow : K → K → K) (hp : PowOK pow) (c : CropIn K) (w : CropWF c) (g : GhIn K)
    (wg : GhWF c.nmonths g) (hrun : c.addOutdoor = true ∨ g.addGreenhouses = true) :
    cropsAndGreenhouses pow c g = .ok
      ⟨(List.range c.nmonths).map (grownSpec pow c), (List.range c.nmonths).map (noRelocSpec c),
       ⟨(List.range c.nmonths).map (ghAreaSpec' g), (List.range c.nmonths).map (ghFractionSpec g),
        (List.range c.nmonths).map (ghYieldSpec pow c g), (List.range c.nmonths).map (ghCropsSpec pow c g)⟩,
       (List.range c.nmonths).map (productionSpec pow c (ghFractionSpec g))⟩ := by
  unfold cropsAndGreenhouses
  rw [if_pos hrun, monthlyProduction_ok pow hp c w]
  dsimp only
  rw [greenhouse_ok pow hp c w g wg (some (cropState pow c)) (fun _ => rfl)]
  simp only [cropState, List.length_map, List.length_range, ne_eq, not_true_eq_false, and_false, if_false]
  rw [cropProduction_ok]
  rfl

theorem ghFractionSpec_range (g : GhIn K) (i : Nat) (ht : 0 ≤ ghTotal g) (hm0 : 0 ≤ g.areaMultiplier)
    (hm1 : g.areaMultiplier ≤ 1) : 0 ≤ ghFractionSpec g i ∧ ghFractionSpec g i ≤ 1 := by
  unfold ghFractionSpec
  split_ifs with h
  · have hpos := ghTotal_pos g ht h.2
    have hl : 0 ≤ ghLimit g := mul_nonneg ht hm0
    rw [ghAreaSpec_eq]
    refine ⟨div_nonneg (le_ramp hl) hpos.le, (div_le_one hpos).mpr ((ramp_le hl).trans ?_)⟩
    exact mul_le_of_le_one_right ht hm1
  · exact ⟨le_rfl, zero_le_one⟩

theorem noRelocSpec_nonneg (c : CropIn K) (w : CropWF c) (i : Nat) : 0 ≤ noRelocSpec c i :=
  mul_nonneg (monthSpec_nonneg c i w.season_nonneg w.baseline) (ratioYearSpec_nonneg c i)

theorem noReloc_le_grown (pow : K → K → K) (hp : PowOK pow) (c : CropIn K) (w : CropWF c) (i : Nat) :
    noRelocSpec c i ≤ grownSpec pow c i := by
  have hm := monthSpec_nonneg c i w.season_nonneg w.baseline
  calc noRelocSpec c i
      ≤ monthSpec c i * relocGain pow (expSpec c) (ratioYearSpec c i) :=
        mul_ratio_le_mul_relocGain pow hp c w _ hm i
    _ ≤ grownSpec pow c i :=
        le_mul_of_one_le_right
          (mul_nonneg hm (relocGain_nonneg pow hp _ _ (expSpec_range c w) (ratioYearSpec_nonneg c i)))
          (areaRampSpec_ge_one c i)

theorem grownEffSpec_nonneg (pow : K → K → K) (hp : PowOK pow) (c : CropIn K) (w : CropWF c) (i : Nat) :
    0 ≤ grownEffSpec pow c i := by
  unfold grownEffSpec
  split_ifs
  · exact (noRelocSpec_nonneg c w i).trans (noReloc_le_grown pow hp c w i)
  · exact noRelocSpec_nonneg c w i

theorem productionSpec_nonneg (pow : K → K → K) (hp : PowOK pow) (c : CropIn K) (w : CropWF c) (ghf : Nat → K)
    (i : Nat) (hf : ghf i ≤ 1) (hw : c.waste ≤ 100) : 0 ≤ productionSpec pow c ghf i := by
  unfold productionSpec
  split_ifs
  · exact mul_nonneg (mul_nonneg (grownEffSpec_nonneg pow hp c w i) (sub_nonneg.mpr hf)) (wasteFactor_nonneg _ hw)
  · exact le_rfl

theorem ghYieldSpec_nonneg (pow : K → K → K) (hp : PowOK pow) (c : CropIn K) (w : CropWF c) (g : GhIn K)
    (i : Nat) (ht : 0 ≤ ghTotal g) (hw : c.waste ≤ 100) (hwr : g.wasteRetail ≤ 100) (hg : -100 ≤ g.gainPct) :
    0 ≤ ghYieldSpec pow c g i := by
  unfold ghYieldSpec
  split_ifs with h
  · have h1 := wasteFactor_nonneg c.waste hw
    have h2 := wasteFactor_nonneg g.wasteRetail hwr
    have h3 := monthlyPerHa_nonneg c w g (ghTotal_pos g ht h.2)
    have h4 := relocGain_nonneg pow hp (expSpec c) _ (expSpec_range c w) (ratioYearSpec_nonneg c i)
    have h5 : 0 ≤ 1 + g.gainPct / 100.0 := by
      rw [sci_100, ← neg_le_iff_add_nonneg', le_div_iff₀ (by norm_num)]; linarith
    exact mul_nonneg (mul_nonneg (mul_nonneg (mul_nonneg h1 h2) (mul_nonneg h3 h4)) zero_le_one) h5
  · exact le_rfl

theorem exists_ghAreaSpec'_eq_ramp (g : GhIn K) (ht : 0 ≤ ghTotal g) (hm : 0 ≤ g.areaMultiplier) :
    ∃ L, 0 ≤ L ∧ L ≤ ghLimit g ∧ (g.addGreenhouses = true → ¬ noCropland g → L = ghLimit g) ∧
      ghAreaSpec' g = ramp (g.delay + 5) (g.delay + 5 + 36) 0 L := by
  have hl : 0 ≤ ghLimit g := mul_nonneg ht hm
  by_cases h : g.addGreenhouses = true ∧ ¬ noCropland g
  · refine ⟨_, hl, le_rfl, fun _ _ => rfl, funext fun i => ?_⟩
    unfold ghAreaSpec'
    rw [if_pos h, ghAreaSpec_eq]
  · refine ⟨0, le_rfl, hl, fun ha hz => absurd ⟨ha, hz⟩ h, funext fun i => ?_⟩
    unfold ghAreaSpec' ramp
    rw [if_neg h]
    simp

theorem ghAreaSpec'_nonneg (g : GhIn K) (i : Nat) (ht : 0 ≤ ghTotal g) (hm : 0 ≤ g.areaMultiplier) :
    0 ≤ ghAreaSpec' g i := by
  obtain ⟨L, h0, _, _, e⟩ := exists_ghAreaSpec'_eq_ramp g ht hm
  rw [e]
  exact le_ramp h0

def setBaseline (c : CropIn K) (b : K) : CropIn K := { c with baseline := b }
def setRelocation (c : CropIn K) (r : Bool) : CropIn K := { c with relocation := r }
def setRatioArea (c : CropIn K) (a : K) : CropIn K := { c with ratioArea := a }

theorem monthSpec_scale (c : CropIn K) (k : K) (i : Nat) :
    monthSpec (setBaseline c (k * c.baseline)) i = k * monthSpec c i := by
  unfold monthSpec setBaseline annualYield
  rw [sci_100]
  ring

theorem productionSpec_scale (pow : K → K → K) (c : CropIn K) (ghf : Nat → K) (k : K) (i : Nat) :
    productionSpec pow (setBaseline c (k * c.baseline)) ghf i = k * productionSpec pow c ghf i := by
  have hm := monthSpec_scale c k i
  unfold productionSpec grownEffSpec grownSpec noRelocSpec
  have e1 : ratioYearSpec (setBaseline c (k * c.baseline)) i = ratioYearSpec c i := rfl
  have e2 : expSpec (setBaseline c (k * c.baseline)) = expSpec c := rfl
  have e3 : areaRampSpec (setBaseline c (k * c.baseline)) i = areaRampSpec c i := rfl
  rw [hm, e1, e2, e3]
  -- the switches and the waste of `setBaseline c _` are those of `c`
  show (if c.addOutdoor = true then
      (if c.relocation = true ∧ c.harvestDuration + c.rotationDelay ≤ i then _ else _) * _ * (1 - c.waste / 100.0)
    else 0) = _
  rw [sci_100]
  split_ifs <;> ring

theorem monthsFromJanuary_scale (b k : K) (season : List K) :
    monthsFromJanuary (k * b) season = (monthsFromJanuary b season).map (k * ·) := by
  unfold monthsFromJanuary annualYield
  rw [List.map_map]
  refine List.map_congr_left fun s _ => ?_
  simp only [Function.comp, sci_100]
  ring

theorem lsum_cycle_scale (sm : Nat) (b k : K) (season : List K) :
    lsum (monthsCycle sm (k * b) season) = k * lsum (monthsCycle sm b season) := by
  unfold monthsCycle
  simp only [monthsFromJanuary_scale, ← List.map_drop, ← List.map_take, ← List.map_append]
  exact lsum_map_mul _ k

theorem ghYieldSpec_scale (pow : K → K → K) (c : CropIn K) (g : GhIn K) (k : K) (i : Nat) :
    ghYieldSpec pow (setBaseline c (k * c.baseline)) g i = k * ghYieldSpec pow c g i := by
  unfold ghYieldSpec
  have e1 : ratioYearSpec (setBaseline c (k * c.baseline)) i = ratioYearSpec c i := rfl
  have e2 : expSpec (setBaseline c (k * c.baseline)) = expSpec c := rfl
  have e3 : monthsCycle (setBaseline c (k * c.baseline)).startMonth (setBaseline c (k * c.baseline)).baseline
      (setBaseline c (k * c.baseline)).season = monthsCycle c.startMonth (k * c.baseline) c.season := rfl
  have e4 : (setBaseline c (k * c.baseline)).waste = c.waste := rfl
  rw [e1, e2, e3, e4, lsum_cycle_scale]
  simp only [sci_100, sci_12]
  split_ifs <;> ring

theorem ghCropsSpec_scale (pow : K → K → K) (c : CropIn K) (g : GhIn K) (k : K) (i : Nat) :
    ghCropsSpec pow (setBaseline c (k * c.baseline)) g i = k * ghCropsSpec pow c g i := by
  unfold ghCropsSpec
  rw [ghYieldSpec_scale, mul_assoc]

theorem cropsAndGreenhouses_scale (pow : K → K → K) (hp : PowOK pow) (c : CropIn K) (w : CropWF c) (g : GhIn K)
    (wg : GhWF c.nmonths g) (hrun : c.addOutdoor = true ∨ g.addGreenhouses = true) (k : K) (hk : 0 ≤ k) :
    ∃ o o', cropsAndGreenhouses pow c g = .ok o ∧
      cropsAndGreenhouses pow (setBaseline c (k * c.baseline)) g = .ok o' ∧
      o'.production = o.production.map (k * ·) ∧ o'.gh.crops = o.gh.crops.map (k * ·) :=
  ⟨_, _, cropsAndGreenhouses_ok pow hp c w g wg hrun,
    cropsAndGreenhouses_ok pow hp (setBaseline c (k * c.baseline)) { w with baseline := mul_nonneg hk w.baseline } g wg hrun,
    (map_range_congr fun i _ => productionSpec_scale pow c _ k i).trans List.map_map.symm,
    (map_range_congr fun i _ => ghCropsSpec_scale pow c g k i).trans List.map_map.symm⟩

theorem productionSpec_le_of_grown_le (pow : K → K → K) (c c' : CropIn K) (ghf : Nat → K) (i : Nat)
    (ha : c'.addOutdoor = c.addOutdoor) (hw : c'.waste = c.waste) (hf : ghf i ≤ 1) (hw100 : c.waste ≤ 100)
    (h : grownEffSpec pow c' i ≤ grownEffSpec pow c i) :
    productionSpec pow c' ghf i ≤ productionSpec pow c ghf i := by
  unfold productionSpec
  rw [ha, hw]
  split_ifs
  · exact mul_le_mul_of_nonneg_right (mul_le_mul_of_nonneg_right h (sub_nonneg.mpr hf)) (wasteFactor_nonneg _ hw100)
  · exact le_rfl

theorem relocation_never_lowers (pow : K → K → K) (hp : PowOK pow) (c : CropIn K)
    (w : CropWF (setRelocation c true)) (ghf : Nat → K) (i : Nat) (hf : ghf i ≤ 1) (hw : c.waste ≤ 100) :
    productionSpec pow (setRelocation c false) ghf i ≤ productionSpec pow (setRelocation c true) ghf i := by
  refine productionSpec_le_of_grown_le pow _ _ ghf i rfl rfl hf hw ?_
  unfold grownEffSpec
  rw [if_neg (fun h => Bool.false_ne_true h.1)]
  split_ifs
  · -- the plain series does not read the relocation switch: it is the same for both inputs
    exact noReloc_le_grown pow hp _ w i
  · exact le_rfl

theorem expansion_never_lowers (pow : K → K → K) (hp : PowOK pow) (c : CropIn K) (w : CropWF c)
    (ghf : Nat → K) (i : Nat) (hf : ghf i ≤ 1) (hw : c.waste ≤ 100) :
    productionSpec pow (setRatioArea c 1) ghf i ≤ productionSpec pow c ghf i := by
  refine productionSpec_le_of_grown_le pow _ _ ghf i rfl rfl hf hw ?_
  -- the switches and the plain series of `setRatioArea c 1` are those of `c`
  show (if c.relocation = true ∧ c.harvestDuration + c.rotationDelay ≤ i then _ else noRelocSpec c i) ≤ _
  unfold grownEffSpec
  split_ifs
  · have h1 : areaRampSpec (setRatioArea c 1) i = 1 := if_neg (lt_irrefl _)
    unfold grownSpec
    rw [h1]
    exact mul_le_mul_of_nonneg_left (areaRampSpec_ge_one c i)
      (mul_nonneg (monthSpec_nonneg c i w.season_nonneg w.baseline)
        (relocGain_nonneg pow hp _ _ (expSpec_range c w) (ratioYearSpec_nonneg c i)))
  · exact le_rfl

end Allfed.Proofs.Supply
