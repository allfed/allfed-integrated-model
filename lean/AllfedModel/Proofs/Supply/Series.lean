import AllfedModel.Model.Supply
import AllfedModel.Proofs.Basic
import Mathlib.Order.Monotone.Basic
import Mathlib.Tactic.GCongr
/-!
A monthly series is brought to the form `(List.range n).map f`; the equations below push `++`, `take`,
`drop`, `zipWith`, `replicate`, `linspace` and equal-length blocks into `f`.  The closed forms `f` are
built from three shapes, each with its sign / monotonicity / cap lemmas: a step schedule (`stairs`),
a delay in front of a series, and a linear `ramp`.
-/
namespace Allfed.Proofs.Supply
open Allfed.Supply

set_option linter.unusedSectionVars false

section
variable {β γ δ : Type}

theorem getElem?_map_range (f : Nat → β) (n i : Nat) :
    ((List.range n).map f)[i]? = if i < n then some (f i) else none := by
  rw [List.getElem?_map]
  split_ifs with h
  · rw [List.getElem?_range h]; rfl
  · rw [List.getElem?_eq_none (by simpa using h)]; rfl

theorem map_range_congr {f g : Nat → β} {n : Nat} (h : ∀ i < n, f i = g i) :
    (List.range n).map f = (List.range n).map g :=
  List.map_congr_left fun i hi => h i (List.mem_range.mp hi)

theorem replicate_eq_map_range (a : β) (n : Nat) : List.replicate n a = (List.range n).map fun _ => a := by
  rw [List.map_const', List.length_range]

theorem map_range_append (f g : Nat → β) (a b : Nat) :
    (List.range a).map f ++ (List.range b).map g
      = (List.range (a + b)).map fun i => if i < a then f i else g (i - a) := by
  refine List.ext_getElem? fun i => ?_
  rw [List.getElem?_append, List.length_map, List.length_range, getElem?_map_range, getElem?_map_range,
    getElem?_map_range]
  split_ifs <;> first | rfl | omega

theorem take_map_range (f : Nat → β) (n h : Nat) :
    ((List.range n).map f).take h = (List.range (min h n)).map f := by
  rw [← List.map_take, List.take_range]

theorem take_map_range_of_le (f : Nat → β) {h n : Nat} (hn : h ≤ n) :
    ((List.range n).map f).take h = (List.range h).map f := by
  rw [take_map_range, Nat.min_eq_left hn]

/-- Python's `a[:h] + b[h:]` for two series of the same length -/
theorem take_append_drop_map_range (f g : Nat → β) (n h : Nat) :
    ((List.range n).map f).take h ++ ((List.range n).map g).drop h
      = (List.range n).map fun i => if i < h then f i else g i := by
  refine List.ext_getElem? fun i => ?_
  rw [List.getElem?_append, List.length_take, List.length_map, List.length_range, List.getElem?_take,
    List.getElem?_drop, getElem?_map_range, getElem?_map_range, getElem?_map_range]
  split_ifs <;> first | rfl | omega | skip
  -- behind the first `h` entries the dropped list is read at `h + (i - h) = i`
  congr
  omega

theorem zipWith_map_range (g : β → γ → δ) (a : Nat → β) (b : Nat → γ) (n : Nat) :
    List.zipWith g ((List.range n).map a) ((List.range n).map b) = (List.range n).map fun i => g (a i) (b i) := by
  rw [List.zipWith_map, List.zipWith_self]

theorem getD_map_range (f : Nat → β) (n i : Nat) (d : β) (h : i < n) : ((List.range n).map f).getD i d = f i := by
  rw [List.getD_eq_getElem?_getD, getElem?_map_range, if_pos h]; rfl

theorem flatMap_map_range (b : Nat → Nat → β) (n m : Nat) :
    ((List.range m).flatMap fun k => (List.range n).map (b k))
      = (List.range (m * n)).map fun i => b (i / n) (i % n) := by
  induction m with
  | zero => simp
  | succ m ih =>
    rw [List.range_succ, List.flatMap_append, ih, List.flatMap_singleton, map_range_append, Nat.succ_mul]
    refine map_range_congr fun i hi => ?_
    split_ifs with h
    · rfl
    · have hd : i / n = m := Nat.div_eq_of_lt_le (by omega) (by rw [Nat.succ_mul]; omega)
      have hm := Nat.div_add_mod i n
      rw [hd, Nat.mul_comm] at hm
      rw [hd, show i % n = i - m * n by omega]

/-- model years of 8, 12, …, 12, 16 months: the shape of the crop reduction table and of the grass list -/
theorem yearBlocks_eq (g : Nat → β) (m : Nat) :
    List.replicate 8 (g 0) ++ ((List.range m).flatMap fun k => List.replicate 12 (g (k + 1)))
        ++ List.replicate 16 (g (m + 1))
      = (List.range (12 * (m + 2))).map fun i => g (grassYear (m + 2) i) := by
  simp only [replicate_eq_map_range, flatMap_map_range, map_range_append]
  rw [show 8 + m * 12 + 16 = 12 * (m + 2) by omega]
  refine map_range_congr fun i hi => ?_
  unfold grassYear
  by_cases h8 : i < 8
  · rw [if_pos (by omega), if_pos h8, if_pos h8]
  · simp only [h8, if_false, Nat.min_def]
    split_ifs <;> (congr 1 <;> omega)

theorem mapE_ok (f : β → Except String γ) (g : β → γ) (l : List β)
    (h : ∀ x ∈ l, f x = .ok (g x)) : mapE f l = .ok (l.map g) := by
  induction l with
  | nil => rfl
  | cons x t ih =>
    have hx := h x (by simp)
    have ht := ih (fun y hy => h y (by simp [hy]))
    simp only [mapE, hx, ht, List.map_cons]

theorem getD_rotate (l : List β) (d : β) (m j : Nat) (hl : l.length = 12) (hm : m ≤ 12) (hj : j < 12) :
    (l.drop m ++ l.take m).getD j d = l.getD ((m + j) % 12) d := by
  rw [List.getD_eq_getElem?_getD, List.getD_eq_getElem?_getD, List.getElem?_append, List.length_drop, hl]
  by_cases h : j < 12 - m
  · rw [if_pos h, List.getElem?_drop, Nat.mod_eq_of_lt (by omega)]
  · rw [if_neg h, List.getElem?_take, if_pos (by omega), show (m + j) % 12 = j - (12 - m) by omega]

theorem foldl_set_map_range (f g : Nat → β) (n a k : Nat) :
    (List.range' a k).foldl (fun l i => l.set i (f i)) ((List.range n).map g)
      = (List.range n).map fun j => if a ≤ j ∧ j < a + k then f j else g j := by
  induction k with
  | zero => exact map_range_congr fun j _ => (if_neg (by omega)).symm
  | succ k ih =>
    rw [List.range'_concat, List.foldl_append, ih, Nat.one_mul]
    refine List.ext_getElem? fun j => ?_
    rw [List.foldl_cons, List.foldl_nil, List.getElem?_set, List.length_map, List.length_range,
      getElem?_map_range, getElem?_map_range]
    by_cases hj : a + k = j
    · subst hj
      split_ifs <;> first | rfl | omega
    · rw [if_neg hj]
      split_ifs <;> first | rfl | omega

end

section
variable {β : Type}

/-- `if j < t₁ then v₁ else if j < t₂ then v₂ else … else last` -/
def stairs : List (Nat × β) → β → Nat → β
  | [], last, _ => last
  | (t, v) :: r, last, j => if j < t then v else stairs r last j

theorem stairs_mem (bs : List (Nat × β)) (last : β) (j : Nat) :
    stairs bs last j ∈ bs.map Prod.snd ++ [last] := by
  induction bs with
  | nil => exact List.mem_singleton.mpr rfl
  | cons b r ih =>
    unfold stairs
    split_ifs
    · exact List.mem_cons_self
    · exact List.mem_cons_of_mem _ ih

theorem stairs_mono [Preorder β] (bs : List (Nat × β)) (last : β)
    (h : (bs.map Prod.snd ++ [last]).Pairwise (· ≤ ·)) : Monotone (stairs bs last) := by
  induction bs with
  | nil => exact fun _ _ _ => le_rfl
  | cons b r ih =>
    rw [List.map_cons, List.cons_append, List.pairwise_cons] at h
    intro i j hij
    unfold stairs
    by_cases hj : j < b.1
    · rw [if_pos hj, if_pos (lt_of_le_of_lt hij hj)]
    · rw [if_neg hj]
      split_ifs
      · exact h.1 _ (stairs_mem r last j)
      · exact ih h.2 hij

theorem stairs_le [Preorder β] (bs : List (Nat × β)) (last : β)
    (h : (bs.map Prod.snd ++ [last]).Pairwise (· ≤ ·)) (j : Nat) : stairs bs last j ≤ last := by
  rcases List.mem_append.mp (stairs_mem bs last j) with hm | hm
  · exact (List.pairwise_append.mp h).2.2 _ hm _ (List.mem_singleton.mpr rfl)
  · rw [List.mem_singleton.mp hm]

/-! `d` months of `z` in front of a series `f` -/

variable {d : Nat} {z : β} {f : Nat → β}

theorem delay_mono [Preorder β] (hf : Monotone f) (hz : z ≤ f 0) :
    Monotone fun i => if i < d then z else f (i - d) := by
  intro i j hij
  dsimp only
  split_ifs
  · exact le_rfl
  · exact hz.trans (hf (Nat.zero_le _))
  · omega
  · exact hf (Nat.sub_le_sub_right hij d)

theorem delay_eq_of_lt {m i : Nat} (hf : ∀ k < m, f k = z) (h : i < d + m) :
    (if i < d then z else f (i - d)) = z := by
  split_ifs
  · rfl
  · exact hf _ (by omega)

theorem delay_le [Preorder β] {c : β} (hz : z ≤ c) (hf : ∀ k, f k ≤ c) (i : Nat) :
    (if i < d then z else f (i - d)) ≤ c := by
  split_ifs
  · exact hz
  · exact hf _

end

variable {K : Type} [Field K] [LinearOrder K] [IsStrictOrderedRing K]

-- `ring` on an integer written with a decimal point (`100.0`, `12.0`) builds a term the kernel rejects in
-- this Mathlib (`4e6`, `0.12` are fine): such literals are rewritten by `sci_100` and the lemmas below first
theorem sci_12 : (12.0 : K) = 12 := by norm_num
theorem sci_101 : (101.0 : K) = 101 := by norm_num
theorem sci_4000 : (4000.0 : K) = 4000 := by norm_num
theorem sci_10000 : (10000.0 : K) = 10000 := by norm_num

theorem wasteFactor_nonneg (w : K) (hw : w ≤ 100) : 0 ≤ 1 - w / 100.0 := by
  rw [sci_100, sub_nonneg, div_le_one (by norm_num)]; exact hw

theorem linspace_const (a : K) (n : Nat) : linspace a a n = List.replicate n a := by
  rw [replicate_eq_map_range]
  unfold linspace
  refine map_range_congr fun i _ => ?_
  split_ifs <;> simp

theorem linspace_eq (a b : K) (n : Nat) (hn : 2 ≤ n) :
    linspace a b n = (List.range n).map fun (i : Nat) => (i : K) * ((b - a) / ((n - 1 : Nat) : K)) + a := by
  unfold linspace
  refine map_range_congr fun i _ => ?_
  rw [if_pos (by omega)]
  split_ifs with h
  · have hn1 : ((n - 1 : Nat) : K) ≠ 0 := Nat.cast_ne_zero.mpr (by omega)
    rw [show i = n - 1 by omega, mul_div_cancel₀ _ hn1, sub_add_cancel]
  · rfl

theorem linspace_arith (init step : K) (n : Nat) :
    linspace init (((n - 1 : Nat) : K) * step + init) n = (List.range n).map fun (k : Nat) => (k : K) * step + init := by
  rcases Nat.lt_or_ge n 2 with hn | hn
  · unfold linspace
    refine map_range_congr fun k hk => ?_
    rw [if_neg (by omega), show k = 0 by omega]
    simp
  · rw [linspace_eq _ _ _ hn]
    refine map_range_congr fun k _ => ?_
    have hn1 : ((n - 1 : Nat) : K) ≠ 0 := Nat.cast_ne_zero.mpr (by omega)
    rw [add_sub_cancel_right, mul_div_cancel_left₀ _ hn1]

/-- `a` until month `s`, then a straight line that reaches `b` at month `e`, then `b` -/
def ramp (s e : Nat) (a b : K) (i : Nat) : K :=
  if e ≤ i then b else if s ≤ i then a + ((i - s : Nat) : K) * ((b - a) / ((e : K) - (s : K))) else a

variable {s e i : Nat} {a b : K}

theorem ramp_of_ge (h : e ≤ i) : ramp s e a b i = b := if_pos h

theorem ramp_of_lt (h1 : i < s) (h2 : i < e) : ramp s e a b i = a := by
  unfold ramp; rw [if_neg h2.not_ge, if_neg h1.not_ge]

theorem slope_nonneg (hab : a ≤ b) (hse : s < e) : 0 ≤ (b - a) / ((e : K) - (s : K)) :=
  div_nonneg (sub_nonneg.mpr hab) (sub_nonneg.mpr (Nat.cast_le.mpr hse.le))

theorem le_ramp (hab : a ≤ b) : a ≤ ramp s e a b i := by
  unfold ramp
  split_ifs with h1 h2
  · exact hab
  · exact le_add_of_nonneg_right (mul_nonneg (Nat.cast_nonneg _) (slope_nonneg hab (by omega)))
  · exact le_rfl

theorem ramp_le (hab : a ≤ b) : ramp s e a b i ≤ b := by
  unfold ramp
  split_ifs with h1 h2
  · exact le_rfl
  · -- at most `e − s` steps of `(b − a)/(e − s)` have been taken
    have hm : (0 : K) < (e : K) - (s : K) := sub_pos.mpr (Nat.cast_lt.mpr (by omega))
    have hx : ((i - s : Nat) : K) ≤ (e : K) - (s : K) := by
      rw [Nat.cast_sub h2]; exact sub_le_sub_right (Nat.cast_le.mpr (by omega)) _
    calc a + ((i - s : Nat) : K) * ((b - a) / ((e : K) - (s : K)))
        ≤ a + ((e : K) - (s : K)) * ((b - a) / ((e : K) - (s : K))) := by
          have := slope_nonneg hab (show s < e by omega)
          gcongr
      _ = b := by rw [mul_div_cancel₀ _ hm.ne']; ring
  · exact hab

theorem ramp_mono (hab : a ≤ b) : Monotone (ramp s e a b) := by
  intro i j hij
  by_cases hj : e ≤ j
  · rw [ramp_of_ge hj]; exact ramp_le hab
  · by_cases hi : s ≤ i
    · unfold ramp
      rw [if_neg hj, if_neg (by omega), if_pos hi, if_pos (hi.trans hij)]
      have := slope_nonneg hab (show s < e by omega)
      gcongr
    · rw [ramp_of_lt (by omega) (by omega)]; exact le_ramp hab

end Allfed.Proofs.Supply
