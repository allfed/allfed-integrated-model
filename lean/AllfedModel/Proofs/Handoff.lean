import AllfedModel.Model.Handoff
import AllfedModel.Proofs.Basic
import Mathlib.Tactic.Linarith
/-!
The hand-offs between rounds in `parameters.py` (C18): the minimum consumption (`fillMonth`, `dailyMax`),
the re-timing of meat (`fillNeg`, `redistribute`), the final feed and biofuel adjustment (`bump1`, `bumpAll`)
and the third round's rule of thumb (`increase1`).
-/
namespace Allfed.Proofs
open Allfed.Handoff

set_option linter.unusedSectionVars false

variable {K : Type} [Field K] [LinearOrder K] [IsStrictOrderedRing K]

theorem getD_set (l : List K) (i j : ℕ) (a : K) :
    (l.set i a).getD j 0 = if i = j ∧ i < l.length then a else l.getD j 0 := by
  by_cases h : i = j ∧ i < l.length
  · obtain ⟨rfl, hl⟩ := h
    simp [List.getD_eq_getElem?_getD, hl]
  · rw [if_neg h]
    simp only [List.getD_eq_getElem?_getD, List.getElem?_set]
    split_ifs with h1 h2
    · exact absurd ⟨h1, h2⟩ h
    · subst h1
      simp [List.getElem?_eq_none (not_lt.mp h2)]
    · rfl

theorem lt_length_of_getD_ne (l : List K) (j : ℕ) (h : l.getD j 0 ≠ 0) : j < l.length := by
  by_contra hh
  exact h (List.getD_eq_default _ _ (not_lt.mp hh))

theorem sum_set_getD (l : List K) (i : ℕ) (a : K) (h : i < l.length) :
    (l.set i a).sum = l.sum - l.getD i 0 + a := by
  rw [List.sum_set', dif_pos h, List.getD_eq_getElem _ _ h]; ring

theorem mem_getD (l : List K) (x : K) (h : x ∈ l) : ∃ j, l.getD j 0 = x := by
  obtain ⟨j, hj, rfl⟩ := List.mem_iff_getElem.mp h
  exact ⟨j, List.getD_eq_getElem _ _ hj⟩

theorem sum_zipWith_sub (a b : List K) (h : a.length = b.length) :
    (List.zipWith (· - ·) a b).sum = a.sum - b.sum := by
  rw [eq_sub_iff_add_eq, List.sum_add_sum_eq_sum_zipWith_of_length_eq _ _ (by simp [h])]
  congr 1
  exact List.ext_getElem (by simp [h]) fun i _ _ => by simp

theorem forall₂_le_zipWith_add (a b : List K) (hl : a.length = b.length) (hb : ∀ x ∈ b, 0 ≤ x) :
    List.Forall₂ (· ≤ ·) a (List.zipWith (· + ·) a b) := by
  induction a generalizing b with
  | nil => simp
  | cons x t ih =>
    obtain _ | ⟨y, u⟩ := b
    · simp at hl
    · rw [List.forall_mem_cons] at hb
      exact .cons (le_add_of_nonneg_right hb.1) (ih u (by simpa using hl) hb.2)

theorem pmin'_eq_min (a b : K) : bump1.pmin' a b = min a b :=
  (pmin_eq_min b a).trans (min_comm b a)

theorem pmax'_eq_max (a b : K) : bump1.pmax' a b = max a b :=
  (pmax_eq_max b a).trans (max_comm b a)

theorem fillMonth_cons (cap f : K) (t : List K) :
    fillMonth cap (f :: t) = min f cap :: fillMonth (cap - min f cap) t := by
  simp only [fillMonth, pmin_eq_min]

theorem fillMonth_zero (foods : List K) (hf : ∀ f ∈ foods, 0 ≤ f) :
    fillMonth 0 foods = foods.map fun _ => 0 := by
  induction foods with
  | nil => rfl
  | cons f t ih =>
    rw [List.forall_mem_cons] at hf
    rw [fillMonth_cons, min_eq_right hf.1, sub_zero, ih hf.2, List.map_cons]

theorem fillMonth_cases {P : K → List K → List K → Prop} (nil : ∀ cap, 0 ≤ cap → P cap [] [])
    (fits : ∀ cap f t, 0 ≤ f → f ≤ cap → P (cap - f) t (fillMonth (cap - f) t) →
      P cap (f :: t) (f :: fillMonth (cap - f) t))
    (cut : ∀ cap f t, 0 ≤ cap → cap ≤ f → (∀ x ∈ t, 0 ≤ x) → P cap (f :: t) (cap :: t.map fun _ => 0))
    (cap : K) (foods : List K) (hc : 0 ≤ cap) (hf : ∀ f ∈ foods, 0 ≤ f) :
    P cap foods (fillMonth cap foods) := by
  induction foods generalizing cap with
  | nil => exact nil cap hc
  | cons f t ih =>
    rw [List.forall_mem_cons] at hf
    rw [fillMonth_cons]
    rcases le_total f cap with h | h
    · rw [min_eq_left h]
      exact fits cap f t hf.1 h (ih _ (sub_nonneg.mpr h) hf.2)
    · rw [min_eq_right h, sub_self, fillMonth_zero t hf.2]
      exact cut cap f t hc h hf.2

theorem fillMonth_le (cap : K) (foods : List K) (hc : 0 ≤ cap) (hf : ∀ f ∈ foods, 0 ≤ f) :
    List.Forall₂ (· ≤ ·) (fillMonth cap foods) foods := by
  refine fillMonth_cases (P := fun _ foods out => List.Forall₂ (· ≤ ·) out foods) ?_ ?_ ?_ cap foods hc hf
  · exact fun _ _ => .nil
  · exact fun _ _ _ _ _ ih => .cons le_rfl ih
  · exact fun _ _ t _ h ht => .cons h (List.forall₂_map_left_iff.mpr (List.forall₂_same.mpr ht))

theorem fillMonth_nonneg (cap : K) (foods : List K) (hc : 0 ≤ cap) (hf : ∀ f ∈ foods, 0 ≤ f) :
    ∀ c ∈ fillMonth cap foods, 0 ≤ c := by
  refine fillMonth_cases (P := fun _ _ out => ∀ c ∈ out, 0 ≤ c) ?_ ?_ ?_ cap foods hc hf
  · simp
  · exact fun _ _ _ h0 _ ih => List.forall_mem_cons.mpr ⟨h0, ih⟩
  · exact fun _ _ _ h0 _ _ => List.forall_mem_cons.mpr ⟨h0, by simp⟩

theorem dailyMax_eq_min (kd p1 T : K) : dailyMax kd p1 T = kd * (min p1 T / 100) := by
  unfold dailyMax
  rw [sci_100]
  split_ifs with h
  · rw [min_eq_right h.le]
  · rw [min_eq_left (not_lt.mp h)]

theorem dailyMax_nonneg (kd p1 T : K) (hkd : 0 ≤ kd) (hp : 0 ≤ p1) (hT : 0 ≤ T) :
    0 ≤ dailyMax kd p1 T := by
  rw [dailyMax_eq_min]
  exact mul_nonneg hkd (div_nonneg (le_min hp hT) (by norm_num))

/-- one step of the inner loop: `min (-a[neg]) a[i]` moves from entry `i` to entry `neg` -/
def fillStep (neg i : ℕ) (arr : List K) : List K :=
  (arr.set neg (arr.getD neg 0 + min (-arr.getD neg 0) (arr.getD i 0))).set i
    ((arr.set neg (arr.getD neg 0 + min (-arr.getD neg 0) (arr.getD i 0))).getD i 0
      - min (-arr.getD neg 0) (arr.getD i 0))

theorem fillInner_succ (neg k : ℕ) (arr : List K) :
    fillInner neg (k + 1) arr =
      if k = neg ∨ arr.getD k 0 ≤ 0 then fillInner neg k arr
      else if (fillStep neg k arr).getD neg 0 = 0 then fillStep neg k arr
      else fillInner neg k (fillStep neg k arr) := by
  simp only [fillInner, pmin_eq_min, fillStep]
  exact if_congr Iff.rfl rfl (if_congr le_antisymm_iff.symm rfl rfl)

theorem fillStep_length (neg i : ℕ) (arr : List K) : (fillStep neg i arr).length = arr.length := by
  simp [fillStep]

theorem fillStep_getD (neg i : ℕ) (arr : List K) (hi : i ≠ neg) (hpos : 0 < arr.getD i 0) (j : ℕ) :
    (fillStep neg i arr).getD j 0 =
      if j = i then arr.getD i 0 - min (-arr.getD neg 0) (arr.getD i 0)
      else if j = neg then arr.getD neg 0 + min (-arr.getD neg 0) (arr.getD i 0)
      else arr.getD j 0 := by
  have hil : i < arr.length := lt_length_of_getD_ne arr i hpos.ne'
  have hni : ¬(neg = i ∧ neg < arr.length) := fun h => hi h.1.symm
  unfold fillStep
  rw [getD_set, getD_set, getD_set, List.length_set, if_neg hni]
  by_cases hji : j = i
  · have h1 : i = j ∧ i < arr.length := ⟨hji.symm, hil⟩
    rw [if_pos h1, if_pos hji]
  · have h1 : ¬(i = j ∧ i < arr.length) := fun h => hji h.1.symm
    rw [if_neg h1, if_neg hji]
    by_cases hjn : neg = j ∧ neg < arr.length
    · rw [if_pos hjn, if_pos hjn.1.symm]
    · rw [if_neg hjn]
      by_cases hj : j = neg
      · -- `neg` beyond the end: nothing is written there, and the amount moved is `min 0 aᵢ = 0`
        have hl : arr.length ≤ neg := not_lt.mp fun h => hjn ⟨hj.symm, h⟩
        rw [if_pos hj, hj, List.getD_eq_default _ _ hl, neg_zero, min_eq_left hpos.le, add_zero]
      · rw [if_neg hj]

theorem fillStep_sum (neg i : ℕ) (arr : List K) (hpos : 0 < arr.getD i 0) :
    (fillStep neg i arr).sum = arr.sum := by
  have hil : i < arr.length := lt_length_of_getD_ne arr i hpos.ne'
  unfold fillStep
  by_cases hl : neg < arr.length
  · rw [sum_set_getD _ _ _ (by simpa using hil), sum_set_getD _ _ _ hl]
    ring
  · have h0 : arr.getD neg 0 = 0 := List.getD_eq_default _ _ (not_lt.mp hl)
    rw [List.set_eq_of_length_le (not_lt.mp hl), sum_set_getD _ _ _ hil, h0, neg_zero,
      min_eq_left hpos.le]
    ring

theorem fillInner_length_sum (neg k : ℕ) (arr : List K) :
    (fillInner neg k arr).length = arr.length ∧ (fillInner neg k arr).sum = arr.sum := by
  induction k generalizing arr with
  | zero => exact ⟨rfl, rfl⟩
  | succ k ih =>
    rw [fillInner_succ]
    split_ifs with h1 h2
    · exact ih arr
    · push Not at h1
      exact ⟨fillStep_length _ _ _, fillStep_sum _ _ _ h1.2⟩
    · push Not at h1
      rw [(ih _).1, (ih _).2, fillStep_length, fillStep_sum _ _ _ h1.2]
      exact ⟨rfl, rfl⟩

theorem fillOuter_length_sum (ns : List ℕ) (arr : List K) :
    (fillOuter ns arr).length = arr.length ∧ (fillOuter ns arr).sum = arr.sum := by
  induction ns generalizing arr with
  | nil => exact ⟨rfl, rfl⟩
  | cons n t ih =>
    rw [fillOuter, (ih _).1, (ih _).2]
    exact fillInner_length_sum n _ arr

theorem fillNeg_length (arr : List K) : (fillNeg arr).length = arr.length :=
  (fillOuter_length_sum _ _).1

theorem fillStep_spec (neg i : ℕ) (arr : List K) (hi : i ≠ neg) (hpos : 0 < arr.getD i 0) :
    (∀ j, j ≠ neg → j ≠ i → (fillStep neg i arr).getD j 0 = arr.getD j 0) ∧
    0 ≤ (fillStep neg i arr).getD i 0 ∧ (fillStep neg i arr).getD neg 0 ≤ 0 ∧
    ((fillStep neg i arr).getD neg 0 = 0 ∨ (fillStep neg i arr).getD i 0 = 0) := by
  refine ⟨?_, ?_, ?_, ?_⟩
  · intro j hjn hji
    rw [fillStep_getD _ _ _ hi hpos, if_neg hji, if_neg hjn]
  · rw [fillStep_getD _ _ _ hi hpos, if_pos rfl]
    have := min_le_right (-arr.getD neg 0) (arr.getD i 0)
    linarith
  · rw [fillStep_getD _ _ _ hi hpos, if_neg hi.symm, if_pos rfl]
    have := min_le_left (-arr.getD neg 0) (arr.getD i 0)
    linarith
  · rw [fillStep_getD _ _ _ hi hpos, fillStep_getD _ _ _ hi hpos, if_neg hi.symm, if_pos rfl, if_pos rfl]
    rcases le_total (-arr.getD neg 0) (arr.getD i 0) with h | h
    · left; rw [min_eq_left h]; ring
    · right; rw [min_eq_right h]; ring

/-- The inner loop for one negative entry `neg`, scanning `i = k-1, …, 0`.  The last clause holds because
    a donor that does not bring `neg` to `0` is itself emptied. -/
theorem fillInner_spec (neg k : ℕ) (arr : List K) (hn : arr.getD neg 0 ≤ 0) :
    (∀ j, j ≠ neg → arr.getD j 0 ≤ 0 → (fillInner neg k arr).getD j 0 = arr.getD j 0) ∧
    (∀ j, j ≠ neg → 0 ≤ arr.getD j 0 → 0 ≤ (fillInner neg k arr).getD j 0) ∧
    (fillInner neg k arr).getD neg 0 ≤ 0 ∧
    ((fillInner neg k arr).getD neg 0 = 0 ∨
      ∀ j < k, j ≠ neg → (fillInner neg k arr).getD j 0 ≤ 0) := by
  induction k generalizing arr with
  | zero =>
    exact ⟨fun _ _ _ => rfl, fun _ _ h => h, hn, Or.inr (fun j hj => absurd hj (Nat.not_lt_zero j))⟩
  | succ k ih =>
    rw [fillInner_succ]
    split_ifs with h1 h2
    · obtain ⟨a, b, c, d⟩ := ih arr hn
      refine ⟨a, b, c, d.imp_right fun d j hj hjn => ?_⟩
      rcases Nat.lt_succ_iff_lt_or_eq.mp hj with hlt | rfl
      · exact d j hlt hjn
      · rcases h1 with h1 | h1
        · exact absurd h1 hjn
        · rw [a j hjn h1]; exact h1
    · push Not at h1
      obtain ⟨s1, s2, s3, _⟩ := fillStep_spec neg k arr h1.1 h1.2
      refine ⟨?_, ?_, s3, Or.inl h2⟩
      · intro j hjn hj
        exact s1 j hjn (fun h => absurd (h ▸ hj) (not_le.mpr h1.2))
      · intro j hjn hj
        by_cases hjk : j = k
        · rw [hjk]; exact s2
        · rw [s1 j hjn hjk]; exact hj
    · push Not at h1
      obtain ⟨s1, s2, s3, s4⟩ := fillStep_spec neg k arr h1.1 h1.2
      have s4 : (fillStep neg k arr).getD k 0 = 0 := s4.resolve_left h2
      obtain ⟨a, b, c, d⟩ := ih (fillStep neg k arr) s3
      refine ⟨?_, ?_, c, d.imp_right fun d j hj hjn => ?_⟩
      · intro j hjn hj
        have hjk : j ≠ k := fun h => absurd (h ▸ hj) (not_le.mpr h1.2)
        rw [a j hjn (by rw [s1 j hjn hjk]; exact hj), s1 j hjn hjk]
      · intro j hjn hj
        refine b j hjn ?_
        by_cases hjk : j = k
        · rw [hjk]; exact s2
        · rw [s1 j hjn hjk]; exact hj
      · rcases Nat.lt_succ_iff_lt_or_eq.mp hj with hlt | rfl
        · exact d j hlt hjn
        · rw [a j hjn s4.le, s4]

theorem sum_neg_of_getD (l : List K) (n : ℕ) (hn : l.getD n 0 < 0)
    (h : ∀ j, j ≠ n → l.getD j 0 ≤ 0) : l.sum < 0 := by
  have hnl : n < l.length := lt_length_of_getD_ne l n hn.ne
  have hs := sum_set_getD l n 0 hnl
  have hle : (l.set n 0).sum ≤ 0 := by
    refine (List.sum_le_card_nsmul _ 0 fun x hx => ?_).trans_eq (nsmul_zero _)
    obtain ⟨j, rfl⟩ := mem_getD _ _ hx
    rw [getD_set]
    split_ifs with hc
    · exact le_rfl
    · by_cases hjn : j = n
      · exact absurd ⟨hjn.symm, hnl⟩ hc
      · exact h j hjn
  linarith

theorem fillOuter_nonneg (ns : List ℕ) (arr : List K)
    (h1 : ∀ m ∈ ns, arr.getD m 0 ≤ 0) (h2 : ∀ j, arr.getD j 0 < 0 → j ∈ ns)
    (h3 : 0 ≤ arr.sum) : ∀ j, 0 ≤ (fillOuter ns arr).getD j 0 := by
  induction ns generalizing arr with
  | nil =>
    intro j
    by_contra hlt
    exact absurd (h2 j (not_le.mp hlt)) (by simp)
  | cons n t ih =>
    rw [fillOuter]
    obtain ⟨a, b, c, d⟩ := fillInner_spec n arr.length arr (h1 n (by simp))
    obtain ⟨hlen, hsum⟩ := fillInner_length_sum n arr.length arr
    -- the entry reaches 0: were it still negative, every other entry would be `≤ 0` and the sum,
    -- which the loop keeps, would be negative
    have hn0 : (fillInner n arr.length arr).getD n 0 = 0 := by
      rcases d with d | d
      · exact d
      · by_contra hne
        have hlt : (fillInner n arr.length arr).getD n 0 < 0 := lt_of_le_of_ne c hne
        have : (fillInner n arr.length arr).sum < 0 := by
          refine sum_neg_of_getD _ n hlt fun j hjn => ?_
          by_cases hjl : j < arr.length
          · exact d j hjl hjn
          · rw [List.getD_eq_default _ _ (by rw [hlen]; exact not_lt.mp hjl)]
        linarith
    -- the rest of `ns` is still `≤ 0` (untouched, or `n` itself, now 0) and still holds every negative index
    refine ih _ ?_ ?_ (by rw [hsum]; exact h3)
    · intro m hm
      by_cases hmn : m = n
      · rw [hmn, hn0]
      · rw [a m hmn (h1 m (by simp [hm]))]; exact h1 m (by simp [hm])
    · intro j hj
      have hjn : j ≠ n := fun h => by rw [h, hn0] at hj; exact lt_irrefl _ hj
      have : arr.getD j 0 < 0 := by
        by_contra hge
        exact absurd (b j hjn (not_lt.mp hge)) (not_le.mpr hj)
      rcases List.mem_cons.mp (h2 j this) with h | h
      · exact absurd h hjn
      · exact h

theorem redistribute_eq (r1 r2 out : List K) (hl : r1.length = r2.length)
    (h : redistribute r1 r2 = some out) :
    r1.sum ≤ r2.sum ∧ out = List.zipWith (· + ·) r1 (fillNeg (List.zipWith (· - ·) r2 r1)) := by
  unfold redistribute at h
  rw [lsum_eq_sum, lsum_eq_sum] at h
  -- the branch `r2.sum < r1.sum` returns `none` and contradicts `h`; the other one is left
  split_ifs at h with hlt
  refine ⟨not_lt.mp hlt, (Option.some.inj h).symm.trans (List.ext_getElem ?_ fun i h1 h2 => ?_)⟩
  · simp [fillNeg_length, hl]
  · simp only [List.getElem_zipWith]; ring

theorem mul_div_le_of_le {al D x : K} (hD : 0 < D) (hx : 0 ≤ x) (hal : al ≤ D) : al * (x / D) ≤ x :=
  (mul_le_mul_of_nonneg_right hal (div_nonneg hx hD.le)).trans_eq (mul_div_cancel₀ x hD.ne')

theorem split_bound (pb pf al ε : K) (hpb : 0 ≤ pb) (hpf : 0 ≤ pf) (hε : 0 < ε)
    (hal : al ≤ pb + pf) :
    max 0 (al * (pb / (pb + pf + ε))) ≤ pb ∧
    max 0 (al - al * (pb / (pb + pf + ε))) ≤ pf + ε := by
  have hD : 0 < pb + pf + ε := by positivity
  have hal' : al ≤ pb + pf + ε := by linarith
  have h2 : al - al * (pb / (pb + pf + ε)) = al * ((pf + ε) / (pb + pf + ε)) := by
    rw [← mul_one_sub, one_sub_div hD.ne']; congr 2; ring
  rw [h2]
  exact ⟨max_le hpb (mul_div_le_of_le hD hpb hal'),
    max_le (by positivity) (mul_div_le_of_le hD (by positivity) hal')⟩

/-- `bump1` with `np.minimum/np.maximum` read as `min/max` -/
theorem bump1_eq (b f inc mb mf av : K) :
    bump1 b f inc mb mf av =
      let pb := max (min (b + inc) mb - b) 0
      let pf := max (min (f + inc) mf - f) 0
      let al := if pb + pf + b + f ≤ av then pb + pf else av - b - f
      (b + max 0 (al * (pb / (pb + pf + 1e-9))), f + max 0 (al - al * (pb / (pb + pf + 1e-9)))) := by
  simp only [bump1, pmin'_eq_min, pmax'_eq_max]

theorem bump1_never_lowers (b f inc mb mf av : K) :
    b ≤ (bump1 b f inc mb mf av).1 ∧ f ≤ (bump1 b f inc mb mf av).2 := by
  rw [bump1_eq]
  exact ⟨le_add_of_nonneg_right (le_max_left _ _), le_add_of_nonneg_right (le_max_left _ _)⟩

theorem bump1_bounds (b f inc mb mf av : K) :
    (bump1 b f inc mb mf av).1 ≤ b + max (min (b + inc) mb - b) 0 ∧
    (bump1 b f inc mb mf av).2 ≤ f + max (min (f + inc) mf - f) 0 + 1e-9 := by
  rw [bump1_eq]
  extract_lets pb pf al
  have hal : al ≤ pb + pf := by
    unfold al
    split_ifs with h
    · exact le_rfl
    · linarith [not_le.mp h]
  obtain ⟨h1, h2⟩ := split_bound pb pf al (1e-9) (le_max_right _ _) (le_max_right _ _) (by norm_num) hal
  exact ⟨add_le_add_right h1 b, (add_le_add_right h2 f).trans_eq (add_assoc _ _ _).symm⟩

theorem add_clamp_le (x inc m : K) :
    max (min (x + inc) m - x) 0 = 0 ∨ x + max (min (x + inc) m - x) 0 ≤ m := by
  rcases le_total (min (x + inc) m - x) 0 with h | h
  · left; exact max_eq_right h
  · right
    rw [max_eq_left h]
    have := min_le_right (x + inc) m
    linarith

theorem bump1_within_ceiling (b f inc mb mf av : K) :
    ((bump1 b f inc mb mf av).1 = b ∨ (bump1 b f inc mb mf av).1 ≤ mb) ∧
    ((bump1 b f inc mb mf av).2 ≤ f + 1e-9 ∨ (bump1 b f inc mb mf av).2 ≤ mf + 1e-9) := by
  obtain ⟨h1, h2⟩ := bump1_bounds b f inc mb mf av
  obtain ⟨l1, l2⟩ := bump1_never_lowers b f inc mb mf av
  constructor
  · rcases add_clamp_le b inc mb with h | h
    · left
      rw [h, add_zero] at h1
      exact le_antisymm h1 l1
    · right; exact le_trans h1 h
  · rcases add_clamp_le f inc mf with h | h
    · left
      rw [h, add_zero] at h2
      exact h2
    · right; linarith

theorem bump1_within_max (b f inc mb mf av : K) :
    (bump1 b f inc mb mf av).1 ≤ max b mb ∧ (bump1 b f inc mb mf av).2 ≤ max f mf + 1e-9 := by
  obtain ⟨c1, c2⟩ := bump1_within_ceiling b f inc mb mf av
  refine ⟨c1.elim (fun h => h.le.trans (le_max_left _ _)) fun h => h.trans (le_max_right _ _), ?_⟩
  exact c2.elim (fun h => h.trans (add_le_add (le_max_left _ _) le_rfl))
    fun h => h.trans (add_le_add (le_max_right _ _) le_rfl)

theorem increase1_eq (u c a b : K) (hu : 0 < u) :
    increase1 u c a b = max 0 (u * ((b - a) / 2) - c) / u := by
  have h2 : (2.0 : K) = 2 := by norm_num
  simp only [increase1, h2, one_div_mul_cancel hu.ne', div_one, one_mul, mul_one, ite_neg_eq_max]
  ring

theorem increase1_nonneg (u c a b : K) (hu : 0 < u) : 0 ≤ increase1 u c a b := by
  rw [increase1_eq u c a b hu]
  exact div_nonneg (le_max_left _ _) hu.le

theorem increase1_le_half_extra (u c a b : K) (hu : 0 < u) (hc : 0 ≤ c) :
    increase1 u c a b ≤ max 0 ((b - a) / 2) := by
  rw [increase1_eq u c a b hu, div_le_iff₀ hu]
  refine max_le (mul_nonneg (le_max_left _ _) hu.le) ?_
  exact (sub_le_self _ hc).trans ((mul_comm _ _).trans_le
    (mul_le_mul_of_nonneg_right (le_max_right _ _) hu.le))

theorem increase1_zero_iff (u c a b : K) (hu : 0 < u) :
    increase1 u c a b = 0 ↔ (b - a) / 2 * u ≤ c := by
  rw [increase1_eq u c a b hu, div_eq_zero_iff, or_iff_left hu.ne', max_eq_left_iff, sub_nonpos,
    mul_comm]

theorem thirdRoundIncrease_length (u c : K) (m1 m3 : List K) :
    (thirdRoundIncrease u c m1 m3).length = min m1.length m3.length := by
  unfold thirdRoundIncrease; exact List.length_zipWith

theorem thirdRoundIncrease_getD (u c : K) (m1 m3 : List K) (k : Nat)
    (hk : k < (thirdRoundIncrease u c m1 m3).length) :
    (thirdRoundIncrease u c m1 m3).getD k 0 = increase1 u c (m1.getD k 0) (m3.getD k 0) := by
  have hk' := hk
  rw [thirdRoundIncrease_length] at hk'
  have h1 : k < m1.length := lt_of_lt_of_le hk' (min_le_left _ _)
  have h3 : k < m3.length := lt_of_lt_of_le hk' (min_le_right _ _)
  rw [List.getD_eq_getElem _ _ hk, List.getD_eq_getElem _ _ h1, List.getD_eq_getElem _ _ h3]
  exact List.getElem_zipWith

theorem bumpAll_getD (b f inc mb mf av : List K) (k : Nat)
    (hk : k < (bumpAll b f inc mb mf av).length) :
    (bumpAll b f inc mb mf av).getD k (0, 0) =
      bump1 (b.getD k 0) (f.getD k 0) (inc.getD k 0) (mb.getD k 0) (mf.getD k 0) (av.getD k 0) := by
  fun_induction bumpAll b f inc mb mf av generalizing k with
  | case1 b bs f fs i is m ms n ns a as ih =>
    cases k with
    | zero => rfl
    | succ k => exact ih k (by simpa using hk)
  | case2 => simp at hk

end Allfed.Proofs
