import AllfedModel.Model.Validators
import AllfedModel.Proofs.Report
import AllfedModel.Proofs.Handoff
/-!
What the proofs of `Props/C16.lean` about the built-in validators (`Model/Validators.lean`, the model of
`validate_results.py`) share: the number layer, sufficient conditions for single sweeps and scans, and the series a point
of `buildLP` is reported as (`reportedFoods`: the percent series of `Report.foodsPercent`, which C04's
correspondence ties to the real `Interpreter`; `feedSources`, `biofuelSources`: the same quantities as the feed
and biofuel entries of `Report.nonhumanMonth`, defined here in the order of `sum_feed_sources`; no lemma
relates the two).
-/
namespace Allfed.Proofs.Validators
open Allfed.LP Allfed.AllocLP Allfed.PhysSpec Allfed.Validators Allfed.Report Allfed.Handoff

set_option linter.unusedSectionVars false
set_option linter.unusedVariables false

variable {K : Type} [Field K] [LinearOrder K] [IsStrictOrderedRing K]

theorem isZero_iff (v : K) : isZero v = true ↔ v = 0 := by
  simp only [isZero, Bool.and_eq_true, decide_eq_true_eq]
  exact le_antisymm_iff.symm

theorem isZero_zero : isZero (0 : K) = true := (isZero_iff 0).mpr rfl

theorem isZero_false_iff (v : K) : isZero v = false ↔ v ≠ 0 := by
  rw [← Bool.not_eq_true, isZero_iff]

theorem notNan_true (v : K) : notNan v = true := decide_eq_true le_rfl

theorem absv_eq_abs (v : K) : absv v = |v| := by
  unfold absv
  split_ifs with h
  · exact (abs_of_neg h).symm
  · exact (abs_of_nonneg (not_lt.mp h)).symm

theorem outcome_ofBool_true : Outcome.ofBool true = .pass := rfl
theorem ofBool_eq_pass {b : Bool} : Outcome.ofBool b = .pass ↔ b = true := by
  cases b <;> simp [Outcome.ofBool]
theorem ofBool_eq_raised {b : Bool} : Outcome.ofBool b = .raised ↔ b = false := by
  cases b <;> simp [Outcome.ofBool]

/-- a relative tolerance `ε ≥ 0` on a non-negative quantity only loosens a test -/
theorem mul_one_sub_le {a e : K} (ha : 0 ≤ a) (he : 0 ≤ e) : a * (1 - e) ≤ a :=
  mul_le_of_le_one_right ha (sub_le_self 1 he)

theorem le_mul_one_add {a e : K} (ha : 0 ≤ a) (he : 0 ≤ e) : a ≤ a * (1 + e) :=
  le_mul_of_one_le_right ha (le_add_of_nonneg_right he)

theorem divLe_of_nonpos {a b c : K} (ha : a ≤ 0) (hb : 0 < b) (hc : 0 ≤ c) : divLe a b c = true := by
  rw [divLe, if_neg (by rw [isZero_iff]; exact hb.ne'), decide_eq_true_eq]
  exact (div_nonpos_of_nonpos_of_nonneg ha hb.le).trans hc

theorem allGe_of_nonneg {thr : K} (hthr : 0 ≤ thr) {l : List K} (h : ∀ v ∈ l, 0 ≤ v) : allGe thr l = true :=
  List.all_eq_true.2 fun v hv => decide_eq_true ((neg_nonpos.2 hthr).trans (h v hv))

theorem allRounded6Ge0_of_nonneg {l : List K} (h : ∀ v ∈ l, 0 ≤ v) : allRounded6Ge0 l = true :=
  List.all_eq_true.2 fun v hv =>
    decide_eq_true (le_trans (by norm_num) (mul_nonneg (h v hv) (by norm_num : (0 : K) ≤ 1e6)))

def NutrNonneg (f : Nutr K) : Prop :=
  (∀ v ∈ f.kcals, 0 ≤ v) ∧ (∀ v ∈ f.fat, 0 ≤ v) ∧ ∀ v ∈ f.protein, 0 ≤ v

theorem foodAll_of_nonneg (fl : Flags) {p : List K → Bool} (hp : ∀ l : List K, (∀ v ∈ l, 0 ≤ v) → p l = true)
    {f : Nutr K} (h : NutrNonneg f) : foodAll fl p f = true := by
  simp only [foodAll, hp _ h.1, hp _ h.2.1, hp _ h.2.2, Bool.true_or, Bool.and_self]

theorem ensureAllGe0_of_nonneg (fl : Flags) (r : Foods K)
    (h1 : NutrNonneg r.cellSugar) (h2 : NutrNonneg r.scp) (h3 : NutrNonneg r.greenhouse)
    (h4 : NutrNonneg r.fish) (h5 : NutrNonneg r.meat) (h6 : NutrNonneg r.milk) (h7 : NutrNonneg r.newStored) :
    ensureAllGe0 fl r = .pass := by
  have e6 : ∀ l : List K, (∀ v ∈ l, 0 ≤ v) → allGe 1e-6 l = true := fun l => allGe_of_nonneg (by norm_num)
  have e0 : ∀ l : List K, (∀ v ∈ l, 0 ≤ v) → allGe 0 l = true := fun l => allGe_of_nonneg le_rfl
  have er : ∀ l : List K, (∀ v ∈ l, 0 ≤ v) → allRounded6Ge0 l = true := fun l => allRounded6Ge0_of_nonneg
  simp only [ensureAllGe0, foodAll_of_nonneg fl e6 h1, foodAll_of_nonneg fl e6 h2, foodAll_of_nonneg fl er h3,
    foodAll_of_nonneg fl e0 h4, foodAll_of_nonneg fl er h5, foodAll_of_nonneg fl e0 h6,
    foodAll_of_nonneg fl e0 h7, Bool.and_self, outcome_ofBool_true]

theorem nutrNoNan_true (f : Nutr K) : nutrNoNan f = true := by
  have h : ∀ l : List K, l.all notNan = true := fun l => List.all_eq_true.2 fun v _ => notNan_true v
  simp only [nutrNoNan, h, Bool.and_self]

theorem zeroWhereZero_of_linear (a : List K) (ck co : K) (hck : ck ≠ 0) :
    zeroWhereZero (a.map (· * ck)) (a.map (· * co)) = true := by
  induction a with
  | nil => rfl
  | cons v t ih =>
    simp only [List.map_cons, zeroWhereZero, ih, Bool.and_true, Bool.or_eq_true, Bool.not_eq_true',
      isZero_false_iff, isZero_iff]
    by_cases hv : v = 0
    · right; rw [hv, zero_mul]
    · left; exact mul_ne_zero hv hck

theorem optimizerSameAsSum_of_floor (z h : K) (code : String) (hz : z ≤ 10000)
    (hfloor : z * 0.99995 ≤ h) (hle : h ≤ z) : optimizerSameAsSum z h code = .pass := by
  unfold optimizerSameAsSum
  -- `0 ≤ z − h ≤ 0.00005·z ≤ 0.00005·10000 = 0.5`
  split_ifs <;> simp only [ofBool_eq_pass, Bool.and_eq_true, decide_eq_true_eq]
  · linarith
  · constructor <;> linarith

theorem normal_eval (x : Var → K) (r : Row K) :
    Aff.sumTerms x r.normal.terms - -r.normal.const = Aff.eval x r.lhs - Aff.eval x r.rhs := by
  rw [← Proofs.LP.eval_sub, sub_neg_eq_add]; rfl

theorem checkRow_iff_rowExcess (tol : K) (x : Var → K) (r : Row K) :
    checkRow tol x r = true ↔
      (r.rel = .eq → ∀ e ∈ rowExcess x r, e.value < tol) ∧ (r.rel ≠ .eq → ∀ e ∈ rowExcess x r, e.value ≤ tol) := by
  have hn := normal_eval x r
  obtain ⟨n, l, rel, rh⟩ := r
  cases rel <;> simp only [checkRow, rowExcess, decide_eq_true_eq, List.forall_mem_singleton, List.forall_mem_cons,
    reduceCtorEq, ne_eq, not_true_eq_false, not_false_eq_true, false_imp_iff, true_and, and_true, forall_const]
  · rw [hn]
  · rw [absv_eq_abs, abs_sub_comm, hn, abs_lt, neg_lt, neg_sub, and_comm]
  · rw [← neg_sub, hn, neg_sub]

theorem checkRow_of_holds (tol : K) (htol : 0 < tol) (x : Var → K) (r : Row K) (h : r.holds x) :
    checkRow tol x r = true :=
  have h0 := (Proofs.LP.rowExcess_iff x r).mp h
  (checkRow_iff_rowExcess tol x r).mpr
    ⟨fun _ e he => (h0 e he).trans_lt htol, fun _ e he => (h0 e he).trans htol.le⟩

theorem floorBelowOne_mono {a b : K} (h : b ≤ a) : floorBelowOne b ≤ floorBelowOne a := by
  unfold floorBelowOne
  split_ifs with h1 h2 h2
  · exact le_rfl
  · exact zero_le_one.trans (not_lt.mp h2)
  · exact absurd (h.trans_lt h2) h1
  · exact h

theorem popSeriesOK_of_antitone (eps : K) (heps : 0 < eps) (s : List K) (h0 : ∀ v ∈ s, 0 ≤ v)
    (hdec : s.IsChain (fun a b => b ≤ a)) : popSeriesOK eps s = true := by
  induction s with
  | nil => rfl
  | cons a t ih =>
    cases t with
    | nil => rfl
    | cons b t' =>
      rw [List.isChain_cons_cons] at hdec
      rw [popSeriesOK, Bool.and_eq_true]
      refine ⟨divLe_of_nonpos (sub_nonpos.2 (floorBelowOne_mono hdec.1)) ?_ heps.le,
        ih (fun v hv => h0 v (List.mem_cons_of_mem _ hv)) hdec.2⟩
      -- the divisor: the herd itself, or `eps` for an empty herd
      split_ifs with hz
      · exact heps
      · exact (h0 a List.mem_cons_self).lt_of_ne' (by rwa [isZero_iff] at hz)

theorem round2Loop_of_ge (eps small : K) (heps : 0 ≤ eps) (d2 d1 : List (String × List K))
    (h : ∀ kv ∈ d1, ∃ s2, d2.lookup kv.1 = some s2 ∧ 0 ≤ lsum kv.2 ∧ lsum kv.2 ≤ lsum s2) :
    round2Loop eps small d2 d1 = some true := by
  induction d1 with
  | nil => rfl
  | cons kv t ih =>
    obtain ⟨s2, hl, h0, hle⟩ := h kv List.mem_cons_self
    have hpass : lsum kv.2 * (1 - eps) ≤ lsum s2 := (mul_one_sub_le h0 heps).trans hle
    simp only [round2Loop, hl, decide_eq_true hpass, Bool.or_true, if_true]
    exact ih fun kv hkv => h kv (List.mem_cons_of_mem _ hkv)

theorem minConsumptionSum_of_le (fl : Flags) (eps kd : K) (heps : 0 ≤ eps) (hkd : 0 ≤ kd) (months : List (List K))
    (h : ∀ row ∈ months, row.sum ≤ kd) : (minConsumptionSum fl eps kd months).ok = true := by
  unfold minConsumptionSum
  split_ifs
  · rfl
  · rw [List.all_eq_true.2 fun row hrow =>
      decide_eq_true ((lsum_eq_sum row).trans_le ((h row hrow).trans (le_mul_one_add hkd heps)))]
    rfl

/-- Invariant of the scan: the cap is exhausted (everything from here on is used 0 %), or every food so far was used
    in full (`prev` is 100 or more). -/
theorem prioMonth_fill (eps : K) (heps : 0 ≤ eps) (rem prev : K) (hrem : 0 ≤ rem) (hinv : rem = 0 ∨ 100 ≤ prev)
    (foods : List K) (hf : ∀ f ∈ foods, 0 ≤ f) :
    prioMonth eps prev ((fillMonth rem foods).zip foods) = true := by
  induction foods generalizing rem prev with
  | nil => rfl
  | cons f t ih =>
    have hf0 : 0 ≤ f := hf f List.mem_cons_self
    have next : ∀ p, (rem - min f rem = 0 ∨ 100 ≤ p) →
        prioMonth eps p ((fillMonth (rem - min f rem) t).zip t) = true := fun p hp =>
      ih _ p (sub_nonneg.2 (min_le_right _ _)) hp fun g hg => hf g (List.mem_cons_of_mem _ hg)
    have hinv' : rem - min f rem = 0 ∨ 100 ≤ prev :=
      hinv.imp_left fun h => by rw [h, min_eq_right hf0, sub_self]
    rw [fillMonth_cons, List.zip_cons_cons, prioMonth]
    by_cases hfe : f ≤ eps
    · rw [if_pos hfe]; exact next prev hinv'
    · have hfpos : 0 < f := heps.trans_lt (not_le.1 hfe)
      rw [if_neg hfe, if_neg (by rw [isZero_iff]; exact hfpos.ne')]
      simp only [sci_100]
      split_ifs with h1 h2
      · exact next prev hinv'
      · -- used in full (100 %), or the cap ran out inside this food
        refine next _ ?_
        rcases le_total f rem with hle | hle
        · right; rw [min_eq_left hle, mul_div_assoc, div_self hfpos.ne', mul_one]
        · left; rw [min_eq_right hle, sub_self]
      · -- the percentage is 0 if the cap was exhausted before, and at most `100 ≤ prev` otherwise
        exfalso
        rcases hinv with h0 | h100
        · exact h1 (by rw [h0, min_eq_right hf0, mul_zero, zero_div]; exact heps)
        · have hp : 100 * min f rem / f ≤ 100 :=
            (div_le_iff₀ hfpos).2 (mul_le_mul_of_nonneg_left (min_le_left _ _) (by norm_num))
          exact h2 ((hp.trans h100).trans (le_mul_one_add (le_trans (by norm_num) h100) heps))

theorem all_zipWith_of_forall₂ {R : K → K → Prop} {p : K → K → Bool} (hp : ∀ a b, R a b → p a b = true)
    {l1 l2 : List K} (h : List.Forall₂ R l1 l2) : (List.zipWith p l1 l2).all id = true := by
  induction h with
  | nil => rfl
  | cons hab _ ih => simp only [List.zipWith_cons_cons, List.all_cons, id, hp _ _ hab, ih, Bool.and_self]

theorem toBillionKcals_mul (mult v : K) (hm : mult ≠ 0) : toBillionKcals mult (v * mult) = v := by
  rw [toBillionKcals, mul_one, mul_comm v, one_div, inv_mul_cancel_left₀ hm]

theorem usedBelowDemand_of_le (eps mult : K) (heps : 0 ≤ eps) (demand : List K) (sources : List (List K))
    (hne : sources ≠ [])
    (h : List.Forall₂ (fun d t => 0 ≤ toBillionKcals mult t ∧ toBillionKcals mult t ≤ d) demand (sumSeries sources)) :
    usedBelowDemand ⟨false, false⟩ eps mult demand sources = some .pass := by
  unfold usedBelowDemand
  simp only [Bool.or_self, Bool.false_eq_true, if_false]
  rw [if_neg (by rwa [List.isEmpty_iff]), if_neg (not_not.2 h.length_eq.symm),
    all_zipWith_of_forall₂ (fun d t hdt => decide_eq_true ?_) h]
  · rfl
  · exact lt_of_lt_of_le (by norm_num) (sub_nonneg.2 ((mul_one_sub_le hdt.1 heps).trans hdt.2))

def monthly (n : Nat) (f : Nat → K) : List K := (List.range n).map f

theorem mem_monthly {n : Nat} {f : Nat → K} {v : K} : v ∈ monthly n f ↔ ∃ m, m < n ∧ f m = v := by
  simp only [monthly, List.mem_map, List.mem_range]

theorem zipWith_add_monthly (n : Nat) (f g : Nat → K) :
    List.zipWith (· + ·) (monthly n f) (monthly n g) = monthly n (fun m => f m + g m) := by
  simp only [monthly, List.zipWith_map, List.zipWith_self]

theorem forall₂_monthly {R : K → K → Prop} (n : Nat) (f g : Nat → K) (h : ∀ m, m < n → R (f m) (g m)) :
    List.Forall₂ R (monthly n f) (monthly n g) := by
  unfold monthly
  rw [List.forall₂_map_left_iff, List.forall₂_map_right_iff, List.forall₂_same]
  exact fun m hm => h m (List.mem_range.mp hm)

/-- the fat / protein columns when they are switched off (the interpreter carries zeros) -/
def nutrOf (n : Nat) (f : Nat → K) : Nutr K := ⟨monthly n f, List.replicate n 0, List.replicate n 0⟩

/-- the eleven percent series of `Interpreter` for the allocation `x` (`Report.foodsPercent`, order of
    `get_sum_by_adding_to_humans`; outdoor crops split by `Report.splitCrops` against `produced`) -/
def reportedFoods (i : Inp K) (x : Var → K) (produced : Nat → K) : Foods K :=
  let pct (j : Nat) : Nat → K := fun m => (foodsPercent i x m).getD j 0
  let sp (m : Nat) : K × K := splitCrops (produced m) (valIf x i.addOutdoor .cropHumans m)
  { storedFood := nutrOf i.nmonths (pct 0), outdoorCrops := nutrOf i.nmonths (pct 1), seaweed := nutrOf i.nmonths (pct 2),
    cellSugar := nutrOf i.nmonths (pct 3), scp := nutrOf i.nmonths (pct 4), greenhouse := nutrOf i.nmonths (pct 5),
    fish := nutrOf i.nmonths (pct 6), meat := nutrOf i.nmonths (pct 7), milk := nutrOf i.nmonths (pct 8),
    immediate := nutrOf i.nmonths (fun m => toPercent i (billionsFed i 1 (sp m).1)),
    newStored := nutrOf i.nmonths (fun m => toPercent i (billionsFed i 1 (sp m).2)) }

theorem nutrNonneg_nutrOf (n : Nat) (f : Nat → K) (h : ∀ m, m < n → 0 ≤ f m) : NutrNonneg (nutrOf n f) := by
  refine ⟨fun v hv => ?_, fun v hv => (List.eq_of_mem_replicate hv).ge, fun v hv => (List.eq_of_mem_replicate hv).ge⟩
  obtain ⟨m, hm, rfl⟩ := mem_monthly.mp hv
  exact h m hm

theorem toPercent_nonneg (i : Inp K) (hkm : 0 < i.kcalsMonthly) (hb : 0 < i.billionKcalsNeeded) {b : K} (h : 0 ≤ b) :
    0 ≤ toPercent i b := by
  rw [Proofs.Report.toPercent_eq]; positivity

theorem billionsFed_nonneg (i : Inp K) (hkm : 0 < i.kcalsMonthly) {ratio v : K} (hr : 0 ≤ ratio) (hv : 0 ≤ v) :
    0 ≤ billionsFed i ratio v :=
  mul_nonneg hv (div_nonneg hr hkm.le)

theorem splitCrops_snd_nonneg (p e : K) : 0 ≤ (splitCrops p e).2 := by
  unfold splitCrops
  split_ifs with h
  · exact sub_nonneg.mpr h
  · exact le_rfl

/-- billion kcals → percent people fed (`100 / billion_kcals_needed`, C10) -/
def pctOf (i : Inp K) (v : K) : K := v * (100 / i.billionKcalsNeeded)

/-- the five series of `sum_feed_sources`, in its order: sugar, SCP, seaweed, outdoor crops, stored food -/
def feedSources (i : Inp K) (x : Var → K) : List (List K) :=
  [ monthly i.nmonths (fun m => pctOf i (X x i.addCs .csFeed m)),
    monthly i.nmonths (fun m => pctOf i (X x i.addScp .scpFeed m)),
    monthly i.nmonths (fun m => pctOf i (X x i.addSeaweed .swFeed m * i.seaweedKcals)),
    monthly i.nmonths (fun m => pctOf i (X x i.addOutdoor .cropFeed m)),
    monthly i.nmonths (fun m => pctOf i (X x i.addStored .sfFeed m)) ]

def biofuelSources (i : Inp K) (x : Var → K) : List (List K) :=
  [ monthly i.nmonths (fun m => pctOf i (X x i.addCs .csBiofuel m)),
    monthly i.nmonths (fun m => pctOf i (X x i.addScp .scpBiofuel m)),
    monthly i.nmonths (fun m => pctOf i (X x i.addSeaweed .swBiofuel m * i.seaweedKcals)),
    monthly i.nmonths (fun m => pctOf i (X x i.addOutdoor .cropBiofuel m)),
    monthly i.nmonths (fun m => pctOf i (X x i.addStored .sfBiofuel m)) ]

theorem sumSeries_feedSources (i : Inp K) (x : Var → K) :
    sumSeries (feedSources i x) = monthly i.nmonths (fun m => pctOf i (feedTotal i x m)) := by
  simp only [feedSources, sumSeries, List.foldl_cons, List.foldl_nil, zipWith_add_monthly]
  congr 1; funext m; unfold pctOf feedTotal; ring

theorem sumSeries_biofuelSources (i : Inp K) (x : Var → K) :
    sumSeries (biofuelSources i x) = monthly i.nmonths (fun m => pctOf i (biofuelTotal i x m)) := by
  simp only [biofuelSources, sumSeries, List.foldl_cons, List.foldl_nil, zipWith_add_monthly]
  congr 1; funext m; unfold pctOf biofuelTotal; ring

theorem usedBelowDemand_of_total_le (i : Inp K) (eps : K) (heps : 0 ≤ eps) (hb : 0 < i.billionKcalsNeeded)
    (dem tot : Nat → K) (sources : List (List K)) (hne : sources ≠ [])
    (hsum : sumSeries sources = monthly i.nmonths (fun m => pctOf i (tot m)))
    (h : ∀ m, m < i.nmonths → 0 ≤ tot m ∧ tot m ≤ dem m) :
    usedBelowDemand ⟨false, false⟩ eps (100 / i.billionKcalsNeeded) (monthly i.nmonths dem) sources = some .pass := by
  refine usedBelowDemand_of_le eps _ heps _ _ hne (hsum ▸ forall₂_monthly _ _ _ fun m hm => ?_)
  rw [pctOf, toBillionKcals_mul _ _ (div_pos (by norm_num) hb).ne']
  exact h m hm

theorem usedBelowDemand_of_within (i : Inp K) (x : Var → K) (fd bd : List K) (eps : K) (heps : 0 ≤ eps)
    (hx : ∀ v, 0 ≤ x v) (hbk : 0 < i.billionKcalsNeeded) (hk : 0 ≤ i.seaweedKcals)
    (h : ∀ m, m < i.nmonths → feedTotal i x m ≤ at' fd m ∧ biofuelTotal i x m ≤ at' bd m) :
    usedBelowDemand ⟨false, false⟩ eps (100 / i.billionKcalsNeeded) (monthly i.nmonths (at' fd)) (feedSources i x) = some .pass ∧
    usedBelowDemand ⟨false, false⟩ eps (100 / i.billionKcalsNeeded) (monthly i.nmonths (at' bd)) (biofuelSources i x) = some .pass :=
  ⟨usedBelowDemand_of_total_le i eps heps hbk _ _ _ (List.cons_ne_nil _ _) (sumSeries_feedSources i x) fun m hm =>
      ⟨(Proofs.LP.feed_biofuel_nonneg i hx hk m).1, (h m hm).1⟩,
   usedBelowDemand_of_total_le i eps heps hbk _ _ _ (List.cons_ne_nil _ _) (sumSeries_biofuelSources i x) fun m hm =>
      ⟨(Proofs.LP.feed_biofuel_nonneg i hx hk m).2, (h m hm).2⟩⟩

theorem optimizerSameAsSum_of_feasible (i : Inp K) (x : Var → K) (zopt : K) (code : String)
    (hopt : ∀ x', Feasible (buildLP i .toHumans) x' → x' .objective ≤ zopt)
    (h : Feasible (buildLP i .toHumans ++ floorRows i .toHumans zopt) x)
    (hkm : i.kcalsMonthly ≠ 0) (hN : 0 < i.nmonths) (hz : 0 ≤ zopt) (hz4 : zopt ≤ 10000) :
    optimizerSameAsSum zopt (headline i x) code = .pass :=
  optimizerSameAsSum_of_floor zopt (headline i x) code hz4
    (Proofs.Report.headline_ge_floor i x zopt h hkm hN)
    (Proofs.Report.headline_le_optimum i x zopt hopt (Proofs.LP.extra_rows_preserve _ _ x h) hkm hN)

open Allfed.Proofs.LP

/-- the small-country branch has no `abs`: a headline 900 points ABOVE the optimum passes there, fails elsewhere -/
theorem optimizerSameAsSum_small_country_one_sided :
    optimizerSameAsSum (100 : ℚ) 1000 "EST" = .pass ∧ optimizerSameAsSum (100 : ℚ) 1000 "USA" = .raised := by
  decide +kernel

def eqRow : Row ℚ := ⟨"row", Aff.var (.mv .sfStart 0), .eq, Aff.k 1⟩
def eqX : Var → ℚ := fun _ => 1

/-- a model without rows ends in `max([])`: the ValueError of the code -/
theorem checkConstraints_empty (tol : ℚ) (x : Var → ℚ) : checkConstraints tol [] [] x = none := rfl

/-- ODD paths of `assert_population_not_increasing`: a herd below one head is a divisor although it counts as zero (0.5 → 1 head is
    "+200 %"); a negative head count flips the comparison; with ε = 0 a herd that stays at zero fails (numpy: 0/0) -/
theorem population_odd_paths :
    popSeriesOK (1/10 : ℚ) [1/2, 1] = false ∧ popSeriesOK (1/10 : ℚ) [-1, 5] = true ∧
      popSeriesOK (0 : ℚ) [0, 0] = false ∧ popSeriesOK (1/10 : ℚ) [0, 0] = true := by
  decide +kernel

/-- `milk_kcals_round2` is never read -/
theorem meatDairy_ignores_round2_milk (eps : ℚ) (m1 m2 k1 k2 k2' : List ℚ) :
    meatDairyNotDecreasing eps m1 m2 k1 k2 = meatDairyNotDecreasing eps m1 m2 k1 k2' := rfl

/-! ### three rounds on one small instance: crops only, two months, 100 billion kcals needed a month

round 1: 300 + 300 harvested, nothing charged: people eat 300 % each month;
round 2: people pinned to 100 (threshold 100 %), herds can take at most 50 a month: 50 is fed each month;
round 3: charged 250 a month (≤ the demand of 250; C03/C18 bound the final charge by DEMAND, not by what round 2 drew):
         people get 50 % each month, which is the optimum of that programme. -/

def cexBase : Inp ℚ :=
  { emptyInst with nmonths := 2, addOutdoor := true, cropProd := [300, 300], kcalsMonthly := 1, pop := 100000000000 }

def cexI1 : Inp ℚ := cexBase
def cexI2 : Inp ℚ := { cexBase with minCrops := [100, 100], maxFeed := [50, 50] }
def cexI3 : Inp ℚ := { cexBase with feed := [250, 250] }

def cexX1 : Var → ℚ
  | .mv .cropHumans m => [300, 300].getD m 0
  | .mv .cropConsumed m => [300, 300].getD m 0
  | .mv .consumedKcals m => [300, 300].getD m 0
  | .objective => 300
  | _ => 0

def cexX2 : Var → ℚ
  | .mv .cropHumans m => [100, 100].getD m 0
  | .mv .cropFeed m => [50, 50].getD m 0
  | .mv .cropConsumed m => [150, 150].getD m 0
  | .mv .cropStorage m => [150, 300].getD m 0
  | .objective => 200/3
  | _ => 0

def cexX3 : Var → ℚ
  | .mv .cropHumans m => [50, 50].getD m 0
  | .mv .cropFeed m => [250, 250].getD m 0
  | .mv .cropConsumed m => [300, 300].getD m 0
  | .mv .consumedKcals m => [50, 50].getD m 0
  | .objective => 50
  | _ => 0

theorem cexX1_nonneg : ∀ v, 0 ≤ cexX1 v := by
  intro v
  cases v with
  | mv k m => cases k <;> first | exact le_rfl | exact getD_nonneg _ (by decide +kernel) m
  | objective => show (0 : ℚ) ≤ 300; norm_num
  | objectiveBest => exact le_rfl

theorem cexX2_nonneg : ∀ v, 0 ≤ cexX2 v := by
  intro v
  cases v with
  | mv k m => cases k <;> first | exact le_rfl | exact getD_nonneg _ (by decide +kernel) m
  | objective => show (0 : ℚ) ≤ 200/3; norm_num
  | objectiveBest => exact le_rfl

theorem cexX3_nonneg : ∀ v, 0 ≤ cexX3 v := by
  intro v
  cases v with
  | mv k m => cases k <;> first | exact le_rfl | exact getD_nonneg _ (by decide +kernel) m
  | objective => show (0 : ℚ) ≤ 50; norm_num
  | objectiveBest => exact le_rfl

theorem cex_feasible :
    Feasible (buildLP cexI1 .toHumans) cexX1 ∧ Feasible (buildLP cexI2 .toAnimals) cexX2 ∧ Feasible (buildLP cexI3 .toHumans) cexX3 :=
  ⟨⟨rows_hold_of_all _ _ (by decide +kernel), cexX1_nonneg⟩, ⟨rows_hold_of_all _ _ (by decide +kernel), cexX2_nonneg⟩,
    ⟨rows_hold_of_all _ _ (by decide +kernel), cexX3_nonneg⟩⟩

/-- the kcals-equivalent series (`Report.toKcalsEquiv`) the round-relation validators read: the eight round-2
    series and the ten round-3 series of `assert_fewer_calories_round2_than_round3`, crops split against the harvest -/
def keq (i : Inp ℚ) (kd : ℚ) (x : Var → ℚ) (j : Nat) : List ℚ :=
  monthly i.nmonths (fun m => toKcalsEquiv i kd ((foodsBillions i x m).getD j 0))

def keqSplit (i : Inp ℚ) (kd : ℚ) (x : Var → ℚ) (first : Bool) : List ℚ :=
  monthly i.nmonths (fun m =>
    let sp := splitCrops (at' i.cropProd m) (valIf x i.addOutdoor .cropHumans m)
    toKcalsEquiv i kd (billionsFed i 1 (if first then sp.1 else sp.2)))

def round2Series (i : Inp ℚ) (kd : ℚ) (x : Var → ℚ) : List (List ℚ) :=
  [keq i kd x 6, keq i kd x 3, keq i kd x 4, keq i kd x 5, keq i kd x 2, keqSplit i kd x true, keqSplit i kd x false, keq i kd x 0]

def round3Series (i : Inp ℚ) (kd : ℚ) (x : Var → ℚ) : List (List ℚ) :=
  [keq i kd x 6, keq i kd x 3, keq i kd x 4, keq i kd x 5, keq i kd x 2, keq i kd x 8, keq i kd x 7,
   keqSplit i kd x true, keqSplit i kd x false, keq i kd x 0]

/-- `feed_sum_kcals_equivalent` / `biofuels_sum_kcals_equivalent` -/
def feedKeq (i : Inp ℚ) (kd : ℚ) (x : Var → ℚ) : List ℚ :=
  monthly i.nmonths (fun m => toKcalsEquiv i kd (billionsFed i 1 (feedTotal i x m)))
def biofuelKeq (i : Inp ℚ) (kd : ℚ) (x : Var → ℚ) : List ℚ :=
  monthly i.nmonths (fun m => toKcalsEquiv i kd (billionsFed i 1 (biofuelTotal i x m)))

/-- 50 % is the optimum of round 3 (so the witness is not an artefact of a poor feasible point): 600 harvested,
    500 charged as feed, 100 left for two months -/
theorem cex_round3_optimal (x : Var → ℚ) (h : Feasible (buildLP cexI3 .toHumans) x) : x .objective ≤ 50 := by
  have hon : cexI3.addOutdoor = true := rfl
  have hany : anyFeedVar cexI3 = true := rfl
  have o0 := objective_le_month (m := 0) h (by decide)
  have o1 := objective_le_month (m := 1) h (by decide)
  have k0 := kcals_fed (m := 0) h (by decide)
  have k1 := kcals_fed (m := 1) h (by decide)
  have c := crop_cumulative (m := 1) h hon (by decide)
  have f0 := (feed_biofuel_eq_charge (m := 0) h hany (by decide)).1
  have f1 := (feed_biofuel_eq_charge (m := 1) h hany (by decide)).1
  have nb0 := h.2 (.mv .cropBiofuel 0)
  have nb1 := h.2 (.mv .cropBiofuel 1)
  simp only [humanTotal, cexI3, cexBase, emptyInst, X, feedTotal, cropUse, grossUp, cum, at', List.getD_cons_zero, List.getD_cons_succ,
    List.getD_nil, Bool.false_eq_true, if_false, if_true] at k0 k1 c f0 f1
  norm_num at k0 k1 c f0 f1
  linarith

/-! ### the headline check on an exactly feasible, floor-respecting point of a programme whose optimum is 20 000 %

two months, need 100; 20 000 of stored food that cannot be carried into a second year (so nothing forces it to be
eaten: D14), fish only in month 1.  Optimum: eat the whole stock in month 0 (20 000 %).  The reported point eats
19 999: it satisfies the floors `0.99995·z` of the later solves, its headline is 19 999 %, one point below the optimum. -/

def bigI : Inp ℚ :=
  { emptyInst with nmonths := 2, addStored := true, storeBetweenYears := false, storedInitial := 20000,
                   fish := [0, 30000], kcalsMonthly := 1, pop := 100000000000 }

def bigX : Var → ℚ
  | .mv .sfStart m => [20000, 1].getD m 0
  | .mv .sfEnd m => [1, 1].getD m 0
  | .mv .sfHumans m => [19999, 0].getD m 0
  | .mv .consumedKcals m => [19999, 30000].getD m 0
  | .objective => 19999
  | _ => 0

theorem bigX_nonneg : ∀ v, 0 ≤ bigX v := by
  intro v
  cases v with
  | mv k m => cases k <;> first | exact le_rfl | exact getD_nonneg _ (by decide +kernel) m
  | objective => show (0 : ℚ) ≤ 19999; norm_num
  | objectiveBest => exact le_rfl

theorem big_optimum (x : Var → ℚ) (h : Feasible (buildLP bigI .toHumans) x) : x .objective ≤ 20000 := by
  have hon : bigI.addStored = true := rfl
  have o0 := objective_le_month (m := 0) h (by decide)
  have k0 := kcals_fed (m := 0) h (by decide)
  have c := stored_cumulative (m := 0) h hon (by decide)
  have n1 := h.2 (.mv .sfFeed 0)
  have n2 := h.2 (.mv .sfBiofuel 0)
  simp only [humanTotal, bigI, emptyInst, X, storedUse, grossUp, cum, at', List.getD_cons_zero,
    List.getD_nil, Bool.false_eq_true, if_false, if_true] at k0 c
  norm_num at k0 c
  linarith

end Allfed.Proofs.Validators
