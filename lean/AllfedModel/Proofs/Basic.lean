import AllfedModel.Num.Basic
import Mathlib.Algebra.Order.Field.Basic
import Mathlib.Algebra.Order.BigOperators.Group.List
import Mathlib.Data.List.GetD
import Mathlib.Tactic.NormNum
import Mathlib.Tactic.Ring
/-!
The number layer `Num/Basic.lean` read at a linearly ordered field: Python's `min`, `max` and
`sum` are Mathlib's, and the decimal literals of the models are numerals.
-/
namespace Allfed.Proofs

set_option linter.unusedSectionVars false

variable {K : Type} [Field K] [LinearOrder K] [IsStrictOrderedRing K]

theorem pmin_eq_min (a b : K) : pmin a b = min a b := (min_def_lt' a b).symm

theorem pmax_eq_max (a b : K) : pmax a b = max a b := (max_def_lt a b).symm

theorem foldl_add_map {β : Type} (f : β → K) (l : List β) (a : K) :
    l.foldl (fun acc b => acc + f b) a = a + (l.map f).sum := by
  induction l generalizing a with
  | nil => simp
  | cons x t ih => simp [ih, add_assoc]

theorem foldl_add_le {β : Type} (f g : β → K) (l : List β) (h : ∀ m ∈ l, f m ≤ g m) :
    l.foldl (fun acc m => acc + f m) 0 ≤ l.foldl (fun acc m => acc + g m) 0 := by
  rw [foldl_add_map, foldl_add_map]
  exact add_le_add le_rfl (List.sum_le_sum h)

theorem foldl_add_zero {β : Type} (f : β → K) (l : List β) (h : ∀ m ∈ l, f m = 0) :
    l.foldl (fun acc m => acc + f m) 0 = 0 := by
  rw [foldl_add_map, zero_add]
  exact List.sum_eq_zero (by simpa using h)

theorem lsum_eq_sum (l : List K) : lsum l = l.sum := List.sum_eq_foldl.symm

theorem sci_100 : (100.0 : K) = 100 := by norm_num

/-! `series[m]` as the models read it: `getD m 0` -/

theorem getD_of_forall_mem {β : Type} {p : β → Prop} {l : List β} {d : β} (h : ∀ x ∈ l, p x) (hd : p d)
    (i : Nat) : p (l.getD i d) := by
  by_cases hi : i < l.length
  · rw [List.getD_eq_getElem _ _ hi]; exact h _ (List.getElem_mem _)
  · rw [List.getD_eq_default _ _ (not_lt.mp hi)]; exact hd

theorem map_getD_range {β : Type} (l : List β) (d : β) :
    (List.range l.length).map (fun i => l.getD i d) = l := by
  apply List.ext_getElem
  · simp
  · intro i h1 h2
    simp [List.getD_eq_getElem?_getD, h2]

theorem getD_nonneg (l : List K) (h : ∀ a ∈ l, 0 ≤ a) (m : Nat) : 0 ≤ l.getD m 0 :=
  getD_of_forall_mem h le_rfl m

theorem getD_le_of_forall₂ {a b : List K} (h : List.Forall₂ (· ≤ ·) a b) (k : Nat) :
    a.getD k 0 ≤ b.getD k 0 := by
  induction h generalizing k with
  | nil => exact le_rfl
  | cons hab _ ih =>
    cases k with
    | zero => exact hab
    | succ k => simpa using ih k

/-- the clamp `if x < 0: x = 0` -/
theorem ite_neg_eq_max (x : K) : (if x < 0 then 0 else x) = max 0 x := (max_def_lt' 0 x).symm

theorem rsum_nonneg (l : List K) (h : ∀ x ∈ l, 0 ≤ x) : 0 ≤ rsum l := by
  induction l with
  | nil => exact le_rfl
  | cons x t ih =>
    exact add_nonneg (h x (List.mem_cons_self ..)) (ih fun y hy => h y (List.mem_cons_of_mem _ hy))

theorem lsum_nonneg (l : List K) (h : ∀ x ∈ l, 0 ≤ x) : 0 ≤ lsum l :=
  lsum_eq_sum l ▸ List.sum_nonneg h

theorem lsum_map_mul (l : List K) (k : K) : lsum (l.map (k * ·)) = k * lsum l := by
  rw [lsum_eq_sum, lsum_eq_sum]
  induction l with
  | nil => simp
  | cons x t ih => rw [List.map_cons, List.sum_cons, List.sum_cons, ih, mul_add]

theorem pmin_scale (k a b : K) (hk : 0 ≤ k) : pmin (k * a) (k * b) = k * pmin a b := by
  rw [pmin_eq_min, pmin_eq_min, mul_min_of_nonneg _ _ hk]

end Allfed.Proofs
