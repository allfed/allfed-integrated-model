import AllfedModel.Model.Certificate
import AllfedModel.Proofs.LP
/-!
# Optimality certificates (property C02)

What the soundness of the certificate checker `dualBound` rests on (the terms of a row evaluate as the
row does, a combination of rows with admissible multipliers is `≤ 0`, residuals are absorbed by variable
bounds; the theorem itself is `C02.dualBound_sound`), and the validity of the variable bounds `ubOf`, on
top of `Proofs/LP.lean`.
-/
namespace Allfed.Proofs.Certificate
open Allfed.LP Allfed.AllocLP Allfed.PhysSpec Allfed.Certificate Allfed.Proofs.LP

set_option linter.unusedSectionVars false

variable {K : Type} [Field K] [LinearOrder K] [IsStrictOrderedRing K]

theorem insertTerm_eval (x : Var → K) (v : Var) (c : K) (l : List (Var × K)) :
    Aff.sumTerms x (insertTerm v c l) = c * x v + Aff.sumTerms x l := by
  induction l with
  | nil => rfl
  | cons p t ih =>
    obtain ⟨w, d⟩ := p
    unfold insertTerm
    split_ifs with h1 h2
    · subst h1
      simp only [sumTerms_cons]; ring
    · simp only [sumTerms_cons]
    · simp only [sumTerms_cons, ih]; ring

theorem normalise_fold_eval (x : Var → K) (l acc : List (Var × K)) :
    Aff.sumTerms x (l.foldl (fun acc p => insertTerm p.1 p.2 acc) acc) =
      Aff.sumTerms x l + Aff.sumTerms x acc := by
  induction l generalizing acc with
  | nil => simp only [List.foldl_nil, sumTerms_nil, zero_add]
  | cons p t ih =>
    obtain ⟨v, c⟩ := p
    simp only [List.foldl_cons, ih, insertTerm_eval, sumTerms_cons]; ring

theorem signOK_mul_nonpos (x : Var → K) (r : Row K) (y : K) (hs : signOK r.rel y = true)
    (hr : r.holds x) : Aff.eval x (Aff.smul y r.normal) ≤ 0 := by
  obtain ⟨n, l, rel, rh⟩ := r
  rw [eval_smul]
  show y * Aff.eval x (l - rh) ≤ 0
  rw [eval_sub]
  cases rel
  · exact mul_nonpos_of_nonneg_of_nonpos (of_decide_eq_true hs) (sub_nonpos.mpr hr)
  · rw [show Aff.eval x l = Aff.eval x rh from hr, sub_self, mul_zero]
  · exact mul_nonpos_of_nonpos_of_nonneg (of_decide_eq_true hs) (sub_nonneg.mpr hr)

/-- weak duality -/
theorem combo_nonpos (x : Var → K) (rows : List (Row K)) (y : List K)
    (hs : allSignsOK rows y = true) (hr : ∀ r ∈ rows, r.holds x) :
    Aff.eval x (combo rows y) ≤ 0 := by
  induction rows generalizing y with
  | nil => simp only [combo, eval_k, le_refl]
  | cons r rs ih =>
    cases y with
    | nil => simp only [combo, eval_k, le_refl]
    | cons y ys =>
      simp only [allSignsOK, Bool.and_eq_true] at hs
      simp only [combo, eval_add]
      have h1 := signOK_mul_nonpos x r y hs.1 (hr r (List.mem_cons_self))
      have h2 := ih ys hs.2 (fun r' hr' => hr r' (List.mem_cons_of_mem _ hr'))
      linarith

theorem absorb_sound (x : Var → K) (ub : Var → Option K) (hx : ∀ v, 0 ≤ x v)
    (hub : ∀ v u, ub v = some u → x v ≤ u) (l : List (Var × K)) (s : K)
    (h : absorb ub l = some s) : Aff.sumTerms x l ≤ s := by
  induction l generalizing s with
  | nil =>
    obtain rfl := Option.some.inj h
    exact le_rfl
  | cons p t ih =>
    obtain ⟨v, r⟩ := p
    rw [sumTerms_cons]
    unfold absorb at h
    split at h
    · exact absurd h (by simp)
    · rename_i rest hrest
      have hr := ih rest hrest
      split_ifs at h with hle
      · obtain rfl := Option.some.inj h
        have : r * x v ≤ 0 := mul_nonpos_of_nonpos_of_nonneg hle (hx v)
        linarith
      · split at h
        · rename_i u hu
          obtain rfl := Option.some.inj h
          have : r * x v ≤ r * u := mul_le_mul_of_nonneg_left (hub v u hu) (not_le.mp hle).le
          linarith
        · exact absurd h (by simp)

variable {i : Inp K} {kind : Kind} {x : Var → K} {m : Nat}

theorem total_succ (l : List K) (n : Nat) : total l (n + 1) = total l n + at' l n := by
  unfold total
  rw [List.range_succ, List.foldl_append]
  rfl

theorem total_eq_cum (l : List K) (m : Nat) : total l (m + 1) = cum (at' l) m := by
  induction m with
  | zero => rw [total_succ, show total l 0 = 0 from rfl, zero_add, cum_zero]
  | succ m ih => rw [total_succ, ih, cum_succ]

theorem parts_le {h f b w u : K} (hw0 : 0 ≤ w) (hw : w < 100) (hh : 0 ≤ h) (hf : 0 ≤ f)
    (hb : 0 ≤ b) (hu : grossUp h w + f + b ≤ u) : h ≤ u ∧ f ≤ u ∧ b ≤ u := by
  have h1 := le_grossUp hw0 hw hh
  have h2 := grossUp_nonneg hw hh
  refine ⟨?_, ?_, ?_⟩ <;> linarith

theorem sfEnd_le (h : Feasible (buildLP i kind) x) (hon : i.addStored = true)
    (hw : i.wStored < 100) (hm : m < i.nmonths)
    (hreg : i.storeBetweenYears = true ∨ m ≤ 12) : x (.mv .sfEnd m) ≤ i.storedInitial := by
  rw [stored_end_eq h hon hm hreg]
  have := cum_nonneg (storedUse i x) m (fun k _ => storedUse_nonneg h.2 hw k)
  linarith

theorem sfStart_le (h : Feasible (buildLP i kind) x) (hon : i.addStored = true)
    (hw : i.wStored < 100) (hm : m < i.nmonths)
    (hreg : i.storeBetweenYears = true ∨ m ≤ 13) : x (.mv .sfStart m) ≤ i.storedInitial := by
  by_cases hm0 : m = 0
  · subst hm0
    rw [stored_start_zero h hon hm]
  · rw [stored_start_succ h hon hm hm0]
    exact sfEnd_le h hon hw (by omega) (hreg.imp_right (fun h13 => by omega))

/-- the bound of `capOf`: the initial stock while `Stored_Food_Eaten_m` exists, 0 afterwards -/
theorem stored_parts_le (h : Feasible (buildLP i kind) x) (hon : i.addStored = true)
    (hw0 : 0 ≤ i.wStored) (hw : i.wStored < 100) (hm : m < i.nmonths) :
    let u := if i.storeBetweenYears = true ∨ m ≤ 12 then i.storedInitial else 0
    x (.mv .sfHumans m) ≤ u ∧ x (.mv .sfFeed m) ≤ u ∧ x (.mv .sfBiofuel m) ≤ u := by
  refine parts_le hw0 hw (h.2 _) (h.2 _) (h.2 _) ?_
  split_ifs with hreg
  · exact le_trans (single_le_cum _ m (fun k _ => storedUse_nonneg h.2 hw k))
      (stored_cumulative h hon hm)
  · rw [not_or, Bool.not_eq_true, not_le] at hreg
    exact (stored_use_zero (stored_vars_zero h hon hreg.1 hm hreg.2)).le

theorem crop_vars_le (h : Feasible (buildLP i kind) x) (hon : i.addOutdoor = true)
    (hw0 : 0 ≤ i.wCrop) (hw : i.wCrop < 100) (hm : m < i.nmonths) :
    x (.mv .cropStorage m) ≤ total i.cropProd (m + 1) ∧
    x (.mv .cropConsumed m) ≤ total i.cropProd (m + 1) ∧
    x (.mv .cropHumans m) ≤ total i.cropProd (m + 1) ∧
    x (.mv .cropFeed m) ≤ total i.cropProd (m + 1) ∧
    x (.mv .cropBiofuel m) ≤ total i.cropProd (m + 1) := by
  have hn := fun k (_ : k ≤ m) => cropUse_nonneg h.2 hw k
  have hu : cropUse i x m ≤ total i.cropProd (m + 1) := by
    rw [total_eq_cum]
    exact le_trans (single_le_cum _ m hn) (crop_cumulative h hon hm)
  have hst := crop_storage_eq h hon hm
  have hcn := cum_nonneg (cropUse i x) m hn
  rw [← total_eq_cum] at hst
  exact ⟨by linarith, by rw [crop_consumed h hon hm]; exact hu,
    parts_le hw0 hw (h.2 _) (h.2 _) (h.2 _) hu⟩

theorem meat_vars_le (h : Feasible (buildLP i kind) x) (hon : i.addMeat = true)
    (hs : i.storeBetweenYears = true) (hw0 : 0 ≤ i.wMeat) (hw : i.wMeat < 100)
    (hm : m < i.nmonths) :
    x (.mv .meatStart m) ≤ i.meatSummed ∧ x (.mv .meatEnd m) ≤ i.meatSummed ∧
      x (.mv .meatEaten m) ≤ i.meatSummed := by
  have hn := fun n k (_ : k ≤ n) => meatUse_nonneg h.2 hw k
  have hend : ∀ n, n < i.nmonths → x (.mv .meatEnd n) ≤ i.meatSummed := by
    intro n hn'
    rw [meat_end_eq h hon hs hn']
    have := cum_nonneg (meatUse i x) n (hn n)
    linarith
  refine ⟨?_, hend m hm, ?_⟩
  · by_cases hm0 : m = 0
    · subst hm0
      rw [meat_start_zero h hon hs hm]
    · rw [meat_start_succ h hon hs hm hm0]
      exact hend _ (by omega)
  · exact le_trans (le_grossUp hw0 hw (h.2 _))
      (le_trans (single_le_cum (meatUse i x) m (hn m)) (meat_total h hon hs hm))

/-- the bound of `capOf` on meat eaten: the horizon's slaughter where meat can be stored, the
    month's slaughter where it cannot -/
theorem meatEaten_le (h : Feasible (buildLP i kind) x) (hon : i.addMeat = true)
    (hw0 : 0 ≤ i.wMeat) (hw : i.wMeat < 100) (hm : m < i.nmonths) :
    x (.mv .meatEaten m) ≤ if i.storeBetweenYears = true then i.meatSummed
      else at' i.slaughtered m := by
  split_ifs with hs
  · exact (meat_vars_le h hon hs hw0 hw hm).2.2
  · exact le_trans (le_grossUp hw0 hw (h.2 _)) (meat_monthly h hon (Bool.not_eq_true _ ▸ hs) hm)

theorem scp_vars_le (h : Feasible (buildLP i kind) x) (hon : i.addScp = true)
    (hw0 : 0 ≤ i.wScp) (hw : i.wScp < 100) (hm : m < i.nmonths) :
    x (.mv .scpHumans m) ≤ at' i.scp m ∧ x (.mv .scpFeed m) ≤ at' i.scp m ∧
      x (.mv .scpBiofuel m) ≤ at' i.scp m :=
  parts_le hw0 hw (h.2 _) (h.2 _) (h.2 _) (scp_cap h hon hm)

theorem cs_vars_le (h : Feasible (buildLP i kind) x) (hon : i.addCs = true)
    (hw0 : 0 ≤ i.wCs) (hw : i.wCs < 100) (hm : m < i.nmonths) :
    x (.mv .csHumans m) ≤ at' i.cs m ∧ x (.mv .csFeed m) ≤ at' i.cs m ∧
      x (.mv .csBiofuel m) ≤ at' i.cs m :=
  parts_le hw0 hw (h.2 _) (h.2 _) (h.2 _) (cs_cap h hon hm)

theorem seaweed_harvest_le (h : Feasible (buildLP i kind) x) (hon : i.addSeaweed = true)
    (hminD : 0 ≤ i.minDensity) (hhl : 0 ≤ i.harvestLoss) (hg : -100.0 ≤ at' i.growth m)
    (hm : m < i.nmonths) (hm0 : m ≠ 0) :
    grossUp (x (.mv .swHumans m)) i.wSeaweed + x (.mv .swFeed m) + x (.mv .swBiofuel m)
      ≤ swCap i m := by
  have hl := seaweed_ledger h hon hm hm0
  obtain ⟨-, b2, -, b4⟩ := seaweed_bounds (m := m - 1) h hon (by omega)
  have w0 := h.2 (.mv .swWet m)
  have a0 := h.2 (.mv .usedArea m)
  unfold seaweedLedger at hl
  unfold swCap
  have hG : 0 ≤ 1 + at' i.growth m / 100.0 := by
    rw [sci_100] at hg ⊢
    have : -1 ≤ at' i.growth m / 100 := by
      rw [le_div_iff₀ (by norm_num)]; linarith
    linarith
  have hc : 0 ≤ i.minDensity * (i.harvestLoss / 100.0) :=
    mul_nonneg hminD (div_nonneg hhl (by rw [sci_100]; norm_num))
  generalize 1 + at' i.growth m / 100.0 = G at *
  generalize i.harvestLoss / 100.0 = hl' at *
  -- harvest = wet(m−1)·G − wet m − area m·c + area(m−1)·c, linear in these products
  have h1 := mul_le_mul_of_nonneg_right b2 hG
  have h2 := mul_le_mul_of_nonneg_right b4 hc
  have h3 := mul_nonneg a0 hc
  linarith

theorem seaweed_harvest_vars_le (h : Feasible (buildLP i kind) x) (hon : i.addSeaweed = true)
    (hw0 : 0 ≤ i.wSeaweed) (hw : i.wSeaweed < 100)
    (hminD : 0 ≤ i.minDensity) (hhl : 0 ≤ i.harvestLoss) (hg : -100.0 ≤ at' i.growth m)
    (hm : m < i.nmonths) :
    let u := if m = 0 then 0 else swCap i m
    x (.mv .swHumans m) ≤ u ∧ x (.mv .swFeed m) ≤ u ∧ x (.mv .swBiofuel m) ≤ u := by
  split_ifs with hm0
  · subst hm0
    obtain ⟨-, -, z1, z2, z3⟩ := seaweed_month_zero h hon hm
    exact ⟨z1.le, z2.le, z3.le⟩
  · exact parts_le hw0 hw (h.2 _) (h.2 _) (h.2 _) (seaweed_harvest_le h hon hminD hhl hg hm hm0)

theorem wellFormed_numerals (hw : WellFormed i) :
    (0 ≤ i.wStored ∧ i.wStored < 100) ∧ (0 ≤ i.wCrop ∧ i.wCrop < 100) ∧
    (0 ≤ i.wMeat ∧ i.wMeat < 100) ∧ (0 ≤ i.wScp ∧ i.wScp < 100) ∧ (0 ≤ i.wCs ∧ i.wCs < 100) ∧
    (0 ≤ i.wSeaweed ∧ i.wSeaweed < 100) ∧
    (∀ m, m < i.nmonths → 0 ≤ at' i.cropProd m) ∧ 0 ≤ i.storedInitial ∧
    0 ≤ i.minDensity ∧ 0 ≤ i.harvestLoss ∧ 0 ≤ i.seaweedKcals ∧
    (∀ m, m < i.nmonths → -100.0 ≤ at' i.growth m) := by
  simpa only [WellFormed, sci_100] using hw

theorem seaweedKcals_nonneg (hw : WellFormed i) : 0 ≤ i.seaweedKcals :=
  hw.2.2.2.2.2.2.2.2.2.2.1

theorem capOf_valid (i : Inp K) (kind : Kind) (x : Var → K) (hw : WellFormed i)
    (h : Feasible (buildLP i kind) x) (k : VK) (m : Nat) (hm : m < i.nmonths) (u : K)
    (hu : capOf i k m = some u) : x (.mv k m) ≤ u := by
  obtain ⟨⟨hS0, hS⟩, ⟨hC0, hC⟩, ⟨hM0, hM⟩, ⟨hP0, hP⟩, ⟨hZ0, hZ⟩, ⟨hW0, hW⟩, -, -, hminD, hhl, -, hgr⟩ :=
    wellFormed_numerals hw
  cases k <;>
  simp only [capOf, Option.ite_none_right_eq_some, Option.ite_none_left_eq_some, Option.some.injEq,
    Bool.and_eq_true, Bool.or_eq_true, decide_eq_true_eq, Bool.not_eq_true', Bool.not_eq_false,
    reduceCtorEq, ← apply_ite some] at hu
  -- the kinds without a cap (`capOf … = none`) are gone
  case sfStart => obtain ⟨⟨hon, hreg⟩, rfl⟩ := hu; exact sfStart_le h hon hS hm hreg
  case sfEnd => obtain ⟨⟨hon, hreg⟩, rfl⟩ := hu; exact sfEnd_le h hon hS hm hreg
  case sfHumans => obtain ⟨hon, rfl⟩ := hu; exact (stored_parts_le h hon hS0 hS hm).1
  case sfFeed => obtain ⟨hon, rfl⟩ := hu; exact (stored_parts_le h hon hS0 hS hm).2.1
  case sfBiofuel => obtain ⟨hon, rfl⟩ := hu; exact (stored_parts_le h hon hS0 hS hm).2.2
  case scpHumans => obtain ⟨hon, rfl⟩ := hu; exact (scp_vars_le h hon hP0 hP hm).1
  case scpFeed => obtain ⟨hon, rfl⟩ := hu; exact (scp_vars_le h hon hP0 hP hm).2.1
  case scpBiofuel => obtain ⟨hon, rfl⟩ := hu; exact (scp_vars_le h hon hP0 hP hm).2.2
  case csHumans => obtain ⟨hon, rfl⟩ := hu; exact (cs_vars_le h hon hZ0 hZ hm).1
  case csFeed => obtain ⟨hon, rfl⟩ := hu; exact (cs_vars_le h hon hZ0 hZ hm).2.1
  case csBiofuel => obtain ⟨hon, rfl⟩ := hu; exact (cs_vars_le h hon hZ0 hZ hm).2.2
  case meatStart => obtain ⟨⟨hon, hs⟩, rfl⟩ := hu; exact (meat_vars_le h hon hs hM0 hM hm).1
  case meatEnd => obtain ⟨⟨hon, hs⟩, rfl⟩ := hu; exact (meat_vars_le h hon hs hM0 hM hm).2.1
  case meatEaten => obtain ⟨hon, rfl⟩ := hu; exact meatEaten_le h hon hM0 hM hm
  case cropStorage => obtain ⟨hon, rfl⟩ := hu; exact (crop_vars_le h hon hC0 hC hm).1
  case cropConsumed => obtain ⟨hon, rfl⟩ := hu; exact (crop_vars_le h hon hC0 hC hm).2.1
  case cropHumans => obtain ⟨hon, rfl⟩ := hu; exact (crop_vars_le h hon hC0 hC hm).2.2.1
  case cropFeed => obtain ⟨hon, rfl⟩ := hu; exact (crop_vars_le h hon hC0 hC hm).2.2.2.1
  case cropBiofuel => obtain ⟨hon, rfl⟩ := hu; exact (crop_vars_le h hon hC0 hC hm).2.2.2.2
  case swWet => obtain ⟨hon, rfl⟩ := hu; exact (seaweed_bounds h hon hm).2.1
  case swHumans =>
    obtain ⟨hon, rfl⟩ := hu; exact (seaweed_harvest_vars_le h hon hW0 hW hminD hhl (hgr m hm) hm).1
  case swFeed =>
    obtain ⟨hon, rfl⟩ := hu; exact (seaweed_harvest_vars_le h hon hW0 hW hminD hhl (hgr m hm) hm).2.1
  case swBiofuel =>
    obtain ⟨hon, rfl⟩ := hu; exact (seaweed_harvest_vars_le h hon hW0 hW hminD hhl (hgr m hm) hm).2.2
  case usedArea => obtain ⟨hon, rfl⟩ := hu; exact (seaweed_bounds h hon hm).2.2.2

theorem capH_valid (i : Inp K) (kind : Kind) (x : Var → K) (hw : WellFormed i)
    (h : Feasible (buildLP i kind) x) (on : Bool) (k : VK) (m : Nat) (hm : m < i.nmonths) (u : K)
    (hu : capH i on k m = some u) : X x on k m ≤ u := by
  unfold capH at hu
  unfold X
  split_ifs at hu ⊢
  · exact capOf_valid i kind x hw h k m hm u hu
  · exact (Option.some.inj hu).le

theorem consumedCap_valid (i : Inp K) (x : Var → K) (hw : WellFormed i)
    (h : Feasible (buildLP i .toHumans) x) (m : Nat) (hm : m < i.nmonths) (u : K)
    (hu : consumedCap i m = some u) : x (.mv .consumedKcals m) ≤ u := by
  have hkc := seaweedKcals_nonneg hw
  unfold consumedCap at hu
  split_ifs at hu with hb
  split at hu
  · rename_i a b c d e f h1 h2 h3 h4 h5 h6
    obtain rfl := Option.some.inj hu
    have g := fun on k u hu => capH_valid i .toHumans x hw h on k m hm u hu
    have g3 := mul_le_mul_of_nonneg_right (g _ _ c h3) hkc
    rw [kcals_fed h hm, sci_100]
    refine mul_le_mul_of_nonneg_right (div_le_div_of_nonneg_right ?_ hb.le) (by norm_num)
    unfold humanTotal
    linarith [g _ _ a h1, g _ _ b h2, g _ _ d h4, g _ _ e h5, g _ _ f h6]
  · exact absurd hu (by simp)

theorem objective_toAnimals_le (i : Inp K) (x : Var → K) (h : Feasible (buildLP i .toAnimals) x) :
    x .objective ≤
      if anyFeedVar i then 2 / 3 * total i.maxFeed i.nmonths + total i.maxBiofuel i.nmonths / 3
      else 0 := by
  have hobj := objective_le_nonhuman h
  unfold feedObjective at hobj
  split_ifs with hany
  · have h1 : (List.range i.nmonths).foldl (fun acc m => acc + feedTotal i x m) 0
        ≤ total i.maxFeed i.nmonths :=
      foldl_add_le _ _ _
        (fun m hm => (feed_biofuel_le_ceiling h hany (List.mem_range.mp hm)).1)
    have h2 : (List.range i.nmonths).foldl (fun acc m => acc + biofuelTotal i x m) 0
        ≤ total i.maxBiofuel i.nmonths :=
      foldl_add_le _ _ _
        (fun m hm => (feed_biofuel_le_ceiling h hany (List.mem_range.mp hm)).2)
    linarith
  · -- no resource contributes a variable: both totals are the literal 0
    simp only [anyFeedVar, Bool.or_eq_true, not_or, Bool.not_eq_true] at hany
    obtain ⟨⟨⟨⟨o1, o2⟩, o3⟩, o4⟩, o5⟩ := hany
    rw [foldl_add_zero _ _ (fun m _ => by simp [feedTotal, X, o1, o2, o3, o4, o5]),
      foldl_add_zero _ _ (fun m _ => by simp [biofuelTotal, X, o1, o2, o3, o4, o5])] at hobj
    linarith

theorem ubOf_valid (i : Inp K) (kind : Kind) (x : Var → K) (hw : WellFormed i)
    (h : Feasible (buildLP i kind) x) : ∀ v u, ubOf i kind v = some u → x v ≤ u := by
  intro v u hu
  cases v with
  | objectiveBest => simp only [ubOf, reduceCtorEq] at hu
  | objective =>
    cases kind with
    | toHumans =>
      simp only [ubOf] at hu
      split_ifs at hu with hN
      exact le_trans (objective_le_month h hN) (consumedCap_valid i x hw h 0 hN u hu)
    | toAnimals =>
      have hobj := objective_toAnimals_le i x h
      simp only [ubOf, ← apply_ite some, Option.some.injEq] at hu
      rw [← hu]
      norm_num at hobj ⊢
      exact hobj
  | mv k m =>
    unfold ubOf at hu
    by_cases hmN : i.nmonths ≤ m
    · simp only [hmN, if_true, reduceCtorEq] at hu
    · simp only [hmN, if_false] at hu
      have hm : m < i.nmonths := by omega
      by_cases hk : k = .consumedKcals
      · subst hk
        cases kind with
        | toHumans => exact consumedCap_valid i x hw h m hm u hu
        | toAnimals => simp only [reduceCtorEq] at hu
      · have : capOf i k m = some u := by
          cases k <;> first | exact absurd rfl hk | exact hu
        exact capOf_valid i kind x hw h k m hm u this

/-- the Boolean the driver evaluates is `WellFormed` -/
theorem wellFormedB_iff (i : Inp K) : wellFormedB i = true ↔ WellFormed i := by
  unfold wellFormedB WellFormed
  simp only [Bool.and_eq_true, decide_eq_true_eq, List.all_eq_true, List.mem_range, and_assoc]

end Allfed.Proofs.Certificate
