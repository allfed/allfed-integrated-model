import AllfedModel.Model.ImportAvg
import AllfedModel.Proofs.Basic
/-!
The percentage-averaging helper of `import_utilities.py` (C17): the sums its result is made of, and the
loop as those sums.
-/
namespace Allfed.Proofs.ImportAvg
open Allfed.ImportAvg

set_option linter.unusedSectionVars false

variable {K : Type} [Field K] [LinearOrder K] [IsStrictOrderedRing K]

/-- `Σ_V pᵢ·wᵢ` over the entries the code treats as valid -/
def vPW (ps ws : List K) : K := ((validPairs ps ws).map (fun x => x.1 * x.2)).sum
/-- `Σ_V wᵢ` -/
def vW (ps ws : List K) : K := ((validPairs ps ws).map Prod.snd).sum
/-- the weight of the rejected entries -/
def rW (ps ws : List K) : K := (((ps.zip ws).filter (fun x => impossible x.1)).map Prod.snd).sum

theorem sum_split (ps ws : List K) (hl : ps.length = ws.length) : ws.sum = rW ps ws + vW ps ws := by
  have := List.sum_map_filter_add_sum_map_filter_not (fun x : K × K => impossible x.1 = true)
    Prod.snd (ps.zip ws)
  rw [List.map_snd_zip hl.ge] at this
  simpa [rW, vW, validPairs] using this.symm

theorem mem_validPairs {ps ws : List K} {x : K × K} (hx : x ∈ validPairs ps ws) :
    x.1 ∈ ps ∧ x.2 ∈ ws ∧ impossible x.1 = false := by
  obtain ⟨hz, hv⟩ := List.mem_filter.mp hx
  exact ⟨(List.of_mem_zip hz).1, (List.of_mem_zip hz).2, by simpa using hv⟩

theorem vW_nonneg (ps ws : List K) (hw : ∀ w ∈ ws, 0 ≤ w ∧ w ≤ 1) : 0 ≤ vW ps ws :=
  List.sum_nonneg fun x hx => by
    obtain ⟨y, hy, rfl⟩ := List.mem_map.mp hx
    exact (hw y.2 (mem_validPairs hy).2.1).1

/-- the accumulators after the loop, when no assertion fails -/
def after (ps ws : List K) (a : Acc K) : Acc K :=
  { nValid := a.nValid + (validPairs ps ws).length, mean := a.mean + vPW ps ws,
    rejected := a.rejected + rW ps ws, nonRejected := a.nonRejected + vW ps ws }

theorem loop_nil (a : Acc K) : loop ([] : List K) [] a = .ok a := rfl

theorem loop_cons (p w : K) (ps ws : List K) (a : Acc K) :
    loop (p :: ps) (w :: ws) a =
      if ¬ (0 ≤ w ∧ w ≤ 1) then .error .weightRange
      else if impossible p then loop ps ws { a with rejected := a.rejected + w }
      else loop ps ws { a with nValid := a.nValid + 1, mean := a.mean + p * w, nonRejected := a.nonRejected + w } := by
  rw [loop]

theorem after_cons (p w : K) (ps ws : List K) (a : Acc K) :
    after (p :: ps) (w :: ws) a = after ps ws (if impossible p then { a with rejected := a.rejected + w }
      else { a with nValid := a.nValid + 1, mean := a.mean + p * w, nonRejected := a.nonRejected + w }) := by
  cases h : impossible p
  · simp [after, vPW, vW, rW, validPairs, h, add_assoc, Nat.add_comm 1]
  · simp [after, vPW, vW, rW, validPairs, h, add_assoc]

theorem loop_eq (ps ws : List K) (hl : ps.length = ws.length) (a : Acc K) :
    loop ps ws a = if ∀ w ∈ ws, 0 ≤ w ∧ w ≤ 1 then .ok (after ps ws a) else .error .weightRange := by
  induction ps generalizing ws a with
  | nil =>
    obtain rfl := List.length_eq_zero_iff.mp hl.symm
    simp [loop_nil, after, vPW, vW, rW, validPairs]
  | cons p ps ih =>
    obtain _ | ⟨w, ws⟩ := ws
    · simp at hl
    · rw [loop_cons, after_cons]
      simp only [List.forall_mem_cons]
      by_cases hw : 0 ≤ w ∧ w ≤ 1
      · cases h : impossible p <;>
          simp only [hw, not_true_eq_false, true_and, if_false, if_true, Bool.false_eq_true] <;>
          exact ih ws (Nat.succ.inj hl) _
      · simp only [hw, not_false_eq_true, false_and, if_true, if_false]

theorem vW_zero_of_no_valid (ps ws : List K) (h : (validPairs ps ws).length = 0) : vW ps ws = 0 := by
  have : validPairs ps ws = [] := List.length_eq_zero_iff.mp h
  simp [vW, this]

theorem zip_replicate (ps : List K) (c : K) : ps.zip (List.replicate ps.length c) = ps.map (fun p => (p, c)) := by
  induction ps with
  | nil => simp
  | cons p t ih => simp [List.replicate_succ, ih]

theorem validPairs_even (ps : List K) (c : K) :
    validPairs ps (List.replicate ps.length c) = (ps.filter (fun p => !impossible p)).map (fun p => (p, c)) := by
  unfold validPairs
  rw [zip_replicate, List.filter_map]
  rfl

end Allfed.Proofs.ImportAvg
