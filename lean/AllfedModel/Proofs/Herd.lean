import AllfedModel.Model.Herd
import AllfedModel.Proofs.Basic
import Mathlib.Data.List.Perm.Basic
import Mathlib.Tactic.Linarith
/-!
Lemmas for the herd simulation (properties C06, C07).  `rnd` (Python's `round`) is an arbitrary
function: nothing here constrains it (the count of animals fed, which needs `∀ x, |rnd x - x| ≤ 1/2`,
is `C07_fed_count` in `Props/C07.lean`).
-/
namespace Allfed.HerdProofs
open Allfed.Herd
open Allfed.Proofs (pmin_eq_min pmax_eq_max lsum_eq_sum ite_neg_eq_max)

set_option linter.unusedSectionVars false

variable {K : Type} [Field K] [LinearOrder K] [IsStrictOrderedRing K]

/-- net energy a species takes from grass -/
def grassNE (eG need g : K) (rum : Bool) : K := min need (if rum then g * eG else 0)
/-- net energy it then takes from feed -/
def feedNE (eG eF need g f : K) (rum : Bool) : K := min (need - grassNE eG need g rum) (f * eF)

section feed
variable {eG eF need g f : K}

/-- the four exits of `feed_the_species` in one formula (call it with `rfl rfl`) -/
theorem feedSpecies_eq (rnd : K → K) (pop : K) (rum : Bool)
    (heG : 0 < eG) (heF : 0 < eF) (hn : 0 ≤ need) (hg : 0 ≤ g) (hf : 0 ≤ f)
    {a b : K} (ha : a = grassNE eG need g rum) (hb : b = feedNE eG eF need g f rum) :
    feedSpecies rnd eG eF need pop g f rum =
      ⟨g, f, g - a / eG, f - b / eF, need - (a + b),
        if a + b = need then pop else min (rnd ((a + b) / need * pop)) pop⟩ := by
  subst ha hb
  unfold feedSpecies feedNE grassNE
  generalize hneG : (if rum then g * eG else 0) = neG
  have hG0 : 0 ≤ neG := by rw [← hneG]; split_ifs; exacts [mul_nonneg hg heG.le, le_rfl]
  have hF0 : 0 ≤ f * eF := mul_nonneg hf heF.le
  -- the grass a species that is still hungry leaves: none of what it may eat
  have hgr : (if 0 < neG then 0 else g) = g - neG / eG := by
    subst hneG
    cases rum
    · simp only [Bool.false_eq_true, if_false, lt_irrefl, zero_div, sub_zero]
    · have : ¬ 0 < g * eG → g = 0 := fun h => le_antisymm (le_of_not_gt fun hp => h (mul_pos hp heG)) hg
      rw [if_pos rfl, mul_div_cancel_right₀ g heG.ne', sub_self]
      split_ifs with h
      exacts [rfl, this h]
  have hreq : (if 0 < neG then need - neG else need) = need - neG := by
    split_ifs with h
    exacts [rfl, by rw [le_antisymm (not_lt.mp h) hG0, sub_zero]]
  dsimp only
  rw [hgr, hreq]
  by_cases h0 : need ≤ 0 ∧ 0 ≤ need
  · obtain rfl : need = 0 := le_antisymm h0.1 h0.2
    rw [if_pos h0, min_eq_left hG0, sub_zero, min_eq_left hF0]
    simp only [zero_div, sub_zero, add_zero, if_true]
  rw [if_neg h0]
  by_cases h1 : need ≤ neG
  · rw [if_pos h1, min_eq_left h1, sub_self, min_eq_left hF0]
    simp only [zero_div, sub_zero, add_zero, sub_self, if_true]
  rw [if_neg h1, min_eq_right (not_le.mp h1).le]
  by_cases h2 : need - neG ≤ f * eF
  · rw [if_pos h2, min_eq_left h2]
    simp only [add_sub_cancel, sub_self, if_true]
  · have h2' := not_le.mp h2
    rw [if_neg h2, min_eq_right h2'.le, pmin_eq_min, if_neg (by linarith), mul_div_cancel_right₀ f heF.ne', sub_self]

theorem grassNE_bounds (rum : Bool) (heG : 0 < eG) (hn : 0 ≤ need) (hg : 0 ≤ g) :
    0 ≤ grassNE eG need g rum ∧ grassNE eG need g rum ≤ need ∧ grassNE eG need g rum ≤ g * eG := by
  have hG := mul_nonneg hg heG.le
  have h0 : 0 ≤ if rum then g * eG else 0 := by split_ifs; exacts [hG, le_rfl]
  have h1 : (if rum then g * eG else 0) ≤ g * eG := by split_ifs; exacts [le_rfl, hG]
  exact ⟨le_min hn h0, min_le_left _ _, (min_le_right _ _).trans h1⟩

theorem feedNE_bounds {rum : Bool} (heF : 0 < eF) (hf : 0 ≤ f) (ha : grassNE eG need g rum ≤ need) :
    0 ≤ feedNE eG eF need g f rum ∧ feedNE eG eF need g f rum ≤ f * eF ∧
    grassNE eG need g rum + feedNE eG eF need g f rum ≤ need :=
  ⟨le_min (sub_nonneg.mpr ha) (mul_nonneg hf heF.le), min_le_right _ _,
    le_sub_iff_add_le'.mp (min_le_left _ _)⟩

theorem short_eats_all {rum : Bool} (hb0 : 0 ≤ feedNE eG eF need g f rum)
    (h : grassNE eG need g rum + feedNE eG eF need g f rum < need) :
    feedNE eG eF need g f rum = f * eF ∧ (rum = true → grassNE eG need g rum = g * eG) := by
  constructor
  · refine (min_choice _ _).resolve_left fun e : feedNE eG eF need g f rum = _ => h.ne ?_
    rw [e, add_sub_cancel]
  · rintro rfl
    refine (min_choice _ _).resolve_left fun e : grassNE eG need g true = _ => ?_
    rw [e] at h
    exact (add_lt_iff_neg_left.mp h).not_ge hb0

/-- everything C07 says about one species offered `g`, `f`, except the count of animals fed -/
structure Fed (eG eF need g f : K) (rum : Bool) (o : FeedOut K) : Prop where
  grass_nonneg : 0 ≤ o.grass
  grass_le : o.grass ≤ g
  feed_nonneg : 0 ≤ o.feed
  feed_le : o.feed ≤ f
  balance_eq : o.balance = need - (eG * (g - o.grass) + eF * (f - o.feed))
  balance_nonneg : 0 ≤ o.balance
  grass_of_not_rum : rum = false → o.grass = g
  met_or_all : o.balance = 0 ∨ (o.feed = 0 ∧ (rum = true → o.grass = 0))

theorem feedSpecies_energy (rnd : K → K) (pop : K) (rum : Bool)
    (heG : 0 < eG) (heF : 0 < eF) (hn : 0 ≤ need) (hg : 0 ≤ g) (hf : 0 ≤ f) :
    Fed eG eF need g f rum (feedSpecies rnd eG eF need pop g f rum) := by
  rw [feedSpecies_eq rnd pop rum heG heF hn hg hf rfl rfl]
  obtain ⟨ha0, han, haG⟩ := grassNE_bounds rum heG hn hg
  obtain ⟨hb0, hbF, hab⟩ := feedNE_bounds heF hf han
  have hse := short_eats_all (eG := eG) (eF := eF) (need := need) (g := g) (f := f) (rum := rum)
  have hnr : rum = false → grassNE eG need g rum = 0 := by rintro rfl; exact min_eq_right hn
  generalize grassNE eG need g rum = a at *
  generalize feedNE eG eF need g f rum = b at *
  have hga : a / eG ≤ g := (div_le_iff₀ heG).mpr haG
  have hfb : b / eF ≤ f := (div_le_iff₀ heF).mpr hbF
  exact
    { grass_nonneg := sub_nonneg.mpr hga
      grass_le := sub_le_self _ (div_nonneg ha0 heG.le)
      feed_nonneg := sub_nonneg.mpr hfb
      feed_le := sub_le_self _ (div_nonneg hb0 heF.le)
      balance_eq := by
        rw [sub_sub_cancel, sub_sub_cancel, mul_div_cancel₀ _ heG.ne', mul_div_cancel₀ _ heF.ne']
      balance_nonneg := sub_nonneg.mpr hab
      grass_of_not_rum := by
        rintro rfl
        rw [show a = 0 from hnr rfl, zero_div, sub_zero]
      met_or_all := by
        rcases hab.lt_or_eq with h | h
        · obtain ⟨e1, e2⟩ := hse hb0 h
          refine Or.inr ⟨?_, fun hr => ?_⟩
          · rw [e1, mul_div_cancel_right₀ f heF.ne', sub_self]
          · rw [e2 hr, mul_div_cancel_right₀ g heG.ne', sub_self]
        · exact Or.inl (by rw [h, sub_self]) }

end feed

theorem feedSpecies_in (rnd : K → K) (eG eF need pop g f : K) (rum : Bool) :
    (feedSpecies rnd eG eF need pop g f rum).grassIn = g ∧
    (feedSpecies rnd eG eF need pop g f rum).feedIn = f := by
  simp only [feedSpecies, apply_ite FeedOut.grassIn, apply_ite FeedOut.feedIn, ite_self, and_self]

def FedBy (rnd : K → K) (g f : K) (r : FeedReq K) (o : FeedOut K) : Prop :=
  o = feedSpecies rnd r.effG r.effF r.need r.pop o.grassIn o.feedIn r.rum ∧
  0 ≤ o.grassIn ∧ o.grassIn ≤ g ∧ 0 ≤ o.feedIn ∧ o.feedIn ≤ f

def ReqOK (r : FeedReq K) : Prop := 0 < r.effG ∧ 0 < r.effF ∧ 0 ≤ r.need

theorem feedAll_cons (rnd : K → K) (r : FeedReq K) (t : List (FeedReq K)) (g f : K) :
    feedAll rnd (r :: t) g f =
      (feedSpecies rnd r.effG r.effF r.need r.pop g f r.rum ::
        (feedAll rnd t (feedSpecies rnd r.effG r.effF r.need r.pop g f r.rum).grass
          (feedSpecies rnd r.effG r.effF r.need r.pop g f r.rum).feed).1,
       (feedAll rnd t (feedSpecies rnd r.effG r.effF r.need r.pop g f r.rum).grass
          (feedSpecies rnd r.effG r.effF r.need r.pop g f r.rum).feed).2.1,
       (feedAll rnd t (feedSpecies rnd r.effG r.effF r.need r.pop g f r.rum).grass
          (feedSpecies rnd r.effG r.effF r.need r.pop g f r.rum).feed).2.2) := rfl

theorem feedAll_length (rnd : K → K) (reqs : List (FeedReq K)) (g f : K) :
    (feedAll rnd reqs g f).1.length = reqs.length := by
  induction reqs generalizing g f with
  | nil => rfl
  | cons r t ih => rw [feedAll_cons, List.length_cons, List.length_cons, ih]

theorem feedAll_spec (rnd : K → K) (reqs : List (FeedReq K)) (g f : K)
    (hok : ∀ r ∈ reqs, ReqOK r) (hg : 0 ≤ g) (hf : 0 ≤ f) :
    List.Forall₂ (FedBy rnd g f) reqs (feedAll rnd reqs g f).1 ∧
    0 ≤ (feedAll rnd reqs g f).2.1 ∧ (feedAll rnd reqs g f).2.1 ≤ g ∧
    0 ≤ (feedAll rnd reqs g f).2.2 ∧ (feedAll rnd reqs g f).2.2 ≤ f := by
  induction reqs generalizing g f with
  | nil => exact ⟨List.Forall₂.nil, hg, le_refl _, hf, le_refl _⟩
  | cons r t ih =>
    obtain ⟨h1, h2, h3⟩ := hok r (by simp)
    have he := feedSpecies_energy rnd r.pop r.rum h1 h2 h3 hg hf
    obtain ⟨hgi, hfi⟩ := feedSpecies_in rnd r.effG r.effF r.need r.pop g f r.rum
    have iht := ih _ _ (fun x hx => hok x (by simp [hx])) he.grass_nonneg he.feed_nonneg
    rw [feedAll_cons]
    refine ⟨List.Forall₂.cons ?_ ?_, iht.2.1, le_trans iht.2.2.1 he.grass_le, iht.2.2.2.1,
      le_trans iht.2.2.2.2 he.feed_le⟩
    · exact ⟨by rw [hgi, hfi], hgi.symm ▸ hg, hgi.le, hfi.symm ▸ hf, hfi.le⟩
    · refine List.Forall₂.imp ?_ iht.1
      intro r' o' ⟨ha, hb, hc, hd, he'⟩
      exact ⟨ha, hb, le_trans hc he.grass_le, hd, le_trans he' he.feed_le⟩

theorem feedAll_sum (rnd : K → K) (reqs : List (FeedReq K)) (g f : K) :
    g - (feedAll rnd reqs g f).2.1 = ((feedAll rnd reqs g f).1.map (fun o => o.grassIn - o.grass)).sum ∧
    f - (feedAll rnd reqs g f).2.2 = ((feedAll rnd reqs g f).1.map (fun o => o.feedIn - o.feed)).sum := by
  induction reqs generalizing g f with
  | nil => simp [feedAll]
  | cons r t ih =>
    have hin := feedSpecies_in rnd r.effG r.effF r.need r.pop g f r.rum
    obtain ⟨iha, ihb⟩ := ih (feedSpecies rnd r.effG r.effF r.need r.pop g f r.rum).grass
      (feedSpecies rnd r.effG r.effF r.need r.pop g f r.rum).feed
    rw [feedAll_cons]
    simp only [List.map_cons, List.sum_cons]
    rw [← iha, ← ihb, hin.1, hin.2]
    constructor <;> ring

theorem feedAll_pairwise (rnd : K → K) (reqs : List (FeedReq K)) (g f : K)
    (hok : ∀ r ∈ reqs, ReqOK r) (hg : 0 ≤ g) (hf : 0 ≤ f) :
    (reqs.zip (feedAll rnd reqs g f).1).Pairwise fun p q =>
      (0 < q.2.feedIn - q.2.feed → p.2.balance = 0) ∧
      (0 < q.2.grassIn - q.2.grass → p.2.balance = 0 ∨ p.1.rum = false) := by
  induction reqs generalizing g f with
  | nil => exact List.Pairwise.nil
  | cons r t ih =>
    obtain ⟨h1, h2, h3⟩ := hok r (List.mem_cons_self ..)
    have hokt : ∀ x ∈ t, ReqOK x := fun x hx => hok x (List.mem_cons_of_mem _ hx)
    have he := feedSpecies_energy rnd r.pop r.rum h1 h2 h3 hg hf
    rw [feedAll_cons, List.zip_cons_cons, List.pairwise_cons]
    refine ⟨fun q hq => ?_, ih _ _ hokt he.grass_nonneg he.feed_nonneg⟩
    -- a later species is offered no more than the first one left, and cannot leave less than nothing
    obtain ⟨hq_eq, hgi0, hgi1, hfi0, hfi1⟩ :=
      List.forall₂_zip (feedAll_spec rnd t _ _ hokt he.grass_nonneg he.feed_nonneg).1 hq
    have hrq := hokt q.1 (List.of_mem_zip hq).1
    have hq := feedSpecies_energy rnd q.1.pop q.1.rum hrq.1 hrq.2.1 hrq.2.2 hgi0 hfi0
    rw [← hq_eq] at hq
    rcases he.met_or_all with hb | ⟨hfz, hgz⟩
    · exact ⟨fun _ => hb, fun _ => Or.inl hb⟩
    · refine ⟨fun hpos => ?_, fun hpos => ?_⟩
      · rw [hfz] at hfi1
        exact absurd hpos (not_lt.mpr (sub_nonpos.mpr (hfi1.trans hq.feed_nonneg)))
      · cases hrum : r.rum with
        | false => exact Or.inr rfl
        | true =>
          rw [hgz hrum] at hgi1
          exact absurd hpos (not_lt.mpr (sub_nonpos.mpr (hgi1.trans hq.grass_nonneg)))

section sort
variable {β : Type} (key : β → K)

theorem insertDesc_perm (x : β) (l : List β) : (insertDesc key x l).Perm (x :: l) := by
  induction l with
  | nil => exact List.Perm.refl _
  | cons y ys ih =>
    unfold insertDesc
    split_ifs with h
    · exact ((List.Perm.cons y ih).trans (List.Perm.swap x y ys))
    · exact List.Perm.refl _

theorem insertDesc_sorted (x : β) (l : List β) (h : l.Pairwise (fun a b => key b ≤ key a)) :
    (insertDesc key x l).Pairwise (fun a b => key b ≤ key a) := by
  induction l with
  | nil => simp [insertDesc]
  | cons y ys ih =>
    unfold insertDesc
    rw [List.pairwise_cons] at h
    split_ifs with hlt
    · rw [List.pairwise_cons]
      refine ⟨fun b hb => ?_, ih h.2⟩
      rcases List.mem_cons.mp ((insertDesc_perm key x ys).mem_iff.mp hb) with rfl | hb
      · exact hlt.le
      · exact h.1 b hb
    · have hxy : key y ≤ key x := not_lt.mp hlt
      rw [List.pairwise_cons]
      refine ⟨fun b hb => ?_, List.pairwise_cons.mpr h⟩
      rcases List.mem_cons.mp hb with rfl | hb
      · exact hxy
      · exact le_trans (h.1 b hb) hxy

end sort

/-- the parameter ranges the proofs need.  The setters of `AnimalSpecies` enforce the non-negativity
    clauses and the fractions in [0, 1]; `0 < hours`, `0 < gestation` (the setters allow 0), positive
    efficiencies, `1 ≤ birthRatio` and `tcf ≤ 1` are enforced nowhere in the code: the shipped tables
    satisfy them, and the correspondence run checks all clauses on the parameters of every country
    it drives -/
structure SpOK (sp : Species K) : Prop where
  effG : 0 < sp.effG
  effF : 0 < sp.effF
  ne : 0 ≤ sp.nePerHead
  hours : 0 < sp.hours
  baseline : 0 ≤ sp.baseline
  target : 0 ≤ sp.target
  odr : 0 ≤ sp.odr
  app : 0 ≤ sp.app
  br : 1 ≤ sp.birthRatio
  tcf0 : 0 ≤ sp.tcf
  tcf1 : sp.tcf ≤ 1
  gest : 0 < sp.gestation
  rib0 : 0 ≤ sp.rib
  rib1 : sp.rib ≤ 1
  sdf : 0 ≤ sp.sdf
  ret : 0 ≤ sp.retFrac

/-- the invariant of the month loop -/
structure HerdOK (h : Herd K) : Prop where
  sp : SpOK h.sp
  pop : 0 ≤ h.st.pop
  sl : 0 ≤ h.st.slaughterLast
  pt : 0 ≤ h.st.pregTotal
  pb : 0 ≤ h.st.pregBirthing
  psf : 0 ≤ h.st.psf

structure CountryOK (c : Country K) : Prop where
  hk : 0 ≤ c.homekillHours
  odhr : 0 ≤ c.odhr
  hkf : 0 ≤ c.hkf

theorem slaughterRate_spec (cur h rem : K) (hc : 0 ≤ cur) (hh : 0 < h) (hr : 0 ≤ rem) :
    0 ≤ slaughterRate cur h rem ∧ slaughterRate cur h rem * h ≤ rem := by
  unfold slaughterRate
  split_ifs with hp
  · rw [pmin_eq_min]
    have hm : 0 ≤ min (cur * h) rem := le_min (mul_nonneg hc hh.le) hr
    refine ⟨div_nonneg hm hh.le, ?_⟩
    rw [div_mul_cancel₀ _ hh.ne']; exact min_le_right _ _
  · exact ⟨le_refl _, by rw [zero_mul]; exact hr⟩

theorem actualSlaughter_eq (pre target rate : K) (ht : 0 ≤ target) (hr : 0 ≤ rate) :
    actualSlaughter pre target rate =
      if pre < target then (0, max 0 pre) else (min rate (pre - target), pre - min rate (pre - target)) := by
  unfold actualSlaughter
  by_cases h1 : pre < target
  · simp only [if_pos h1, lt_irrefl, if_false, sub_zero]
    split_ifs with h2
    exacts [by rw [max_eq_left h2.le], by rw [max_eq_right (not_lt.mp h2)]]
  · have h1' := sub_nonneg.mpr (not_lt.mp h1)
    have hm : (if pre - rate < target then pre - target else rate) = min rate (pre - target) := by
      split_ifs with h
      exacts [(min_eq_right (sub_lt_comm.mp h).le).symm, (min_eq_left (le_sub_comm.mp (not_lt.mp h))).symm]
    have hm0 : 0 ≤ min rate (pre - target) := le_min hr h1'
    have hp : ¬ pre - min rate (pre - target) < 0 :=
      not_lt.mpr (sub_nonneg.mpr ((min_le_right _ _).trans (sub_le_self pre ht)))
    simp only [if_neg h1, hm, if_neg (not_lt.mpr hm0), if_neg hp]

theorem actualSlaughter_spec (pre target rate : K) (ht : 0 ≤ target) (hr : 0 ≤ rate) :
    0 ≤ (actualSlaughter pre target rate).1 ∧ (actualSlaughter pre target rate).1 ≤ rate ∧
    (actualSlaughter pre target rate).2 = max 0 (pre - (actualSlaughter pre target rate).1) ∧
    (actualSlaughter pre target rate).1 ≤ max 0 pre ∧
    (target ≤ pre → target ≤ pre - (actualSlaughter pre target rate).1) ∧
    (pre < target → (actualSlaughter pre target rate).1 = 0) := by
  rw [actualSlaughter_eq pre target rate ht hr]
  split_ifs with h
  · exact ⟨le_rfl, hr, by rw [sub_zero], le_max_left _ _, fun h' => absurd h (not_lt.mpr h'), fun _ => rfl⟩
  · have h' := not_lt.mp h
    have hm : min rate (pre - target) ≤ pre := (min_le_right _ _).trans (sub_le_self pre ht)
    exact ⟨le_min hr (sub_nonneg.mpr h'), min_le_left _ _, (max_eq_right (sub_nonneg.mpr hm)).symm,
      le_max_of_le_right hm, fun _ => le_sub_comm.mp (min_le_right _ _), fun h'' => absurd h'' h⟩

theorem pregSlaughter_nonneg (psf pt0 odr actual : K) :
    0 ≤ (pregSlaughter psf pt0 odr actual).1 ∧ 0 ≤ (pregSlaughter psf pt0 odr actual).2 := by
  -- both components end in the clamp `x if x >= 0 else 0`
  have clamp : ∀ x : K, 0 ≤ if 0 ≤ x then x else 0 := fun x => by split_ifs with h; exacts [h, le_rfl]
  exact ⟨clamp _, clamp _⟩

/-- one draw of at most `x` head on an hour budget `B` at `h` hours a head -/
theorem draw_spec {x B h : K} (hx : 0 ≤ x) (hB : 0 ≤ B) (hh : 0 < h) :
    0 ≤ min x (B / h) ∧ 0 ≤ B - min x (B / h) * h ∧
    (B = 0 → min x (B / h) = 0 ∧ B - min x (B / h) * h = 0) := by
  have h0 : 0 ≤ min x (B / h) := le_min hx (div_nonneg hB hh.le)
  refine ⟨h0, sub_nonneg.mpr ((le_div_iff₀ hh).mp (min_le_right _ _)), ?_⟩
  rintro rfl
  have e : min x (0 / h) = 0 := le_antisymm ((min_le_right _ _).trans (zero_div h).le) h0
  rw [e, zero_mul, sub_zero]
  exact ⟨rfl, rfl⟩

theorem homekill_spec (cn : Country K) (hcn : CountryOK cn) (h od pa stv sl B : K)
    (hh : 0 < h) (hod : 0 ≤ od) (hpa : 0 ≤ pa) (hB : 0 ≤ B) :
    0 ≤ (homekill cn h od pa stv sl B).1 ∧ 0 ≤ (homekill cn h od pa stv sl B).2.1 ∧
    0 ≤ (homekill cn h od pa stv sl B).2.2.1 ∧ 0 ≤ (homekill cn h od pa stv sl B).2.2.2.1 ∧
    0 ≤ (homekill cn h od pa stv sl B).2.2.2.2 ∧
    (B = 0 → (homekill cn h od pa stv sl B).1 = 0 ∧ (homekill cn h od pa stv sl B).2.1 = 0 ∧
      (homekill cn h od pa stv sl B).2.2.2.1 = 0 ∧ (homekill cn h od pa stv sl B).2.2.2.2 = 0) := by
  unfold homekill
  simp only [pmin_eq_min]
  obtain ⟨k1, b1, z1⟩ := draw_spec (mul_nonneg hod hcn.odhr) hB hh
  obtain ⟨k2, b2, z2⟩ := draw_spec (mul_nonneg hcn.hkf hpa) b1 hh
  generalize B - min (od * cn.odhr) (B / h) * h = B1 at *
  generalize B1 - min (cn.hkf * pa) (B1 / h) * h = B2 at *
  rw [ite_neg_eq_max, ite_neg_eq_max, max_eq_right (div_nonneg b2 hh.le)]
  obtain ⟨k3, b3, z3⟩ := draw_spec (le_max_left 0 (stv - sl - min (cn.hkf * pa) (B1 / h))) b2 hh
  exact ⟨k1, k2, le_max_left _ _, k3, b3, fun hB0 => ⟨(z1 hB0).1, (z2 (z1 hB0).2).1, z3 (z2 (z1 hB0).2).2⟩⟩

theorem pregAdjust_nonneg (rib tpf ods odTotal pop x : K) (hx : 0 ≤ x) :
    0 ≤ pregAdjust rib tpf ods odTotal pop x := by
  unfold pregAdjust
  split
  · exact hx
  · dsimp only; rw [ite_neg_eq_max]; exact le_max_left _ _

/-- after phase 2 (`birthsOne`) -/
structure BOK (b : WB K) : Prop where
  h : HerdOK b.a.h
  pt : 0 ≤ b.pregTotalIn
  pb : 0 ≤ b.pregBirthingIn
  psf : 0 ≤ b.psf
  births : 0 ≤ b.births
  tb : 0 ≤ b.transferBirths
  ret : 0 ≤ b.retiring
  out : b.transferOut = b.retiring + b.transferBirths
  retMeat : b.a.h.sp.isMilk = false → b.retiring = 0
  retMilk : b.a.h.sp.isMilk = true → b.retiring = b.a.h.st.pop * b.a.h.sp.retFrac
  tbDef : b.transferBirths = b.births * (b.a.h.sp.birthRatio - 1) * (1 - b.a.h.sp.tcf)

theorem birthsOne_a (month : K) (a : WA K) : (birthsOne month a).a = a := rfl

theorem birthsOne_ok (month : K) (a : WA K) (ha : HerdOK a.h) : BOK (birthsOne month a) := by
  have hsp := ha.sp
  have h1 : 0 ≤ 1 - a.h.sp.rib := sub_nonneg.mpr hsp.rib1
  have hbr : 0 ≤ a.h.sp.birthRatio - 1 := sub_nonneg.mpr hsp.br
  -- the breeding change scales a pregnant count by `1 - rib` or leaves it
  have key : ∀ (c : Prop) [Decidable c] (x : K), 0 ≤ x → 0 ≤ if c then x * (1 - a.h.sp.rib) else x := by
    intro c _ x hx; split_ifs; exacts [mul_nonneg hx h1, hx]
  have hbirths : 0 ≤ (birthsOne month a).births :=
    div_nonneg (mul_nonneg (key _ _ ha.pb) hsp.app) (zero_le_one.trans hsp.br)
  exact
    { h := ha
      pt := key _ _ ha.pt
      pb := key _ _ ha.pb
      psf := by
        show 0 ≤ if _ then (0 : K) else a.h.st.psf
        split_ifs
        exacts [le_rfl, ha.psf]
      births := hbirths
      tb := mul_nonneg (mul_nonneg hbirths hbr) (sub_nonneg.mpr hsp.tcf1)
      ret := by
        show 0 ≤ if a.h.sp.isMilk = true then a.h.st.pop * a.h.sp.retFrac else (0 : K)
        split_ifs
        exacts [mul_nonneg ha.pop hsp.ret, le_rfl]
      out := rfl
      retMeat := fun hm : a.h.sp.isMilk = false => if_neg (by rw [hm]; exact Bool.false_ne_true)
      retMilk := fun hm : a.h.sp.isMilk = true => if_pos hm
      tbDef := rfl }

theorem transferFind_cons (b : WB K) (t : List (WB K)) (s : String) :
    transferFind (b :: t) s = (transferFind t s).or
      (if b.a.h.sp.isMilk = true ∧ b.a.h.sp.species = s then some b.transferOut else none) := by
  rw [transferFind]
  cases transferFind t s <;> simp only [Option.some_or, Option.none_or, Bool.and_eq_true, beq_iff_eq]

theorem transferFind_none (l : List (WB K)) (s : String)
    (h : ∀ b ∈ l, ¬ (b.a.h.sp.isMilk = true ∧ b.a.h.sp.species = s)) : transferFind l s = none := by
  induction l with
  | nil => rfl
  | cons b t ih =>
    rw [transferFind_cons, ih fun x hx => h x (List.mem_cons_of_mem _ hx), if_neg (h b (List.mem_cons_self ..))]
    rfl

theorem transferFind_mem (l : List (WB K)) (s : String) (v : K) (h : transferFind l s = some v) :
    ∃ b ∈ l, b.a.h.sp.isMilk = true ∧ b.a.h.sp.species = s ∧ v = b.transferOut := by
  induction l with
  | nil => cases h
  | cons b t ih =>
    rw [transferFind_cons, Option.or_eq_some_iff] at h
    rcases h with h | ⟨-, h⟩
    · obtain ⟨x, hx, hp⟩ := ih h
      exact ⟨x, List.mem_cons_of_mem _ hx, hp⟩
    · split_ifs at h with hc
      exact ⟨b, List.mem_cons_self .., hc.1, hc.2, (Option.some.inj h).symm⟩

theorem transferOf_nonneg (l : List (WB K)) (s : String) (h : ∀ b ∈ l, 0 ≤ b.transferOut) :
    0 ≤ transferOf l s := by
  unfold transferOf
  cases hf : transferFind l s with
  | none => exact le_rfl
  | some v =>
    obtain ⟨b, hb, -, -, rfl⟩ := transferFind_mem l s v hf
    exact h b hb

theorem transferFind_unique (l : List (WB K)) (e : WB K) (he : e ∈ l) (hm : e.a.h.sp.isMilk = true)
    (hp : l.Pairwise (fun x y => x.a.h.sp.isMilk = true → y.a.h.sp.isMilk = true →
      x.a.h.sp.species ≠ y.a.h.sp.species)) :
    transferFind l e.a.h.sp.species = some e.transferOut := by
  induction l with
  | nil => cases he
  | cons b t ih =>
    rw [List.pairwise_cons] at hp
    rw [transferFind_cons]
    rcases List.mem_cons.mp he with rfl | het
    · rw [transferFind_none t _ fun x hx hx' => hp.1 x hx hm hx'.1 hx'.2.symm, Option.none_or, if_pos ⟨hm, rfl⟩]
    · rw [ih het hp.2, Option.some_or]

/-- animals entering a meat herd from the dairy herd of its species (0 for a dairy herd, whose
    `transfer_population` entry is the negative of what leaves it) -/
def transferIn (d : WD K) : K := if d.c.b.a.h.sp.isMilk then 0 else d.c.transferPop

/-- C06, non-negativity clause -/
def NonNeg (d : WD K) : Prop :=
  0 ≤ d.c.b.a.h.st.pop ∧ 0 ≤ d.popEnd ∧ 0 ≤ d.c.popAfter ∧ 0 ≤ d.c.b.births ∧ 0 ≤ d.c.b.transferBirths ∧
  0 ≤ d.c.b.retiring ∧ 0 ≤ transferIn d ∧ (d.c.b.a.h.sp.isMilk = true → d.c.transferPop ≤ 0) ∧
  0 ≤ d.c.otherDeath ∧ 0 ≤ d.c.slaughter ∧ 0 ≤ d.c.slPreg ∧ 0 ≤ d.ods ∧ 0 ≤ d.odTotal ∧
  0 ≤ d.hkOther ∧ 0 ≤ d.hkHealthy ∧ 0 ≤ d.hkStarving ∧ 0 ≤ d.starvingPost ∧
  0 ≤ d.pregTotal ∧ 0 ≤ d.pregBirthing ∧ 0 ≤ d.c.b.pregTotalIn ∧ 0 ≤ d.c.b.pregBirthingIn

/-- C06, "never exceeds the animals available and never takes a herd below its target size";
    `pre` is the herd before slaughter: start + births + transfers in − retirements − natural deaths -/
def AvailTarget (d : WD K) : Prop :=
  d.c.pre = d.c.b.a.h.st.pop + d.c.b.births + transferIn d - d.c.b.retiring - d.c.otherDeath ∧
  d.c.slaughter ≤ max 0 d.c.pre ∧
  (d.c.b.a.h.sp.target ≤ d.c.pre → d.c.b.a.h.sp.target ≤ d.c.pre - d.c.slaughter) ∧
  (d.c.pre < d.c.b.a.h.sp.target → d.c.slaughter = 0)

/-- after phase 3 (`slaughterOne` with `tr` animals transferred) -/
structure COK (tr : K) (c : WC K) : Prop where
  b : BOK c.b
  tp : c.transferPop = if c.b.a.h.sp.isMilk then -tr else tr
  od0 : 0 ≤ c.otherDeath
  pre : c.pre = c.b.a.h.st.pop + c.b.births + (if c.b.a.h.sp.isMilk then 0 else tr) - c.b.retiring - c.otherDeath
  sl0 : 0 ≤ c.slaughter
  popAfter : c.popAfter = max 0 (c.pre - c.slaughter)
  avail : c.slaughter ≤ max 0 c.pre
  t1 : c.b.a.h.sp.target ≤ c.pre → c.b.a.h.sp.target ≤ c.pre - c.slaughter
  t2 : c.pre < c.b.a.h.sp.target → c.slaughter = 0
  slp : 0 ≤ c.slPreg
  pt : 0 ≤ c.pregTotal
  pb : 0 ≤ c.pregBirthing

theorem slaughterOne_b (first : Bool) (tr : K) (b : WB K) (rem : K) :
    (slaughterOne first tr b rem).1.b = b := rfl

theorem slaughterOne_rem (first : Bool) (tr : K) (b : WB K) (rem : K) :
    (slaughterOne first tr b rem).2 = rem - (slaughterOne first tr b rem).1.slaughter * b.a.h.sp.hours := rfl

theorem slaughterOne_ok (first : Bool) (tr : K) (b : WB K) (rem : K) (hb : BOK b) (hrem : 0 ≤ rem) :
    COK tr (slaughterOne first tr b rem).1 ∧ 0 ≤ (slaughterOne first tr b rem).2 := by
  have hsp := hb.h.sp
  have hcur : 0 ≤ (if first = true then b.a.h.sp.baseline else b.a.h.st.slaughterLast) := by
    split_ifs
    exacts [hsp.baseline, hb.h.sl]
  obtain ⟨hr0, hr1⟩ := slaughterRate_spec _ b.a.h.sp.hours rem hcur hsp.hours hrem
  have hod : 0 ≤ b.a.h.st.pop * b.a.h.sp.odr := mul_nonneg hb.h.pop hsp.odr
  obtain ⟨hsl0, hsl_rate, hafter, havail, ht1, ht2⟩ := actualSlaughter_spec
    (slaughterOne first tr b rem).1.pre b.a.h.sp.target (slaughterOne first tr b rem).1.rate hsp.target hr0
  obtain ⟨hp1, hp2⟩ := pregSlaughter_nonneg b.psf b.pregTotalIn b.a.h.sp.odr (slaughterOne first tr b rem).1.slaughter
  refine ⟨?_, ?_⟩
  · exact
      { b := hb
        tp := rfl
        od0 := hod
        pre := by
          show b.a.h.st.pop - (b.a.h.st.pop * b.a.h.sp.odr + b.retiring)
              + (if b.a.h.sp.isMilk = true then b.births else b.births + tr)
            = b.a.h.st.pop + b.births + (if b.a.h.sp.isMilk = true then 0 else tr) - b.retiring
              - b.a.h.st.pop * b.a.h.sp.odr
          split_ifs <;> ring
        sl0 := hsl0
        popAfter := hafter
        avail := havail
        t1 := ht1
        t2 := ht2
        slp := hp1
        pt := hp2
        pb := div_nonneg hp2 hsp.gest.le }
  · rw [slaughterOne_rem]
    exact sub_nonneg.mpr ((mul_le_mul_of_nonneg_right hsl_rate hsp.hours.le).trans hr1)

/-- after phase 4 (`finishOne`) -/
structure DOK (tr : K) (d : WD K) : Prop where
  c : COK tr d.c
  hk1 : 0 ≤ d.hkOther
  hk2 : 0 ≤ d.hkHealthy
  hk3 : 0 ≤ d.hkStarving
  hkT : d.hkTotal = d.hkOther + d.hkHealthy + d.hkStarving
  sP : 0 ≤ d.starvingPost
  ods : 0 ≤ d.ods
  odT : d.odTotal = d.ods + d.c.otherDeath
  pt : 0 ≤ d.pregTotal
  pb : 0 ≤ d.pregBirthing
  popEnd : d.popEnd = max 0 (d.c.popAfter - (d.ods + d.hkHealthy + d.hkStarving))

theorem finishOne_c (cn : Country K) (c : WC K) (B : K) : (finishOne cn c B).1.c = c := rfl

theorem finishOne_ok (cn : Country K) (hcn : CountryOK cn) (tr : K) (c : WC K) (B : K) (hc : COK tr c)
    (hB : 0 ≤ B) :
    DOK tr (finishOne cn c B).1 ∧ 0 ≤ (finishOne cn c B).2 ∧
    (B = 0 → (finishOne cn c B).1.hkTotal = 0 ∧ (finishOne cn c B).2 = 0) := by
  have hsp := hc.b.h.sp
  have hpa : 0 ≤ c.popAfter := by rw [hc.popAfter]; exact le_max_left _ _
  obtain ⟨hother, hhealthy, hpost, hstarving, hleft, hzero⟩ := homekill_spec cn hcn c.b.a.h.sp.hours
    c.otherDeath c.popAfter c.b.a.starvingPre c.slaughter B hsp.hours hc.od0 hpa hB
  have hods : 0 ≤ (finishOne cn c B).1.ods := by
    show 0 ≤ pmax _ 0 * c.b.a.h.sp.sdf
    rw [pmax_eq_max]
    exact mul_nonneg (le_max_right _ _) hsp.sdf
  refine ⟨?_, hleft, ?_⟩
  · exact
      { c := hc
        hk1 := hother
        hk2 := hhealthy
        hk3 := hstarving
        hkT := rfl
        sP := hpost
        ods := hods
        odT := rfl
        pt := pregAdjust_nonneg _ _ _ _ _ _ hc.pt
        pb := pregAdjust_nonneg _ _ _ _ _ _ hc.pb
        popEnd := ite_neg_eq_max _ }
  · intro hB0
    obtain ⟨e1, e2, e3, e4⟩ := hzero hB0
    refine ⟨?_, e4⟩
    show (homekill cn c.b.a.h.sp.hours c.otherDeath c.popAfter c.b.a.starvingPre c.slaughter B).1 +
      (homekill cn c.b.a.h.sp.hours c.otherDeath c.popAfter c.b.a.starvingPre c.slaughter B).2.1 +
      (homekill cn c.b.a.h.sp.hours c.otherDeath c.popAfter c.b.a.starvingPre c.slaughter B).2.2.2.1 = 0
    rw [e1, e2, e3]; ring

theorem dok_next (tr : K) (d : WD K) (h : DOK tr d) : HerdOK (nextHerd d) := by
  have hc := h.c
  refine ⟨hc.b.h.sp, ?_, hc.sl0, h.pt, h.pb, hc.b.psf⟩
  show 0 ≤ d.popEnd
  rw [h.popEnd]; exact le_max_left _ _

theorem hours_get_set_self (h : Hours K) (s : Size) (v : K) (hs : s ≠ Size.other) : (h.set s v).get s = v := by
  cases s with
  | other => exact absurd rfl hs
  | _ => rfl

theorem hours_get_set_ne (h : Hours K) (s s' : Size) (v : K) (hne : s' ≠ s) : (h.set s v).get s' = h.get s' := by
  cases s <;> cases s' <;> first | rfl | exact absurd rfl hne

def HoursOK (h : Hours K) : Prop := 0 ≤ h.small ∧ 0 ≤ h.medium ∧ 0 ≤ h.large

theorem hoursOK_get (h : Hours K) (hh : HoursOK h) (s : Size) : 0 ≤ h.get s := by
  cases s
  · exact hh.1
  · exact hh.2.1
  · exact hh.2.2
  · exact le_refl _

theorem hoursOK_set (h : Hours K) (hh : HoursOK h) (s : Size) (v : K) (hv : 0 ≤ v) : HoursOK (h.set s v) := by
  cases s
  · exact ⟨hv, hh.2.1, hh.2.2⟩
  · exact ⟨hh.1, hv, hh.2.2⟩
  · exact ⟨hh.1, hh.2.1, hv⟩
  · exact hh

/-- `x` returns only values satisfying `P` and fails only if `E` (an `assert` of the code that fires
    is an `.error`) -/
def Post {α : Type} (P : α → Prop) (E : Prop) : Except String α → Prop
  | .ok a => P a
  | .error _ => E

theorem Post.of_ok {α : Type} {P : α → Prop} {E : Prop} {x : Except String α} {a : α}
    (h : Post P E x) (hx : x = .ok a) : P a := by subst hx; exact h

theorem Post.exists_ok {α : Type} {P : α → Prop} {E : Prop} {x : Except String α}
    (h : Post P E x) (hE : ¬ E) : ∃ a, x = .ok a := by
  cases x with
  | ok a => exact ⟨a, rfl⟩
  | error e => exact absurd h hE

/-- the way through the `match x with | .error e => .error e | .ok a => …` steps of the model -/
@[elab_as_elim]
theorem Post.elim {α : Type} {P : α → Prop} {E : Prop} {motive : Except String α → Prop}
    {x : Except String α} (h : Post P E x) (error : ∀ e, E → motive (.error e))
    (ok : ∀ a, P a → motive (.ok a)) : motive x := by
  cases x with
  | error e => exact error e h
  | ok a => exact ok a h

/-- the slaughter loop can stop only on the size-class `assert`: the hours `assert` never fires -/
theorem slaughterAll_post (first : Bool) (all : List (WB K)) (l : List (WB K)) (hl : ∀ b ∈ l, BOK b)
    (hrs : Hours K) (hh : HoursOK hrs) :
    Post (fun cs => cs.map (·.b) = l ∧ (∀ c ∈ cs, COK (transferOf all c.b.a.h.sp.species) c) ∧
        ∀ s, s ≠ Size.other →
          ((cs.filter (fun c => c.b.a.h.sp.size = s)).map (fun c => c.slaughter * c.b.a.h.sp.hours)).sum ≤ hrs.get s)
      (∃ b ∈ l, b.a.h.sp.size = Size.other) (slaughterAll first all hrs l) := by
  induction l generalizing hrs with
  | nil => exact ⟨rfl, List.forall_mem_nil _, fun s _ => by simpa using hoursOK_get hrs hh s⟩
  | cons b t ih =>
    obtain ⟨hcok, h0⟩ := slaughterOne_ok first (transferOf all b.a.h.sp.species) b (hrs.get b.a.h.sp.size)
      (hl b (List.mem_cons_self ..)) (hoursOK_get hrs hh _)
    have iht := ih (fun x hx => hl x (List.mem_cons_of_mem _ hx)) _ (hoursOK_set hrs hh b.a.h.sp.size _ h0)
    rw [slaughterAll]
    by_cases hs : b.a.h.sp.size = Size.other
    · rw [if_pos hs]
      exact ⟨b, List.mem_cons_self .., hs⟩
    · -- `h0`: the hours left are non-negative, so the hours `assert` passes
      rw [if_neg hs, if_pos h0]
      refine iht.elim (fun e ⟨x, hx, hxs⟩ => ⟨x, List.mem_cons_of_mem _ hx, hxs⟩) ?_
      rintro cs' ⟨ih1, ih2, ih3⟩
      refine ⟨by simp only [List.map_cons, slaughterOne_b, ih1], List.forall_mem_cons.mpr ⟨hcok, ih2⟩, fun s hso => ?_⟩
      have := ih3 s hso
      rw [List.filter_cons]
      by_cases hsz : b.a.h.sp.size = s
      · subst hsz
        rw [hours_get_set_self _ _ _ hso, slaughterOne_rem] at this
        simp only [slaughterOne_b, decide_true, if_true, List.map_cons, List.sum_cons]
        linarith
      · rw [hours_get_set_ne _ _ _ _ (Ne.symm hsz)] at this
        simpa only [slaughterOne_b, hsz, decide_false, Bool.false_eq_true, if_false] using this

/-- the last loop can stop (on the home-kill `assert`) only if there is a home-kill budget -/
theorem finishAll_post (cn : Country K) (hcn : CountryOK cn) (trf : WC K → K) (cs : List (WC K))
    (hcs : ∀ c ∈ cs, COK (trf c) c) (B : K) (hB : 0 ≤ B) :
    Post (fun ds => ds.map (·.c) = cs ∧ ∀ d ∈ ds, DOK (trf d.c) d) (B ≠ 0) (finishAll cn B cs) := by
  induction cs generalizing B with
  | nil => exact ⟨rfl, List.forall_mem_nil _⟩
  | cons c t ih =>
    obtain ⟨hd, hB', hz⟩ := finishOne_ok cn hcn (trf c) c B (hcs c (List.mem_cons_self ..)) hB
    have iht := ih (fun x hx => hcs x (List.mem_cons_of_mem _ hx)) _ hB'
    rw [finishAll]
    split_ifs with h0
    · refine iht.elim (fun e h hB0 => h (hz hB0).2) ?_
      exact fun ds' ⟨ih1, ih2⟩ =>
        ⟨by simp only [List.map_cons, finishOne_c, ih1], List.forall_mem_cons.mpr ⟨hd, ih2⟩⟩
    · exact fun hB0 => h0 (le_antisymm_iff.mp (hz hB0).1)

theorem zipFeed_spec (herds : List (Herd K)) (os : List (FeedOut K)) (hlen : os.length = herds.length) :
    (zipFeed herds os).map (·.h) = herds ∧ (zipFeed herds os).map (·.fo) = os ∧
    ∀ a ∈ zipFeed herds os, a.starvingPre = a.h.st.pop - a.fo.fed := by
  induction herds generalizing os with
  | nil =>
    cases os with
    | nil => exact ⟨rfl, rfl, List.forall_mem_nil _⟩
    | cons o t => cases hlen
  | cons h hs ih =>
    cases os with
    | nil => cases hlen
    | cons o t =>
      obtain ⟨i1, i2, i3⟩ := ih t (Nat.succ.inj hlen)
      exact ⟨by rw [zipFeed, List.map_cons, i1], by rw [zipFeed, List.map_cons, i2],
        List.forall_mem_cons.mpr ⟨rfl, i3⟩⟩

/-- everything proved about one pass of the month loop: `herds` at the start, the record `r`,
    `herds'` at the end (`trnn`: every entry of the transfer dictionary is non-negative) -/
structure MonthFacts (rnd : K → K) (feed grass : K) (herds : List (Herd K)) (r : MonthRec K)
    (herds' : List (Herd K)) : Prop where
  start : r.recs.map (fun d => d.c.b.a.h) = herds
  next : herds' = r.recs.map nextHerd
  trnn : ∀ s, 0 ≤ transferOf (r.recs.map (fun d => d.c.b)) s
  dok : ∀ d ∈ r.recs, DOK (transferOf (r.recs.map (fun d => d.c.b)) d.c.b.a.h.sp.species) d
  hours : ∀ s, s ≠ Size.other →
    ((r.recs.filter (fun d => d.c.b.a.h.sp.size = s)).map (fun d => d.c.slaughter * d.c.b.a.h.sp.hours)).sum
      ≤ ((herds.filter (fun h => h.sp.size = s)).map (fun h => h.sp.hours * h.sp.baseline)).sum
  inv : ∀ h ∈ herds', HerdOK h
  feeding : r.recs.map (fun d => d.c.b.a.fo) = (feedAll rnd (herds.map feedReqOf) grass feed).1
  starving : ∀ d ∈ r.recs, d.c.b.a.starvingPre = d.c.b.a.h.st.pop - d.c.b.a.fo.fed
  usedFeed : r.feedUsed = feed - (feedAll rnd (herds.map feedReqOf) grass feed).2.2
  usedGrass : r.grassUsed = grass - (feedAll rnd (herds.map feedReqOf) grass feed).2.1

theorem classHours_eq_sum (herds : List (Herd K)) (s : Size) :
    classHours herds s = ((herds.filter (fun h => h.sp.size = s)).map (fun h => h.sp.hours * h.sp.baseline)).sum :=
  lsum_eq_sum _

theorem classHours_nonneg (herds : List (Herd K)) (hh : ∀ h ∈ herds, HerdOK h) (s : Size) :
    0 ≤ classHours herds s := by
  rw [classHours_eq_sum]
  refine List.sum_nonneg fun x hx => ?_
  obtain ⟨h, hm, rfl⟩ := List.mem_map.mp hx
  have := hh h (List.mem_of_mem_filter hm)
  exact mul_nonneg this.sp.hours.le this.sp.baseline

theorem hoursBySize_get (herds : List (Herd K)) (s : Size) (hs : s ≠ Size.other) :
    (hoursBySize herds).get s = classHours herds s := by
  cases s with
  | other => exact absurd rfl hs
  | _ => rfl

theorem monthStep_post (cn : Country K) (hcn : CountryOK cn) (rnd : K → K) (first : Bool) (month : K)
    (herds : List (Herd K)) (hh : ∀ h ∈ herds, HerdOK h) (feed grass : K) :
    Post (fun out => MonthFacts rnd feed grass herds out.1 out.2)
      ((∃ h ∈ herds, h.sp.size = Size.other) ∨ cn.homekillHours ≠ 0)
      (monthStep cn rnd first month herds feed grass) := by
  unfold monthStep
  dsimp only
  set fa := feedAll rnd (herds.map feedReqOf) grass feed with hfa
  set was := zipFeed herds fa.1 with hwas
  set wbs := was.map (birthsOne month) with hwbs
  obtain ⟨hwas_h, hwas_fo, hwas_st⟩ : was.map (·.h) = herds ∧ was.map (·.fo) = fa.1 ∧
      ∀ a ∈ was, a.starvingPre = a.h.st.pop - a.fo.fed :=
    zipFeed_spec herds fa.1 (by rw [hfa, feedAll_length, List.length_map])
  have hwas_mem : ∀ a ∈ was, a.h ∈ herds := fun a ha => hwas_h ▸ List.mem_map_of_mem ha
  have hwbs_ok : ∀ b ∈ wbs, BOK b := by
    intro b hb
    obtain ⟨a, ha, rfl⟩ := List.mem_map.mp hb
    exact birthsOne_ok month a (hh _ (hwas_mem a ha))
  have hwbs_a : wbs.map (·.a) = was := by
    rw [hwbs, List.map_map]; exact List.map_id' _
  have htr : ∀ s, 0 ≤ transferOf wbs s := fun s =>
    transferOf_nonneg _ _ fun b hb => by rw [(hwbs_ok b hb).out]; exact add_nonneg (hwbs_ok b hb).ret (hwbs_ok b hb).tb
  have hhrs : HoursOK (hoursBySize herds) :=
    ⟨classHours_nonneg herds hh _, classHours_nonneg herds hh _, classHours_nonneg herds hh _⟩
  refine (slaughterAll_post first wbs wbs hwbs_ok _ hhrs).elim ?_ ?_
  · rintro e ⟨b, hb, hs⟩
    obtain ⟨a, ha, rfl⟩ := List.mem_map.mp hb
    exact Or.inl ⟨a.h, hwas_mem a ha, hs⟩
  rintro wcs ⟨hc1, hc2, hc3⟩
  dsimp only
  refine (finishAll_post cn hcn (fun c => transferOf wbs c.b.a.h.sp.species) wcs hc2 _ hcn.hk).elim
    (fun e h => Or.inr h) ?_
  rintro wds ⟨hd1, hd2⟩
  have hmb : wds.map (fun d => d.c.b) = wbs := by rw [← hc1, ← hd1, List.map_map]; rfl
  have hma : wds.map (fun d => d.c.b.a) = was := by rw [← hwbs_a, ← hmb, List.map_map]; rfl
  have hmh : wds.map (fun d => d.c.b.a.h) = herds := by rw [← hwas_h, ← hma, List.map_map]; rfl
  exact
    { start := hmh
      next := rfl
      trnn := hmb.symm ▸ htr
      dok := hmb.symm ▸ hd2
      hours := fun s hs => by
        have := hc3 s hs
        rwa [hoursBySize_get _ _ hs, classHours_eq_sum, ← hd1, List.filter_map, List.map_map] at this
      inv := fun h' hh' => by
        obtain ⟨d, hd, rfl⟩ := List.mem_map.mp hh'
        exact dok_next _ d (hd2 d hd)
      feeding := by rw [← hwas_fo, ← hma, List.map_map]; rfl
      starving := fun d hd => hwas_st _ (hma ▸ List.mem_map_of_mem (f := fun d : WD K => d.c.b.a) hd)
      usedFeed := rfl
      usedGrass := rfl }

theorem monthStep_spec (cn : Country K) (hcn : CountryOK cn) (rnd : K → K) (first : Bool) (month : K)
    (herds : List (Herd K)) (hh : ∀ h ∈ herds, HerdOK h) (feed grass : K) (r : MonthRec K)
    (herds' : List (Herd K))
    (h : monthStep cn rnd first month herds feed grass = .ok (r, herds')) :
    MonthFacts rnd feed grass herds r herds' :=
  (monthStep_post cn hcn rnd first month herds hh feed grass).of_ok h

/-- the two ways a month can stop are excluded by the code's configuration: no home-kill budget,
    every herd in one of the three size classes -/
theorem not_stop {cn : Country K} (hk0 : cn.homekillHours = 0) {herds : List (Herd K)}
    (hsz : ∀ h ∈ herds, h.sp.size ≠ Size.other) :
    ¬ ((∃ h ∈ herds, h.sp.size = Size.other) ∨ cn.homekillHours ≠ 0) := by
  rintro (⟨h, hh, hs⟩ | hk)
  exacts [hsz h hh hs, hk hk0]

/-- each link carries the invariant of the herds it starts from, so that every month of a run comes
    with it (`C06.run_month`) -/
inductive Chain (rnd : K → K) : List (Herd K) → List (K × K) → List (MonthRec K) → List (Herd K) → Prop
  | nil (hs : List (Herd K)) : Chain rnd hs [] [] hs
  | cons (hs : List (Herd K)) (feed grass : K) (series : List (K × K)) (r : MonthRec K)
      (hs' : List (Herd K)) (rs : List (MonthRec K)) (hf : List (Herd K)) :
      (∀ h ∈ hs, HerdOK h) → MonthFacts rnd feed grass hs r hs' → Chain rnd hs' series rs hf →
      Chain rnd hs ((feed, grass) :: series) (r :: rs) hf

theorem runFrom_post (cn : Country K) (hcn : CountryOK cn) (rnd : K → K) (series : List (K × K))
    (first : Bool) (month : K) (herds : List (Herd K)) (hh : ∀ h ∈ herds, HerdOK h) :
    Post (fun out => Chain rnd herds series out.1 out.2 ∧ ∀ h ∈ out.2, HerdOK h)
      ((∃ h ∈ herds, h.sp.size = Size.other) ∨ cn.homekillHours ≠ 0)
      (runFrom cn rnd first month herds series) := by
  induction series generalizing first month herds with
  | nil => exact ⟨Chain.nil _, hh⟩
  | cons fg t ih =>
    obtain ⟨feed, grass⟩ := fg
    rw [runFrom]
    refine (monthStep_post cn hcn rnd first month herds hh feed grass).elim (fun e h => h) ?_
    rintro ⟨r, herds'⟩ (hmf : MonthFacts rnd feed grass herds r herds')
    dsimp only
    refine (ih false (month + 1) herds' hmf.inv).elim ?_
      (fun out2 ⟨hch, hfin⟩ => ⟨Chain.cons _ _ _ _ _ _ _ _ hh hmf hch, hfin⟩)
    -- the herds of the next month have the species of this month's
    rintro e (⟨h', hh', hs⟩ | hk)
    · rw [hmf.next] at hh'
      obtain ⟨d, hd, rfl⟩ := List.mem_map.mp hh'
      exact Or.inl ⟨d.c.b.a.h, hmf.start ▸ List.mem_map_of_mem (f := fun d : WD K => d.c.b.a.h) hd, hs⟩
    · exact Or.inr hk

def MilkKeysDistinct (herds : List (Herd K)) : Prop :=
  herds.Pairwise (fun x y => x.sp.isMilk = true → y.sp.isMilk = true → x.sp.species ≠ y.sp.species)

theorem max_zero_sub (x d : K) (hd : 0 ≤ d) : max 0 (max 0 x - d) = max 0 (x - d) := by
  rcases le_total 0 x with h | h
  · rw [max_eq_right h]
  · rw [max_eq_left h, max_eq_left (sub_nonpos.mpr hd), max_eq_left (sub_nonpos.mpr (h.trans hd))]

theorem month_ledger {rnd : K → K} {feed grass : K} {herds : List (Herd K)} {r : MonthRec K}
    {herds' : List (Herd K)} (hm : MonthFacts rnd feed grass herds r herds') :
    ∀ d ∈ r.recs,
      d.popEnd = max 0 (d.c.b.a.h.st.pop + d.c.b.births + transferIn d - d.c.b.retiring - d.c.otherDeath
        - d.c.slaughter - d.ods - d.hkHealthy - d.hkStarving) := by
  intro d hd
  have h := hm.dok d hd
  unfold transferIn
  rw [h.popEnd, h.c.popAfter, max_zero_sub _ _ (add_nonneg (add_nonneg h.ods h.hk2) h.hk3), h.c.pre, h.c.tp]
  congr 1
  split_ifs <;> ring

theorem month_nonneg {rnd : K → K} {feed grass : K} {herds : List (Herd K)} {r : MonthRec K}
    {herds' : List (Herd K)} (hm : MonthFacts rnd feed grass herds r herds') : ∀ d ∈ r.recs, NonNeg d := by
  intro d hd
  have h := hm.dok d hd
  have hc := h.c
  have hb := hc.b
  have htr := hm.trnn d.c.b.a.h.sp.species
  unfold NonNeg transferIn
  refine ⟨hb.h.pop, ?_, ?_, hb.births, hb.tb, hb.ret, ?_, ?_, hc.od0, hc.sl0, hc.slp, h.ods, ?_,
    h.hk1, h.hk2, h.hk3, h.sP, h.pt, h.pb, hb.pt, hb.pb⟩
  · rw [h.popEnd]; exact le_max_left _ _
  · rw [hc.popAfter]; exact le_max_left _ _
  · rw [hc.tp]; split_ifs
    exacts [le_rfl, htr]
  · intro hmilk; rw [hc.tp, if_pos hmilk]; exact neg_nonpos.mpr htr
  · rw [h.odT]; exact add_nonneg h.ods hc.od0

theorem month_availTarget {rnd : K → K} {feed grass : K} {herds : List (Herd K)} {r : MonthRec K}
    {herds' : List (Herd K)} (hm : MonthFacts rnd feed grass herds r herds') : ∀ d ∈ r.recs, AvailTarget d := by
  intro d hd
  have hc := (hm.dok d hd).c
  unfold AvailTarget transferIn
  refine ⟨?_, hc.avail, hc.t1, hc.t2⟩
  rw [hc.pre, hc.tp]
  split_ifs <;> ring

theorem month_transfer {rnd : K → K} {feed grass : K} {herds : List (Herd K)} {r : MonthRec K}
    {herds' : List (Herd K)} (hm : MonthFacts rnd feed grass herds r herds') (hk : MilkKeysDistinct herds)
    (e : WD K) (he : e ∈ r.recs) (hem : e.c.b.a.h.sp.isMilk = true) :
    e.c.transferPop = -(e.c.b.retiring + e.c.b.transferBirths) ∧
    e.c.b.retiring = e.c.b.a.h.st.pop * e.c.b.a.h.sp.retFrac ∧
    e.c.b.transferBirths = e.c.b.births * (e.c.b.a.h.sp.birthRatio - 1) * (1 - e.c.b.a.h.sp.tcf) ∧
    ∀ d ∈ r.recs, d.c.b.a.h.sp.isMilk = false → d.c.b.a.h.sp.species = e.c.b.a.h.sp.species →
      d.c.transferPop = e.c.b.retiring + e.c.b.transferBirths := by
  have hpw : (r.recs.map (fun d => d.c.b)).Pairwise (fun x y => x.a.h.sp.isMilk = true → y.a.h.sp.isMilk = true →
      x.a.h.sp.species ≠ y.a.h.sp.species) := by
    have : herds = (r.recs.map (fun d => d.c.b)).map (fun b => b.a.h) := by
      rw [← hm.start, List.map_map]; rfl
    unfold MilkKeysDistinct at hk
    rw [this, List.pairwise_map] at hk
    exact hk
  have hmem : e.c.b ∈ r.recs.map (fun d => d.c.b) := List.mem_map_of_mem (f := fun d : WD K => d.c.b) he
  have hu : transferOf (r.recs.map (fun d => d.c.b)) e.c.b.a.h.sp.species = e.c.b.transferOut := by
    rw [transferOf, transferFind_unique _ e.c.b hmem hem hpw]; rfl
  have hde := hm.dok e he
  have hbe := hde.c.b
  refine ⟨?_, hbe.retMilk hem, hbe.tbDef, ?_⟩
  · rw [hde.c.tp, if_pos hem, hu, hbe.out]
  · intro d hd hdm hds
    have hdd := hm.dok d hd
    rw [hdd.c.tp, hdm, hds, hu, hbe.out, if_neg Bool.false_ne_true]

end Allfed.HerdProofs
