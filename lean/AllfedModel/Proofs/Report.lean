import AllfedModel.Model.Report
import AllfedModel.Proofs.LP
import Mathlib.Tactic.LinearCombination
/-!
# Reporting (property C04)

On top of `Proofs/LP.lean`: the nine per-food percent series add up to the month's
`Humans_Fed_Kcals` variable, the headline is the smallest of them, the tie-breaking solves keep
it above their floor, and it never exceeds the optimum of the first solve.
-/
namespace Allfed.Proofs.Report
open Allfed.LP Allfed.AllocLP Allfed.PhysSpec Allfed.Report Allfed.Proofs.LP

set_option linter.unusedSectionVars false

variable {K : Type} [Field K] [LinearOrder K] [IsStrictOrderedRing K]

theorem minOver_one (f : Nat → K) : minOver f 1 = f 0 := rfl

theorem minOver_succ (f : Nat → K) {n : Nat} (hn : 0 < n) : minOver f (n + 1) = min (minOver f n) (f n) := by
  obtain ⟨k, rfl⟩ := Nat.exists_eq_succ_of_ne_zero hn.ne'
  exact pmin_eq_min _ _

theorem le_minOver_iff (f : Nat → K) {n : Nat} (hn : 0 < n) (c : K) : c ≤ minOver f n ↔ ∀ m, m < n → c ≤ f m := by
  induction n, hn using Nat.le_induction with
  | base => simp only [minOver_one, Nat.lt_one_iff, forall_eq]
  | succ n hn ih => rw [minOver_succ f hn, le_min_iff, ih, Nat.forall_lt_succ_right]

theorem minOver_le (f : Nat → K) (n m : Nat) (hm : m < n) : minOver f n ≤ f m :=
  (le_minOver_iff f (Nat.zero_lt_of_lt hm) _).mp le_rfl m hm

theorem le_minOver (f : Nat → K) (n : Nat) (hn : 0 < n) (c : K) (h : ∀ m, m < n → c ≤ f m) : c ≤ minOver f n :=
  (le_minOver_iff f hn c).mpr h

theorem toPercent_eq (i : Inp K) (b : K) :
    toPercent i b = i.kcalsMonthly * (100 / i.billionKcalsNeeded) * b := by
  unfold toPercent
  rw [one_div_one_div, sci_100]

theorem contribution_linear (i : Inp K) (ratio v : K) (hkm : i.kcalsMonthly ≠ 0) :
    toPercent i (billionsFed i ratio v) = v * (ratio * 100 / i.billionKcalsNeeded) := by
  rw [toPercent_eq]
  unfold billionsFed
  have h : i.kcalsMonthly * i.kcalsMonthly⁻¹ = 1 := mul_inv_cancel₀ hkm
  linear_combination (v * ratio * 100 / i.billionKcalsNeeded) * h

theorem valIf_eq_X (x : Var → K) (on : Bool) (k : VK) (m : Nat) : valIf x on k m = X x on k m := rfl

theorem sumPercent_eq_consumed (i : Inp K) (x : Var → K) (h : Feasible (buildLP i .toHumans) x)
    (hkm : i.kcalsMonthly ≠ 0) (m : Nat) (hm : m < i.nmonths) :
    sumPercent i x m = x (.mv .consumedKcals m) := by
  have h1 : i.kcalsMonthly * i.kcalsMonthly⁻¹ = 1 := mul_inv_cancel₀ hkm
  rw [kcals_fed h hm]
  simp only [sumPercent, foodsPercent, foodsBillions, lsum, billionsFed, List.map_cons, List.map_nil,
    List.foldl_cons, List.foldl_nil, toPercent_eq, valIf_eq_X]
  -- every entry carries the factor `kcalsMonthly · kcalsMonthly⁻¹`
  linear_combination (norm := (unfold humanTotal; ring1)) (humanTotal i x m * 100 / i.billionKcalsNeeded) * h1

theorem headline_eq_min_consumed (i : Inp K) (x : Var → K) (h : Feasible (buildLP i .toHumans) x)
    (hkm : i.kcalsMonthly ≠ 0) (hN : 0 < i.nmonths) :
    headline i x = minOver (fun m => x (.mv .consumedKcals m)) i.nmonths :=
  eq_of_forall_le_iff fun c => by
    rw [headline, le_minOver_iff _ hN, le_minOver_iff _ hN]
    exact forall₂_congr fun m hm => by rw [sumPercent_eq_consumed i x h hkm m hm]

theorem floorRows_toHumans_iff (i : Inp K) (x : Var → K) (z : K) :
    (∀ r ∈ floorRows i .toHumans z, r.holds x) ↔
      ∀ m, m < i.nmonths → z * 0.99995 ≤ x (.mv .consumedKcals m) := by
  unfold floorRows
  simp only [List.forall_mem_map, List.mem_range, holds_le, eval_mv, eval_k]

theorem headline_ge_floor (i : Inp K) (x : Var → K) (z : K)
    (h : Feasible (buildLP i .toHumans ++ floorRows i .toHumans z) x)
    (hkm : i.kcalsMonthly ≠ 0) (hN : 0 < i.nmonths) :
    z * 0.99995 ≤ headline i x := by
  rw [headline_eq_min_consumed i x (extra_rows_preserve _ _ x h) hkm hN]
  exact le_minOver _ _ hN _
    ((floorRows_toHumans_iff i x z).mp fun r hr => h.1 r (List.mem_append_right _ hr))

theorem headline_point_feasible (i : Inp K) (x : Var → K) (h : Feasible (buildLP i .toHumans) x)
    (hkm : i.kcalsMonthly ≠ 0) (hN : 0 < i.nmonths) :
    Feasible (buildLP i .toHumans) (fun v => if v = .objective then headline i x else x v) := by
  have he := headline_eq_min_consumed i x h hkm hN
  rw [feasible_toHumans_iff] at h ⊢
  exact h.setObjective (he ▸ le_minOver _ _ hN _ fun m _ => h.nonneg _)
    fun m hm => he ▸ minOver_le _ _ _ hm

theorem headline_le_optimum (i : Inp K) (x : Var → K) (zopt : K)
    (hopt : ∀ x', Feasible (buildLP i .toHumans) x' → x' .objective ≤ zopt)
    (h : Feasible (buildLP i .toHumans) x) (hkm : i.kcalsMonthly ≠ 0) (hN : 0 < i.nmonths) :
    headline i x ≤ zopt := by
  have := hopt _ (headline_point_feasible i x h hkm hN)
  simpa only [if_true] using this

theorem headline_within_tolerance (i : Inp K) (x : Var → K) (zopt : K)
    (hopt : ∀ x', Feasible (buildLP i .toHumans) x' → x' .objective ≤ zopt)
    (h : Feasible (buildLP i .toHumans ++ floorRows i .toHumans zopt) x)
    (hkm : i.kcalsMonthly ≠ 0) (hN : 0 < i.nmonths) (hz : 0 ≤ zopt) :
    |headline i x - zopt| ≤ 0.0001 * zopt := by
  have h1 := headline_ge_floor i x zopt h hkm hN
  have h2 := headline_le_optimum i x zopt hopt (extra_rows_preserve _ _ x h) hkm hN
  rw [abs_sub_comm, abs_of_nonneg (sub_nonneg.2 h2)]
  linarith

theorem split_adds_up (produced eaten : K) :
    (splitCrops produced eaten).1 + (splitCrops produced eaten).2 = eaten := by
  unfold splitCrops
  split_ifs
  · exact add_sub_cancel _ _
  · exact add_zero _

theorem pctOfNeed_eq (i : Inp K) (ratio v : K) :
    pctOfNeed i ratio v = v * ratio / i.billionKcalsNeeded * 100 := by
  unfold pctOfNeed; rw [sci_100]

theorem nonhuman_feed_sum (i : Inp K) (x : Var → K) (m : Nat) :
    ((nonhumanMonth i x m).take 5).sum = feedTotal i x m / i.billionKcalsNeeded * 100 := by
  unfold nonhumanMonth feedTotal
  simp only [List.take_succ_cons, List.take_zero, List.sum_cons, List.sum_nil, pctOfNeed_eq,
    valIf_eq_X]
  ring

theorem nonhuman_biofuel_sum (i : Inp K) (x : Var → K) (m : Nat) :
    ((nonhumanMonth i x m).drop 5).sum = biofuelTotal i x m / i.billionKcalsNeeded * 100 := by
  unfold nonhumanMonth biofuelTotal
  simp only [List.drop_succ_cons, List.drop_zero, List.sum_cons, List.sum_nil, pctOfNeed_eq,
    valIf_eq_X]
  ring

theorem nonhuman_sum_eq_charge (i : Inp K) (x : Var → K) (h : Feasible (buildLP i .toHumans) x)
    (hany : anyFeedVar i = true) (m : Nat) (hm : m < i.nmonths) :
    ((nonhumanMonth i x m).take 5).sum = at' i.feed m / i.billionKcalsNeeded * 100 ∧
    ((nonhumanMonth i x m).drop 5).sum = at' i.biofuel m / i.billionKcalsNeeded * 100 := by
  obtain ⟨h1, h2⟩ := feed_biofuel_eq_charge h hany hm
  rw [nonhuman_feed_sum, nonhuman_biofuel_sum, h1, h2]
  exact ⟨rfl, rfl⟩

theorem nonhuman_sum_le_ceiling (i : Inp K) (x : Var → K) (h : Feasible (buildLP i .toAnimals) x)
    (hany : anyFeedVar i = true) (hb : 0 ≤ i.billionKcalsNeeded) (m : Nat) (hm : m < i.nmonths) :
    ((nonhumanMonth i x m).take 5).sum ≤ at' i.maxFeed m / i.billionKcalsNeeded * 100 ∧
    ((nonhumanMonth i x m).drop 5).sum ≤ at' i.maxBiofuel m / i.billionKcalsNeeded * 100 := by
  obtain ⟨h1, h2⟩ := feed_biofuel_le_ceiling h hany hm
  rw [nonhuman_feed_sum, nonhuman_biofuel_sum]
  exact ⟨mul_le_mul_of_nonneg_right (div_le_div_of_nonneg_right h1 hb) (by norm_num),
    mul_le_mul_of_nonneg_right (div_le_div_of_nonneg_right h2 hb) (by norm_num)⟩

theorem nonhuman_nonneg (i : Inp K) (x : Var → K) (hx : ∀ v, 0 ≤ x v)
    (hb : 0 ≤ i.billionKcalsNeeded) (hkc : 0 ≤ i.seaweedKcals) (m : Nat) :
    ∀ e ∈ nonhumanMonth i x m, 0 ≤ e := by
  have hp : ∀ (on : Bool) (k : VK) {r : K}, 0 ≤ r → 0 ≤ pctOfNeed i r (valIf x on k m) := fun on k r hr => by
    rw [pctOfNeed_eq]
    exact mul_nonneg (div_nonneg (mul_nonneg (X_nonneg hx on k m) hr) hb) (by norm_num)
  simp only [nonhumanMonth, List.forall_mem_cons, List.not_mem_nil, false_imp_iff, implies_true, and_true]
  exact ⟨hp _ _ zero_le_one, hp _ _ zero_le_one, hp _ _ hkc, hp _ _ zero_le_one, hp _ _ zero_le_one,
    hp _ _ zero_le_one, hp _ _ zero_le_one, hp _ _ hkc, hp _ _ zero_le_one, hp _ _ zero_le_one⟩

theorem nonhuman_swap_counterexample :
    ∃ (i : Inp ℚ) (x : Var → ℚ) (m : Nat), m < i.nmonths ∧ (∀ v, 0 ≤ x v) ∧
      swapSugarScp (nonhumanMonth i x m) ≠ nonhumanMonth i x m := by
  refine ⟨{ emptyInst with nmonths := 1, addScp := true, addCs := true },
    fun | .mv .scpFeed _ => 1 | _ => 0, 0, by decide, ?_, by decide +kernel⟩
  intro v
  cases v with
  | mv k m => cases k <;> first | exact le_rfl | exact zero_le_one
  | objective => exact le_rfl
  | objectiveBest => exact le_rfl

end Allfed.Proofs.Report
