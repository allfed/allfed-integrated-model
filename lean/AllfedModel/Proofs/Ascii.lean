/-!
Table facts of C13, C10 and C11 test string literals for substrings and prefixes through `String.toList`, and are
decided by `decide +kernel`.  For the kernel a literal is a byte array built by a push loop, and `toList` decodes it by
position: quadratic with a large constant.  The bytes themselves come four times cheaper, and for an ASCII string
the characters are the bytes (`toList_eq_asciiList`).  The kernel's reduction cache is per declaration: put all
tests on the same literals into one `decide`.  The detour costs an agreement lemma per test and an `isAscii`
conjunct per literal: it is taken where the plain test ran for several seconds or more, not below.
-/
namespace Allfed.Ascii

def bytes (s : String) : List UInt8 := s.toByteArray.data.toList

theorem bytes_eq (s : String) : bytes s = s.toList.flatMap String.utf8EncodeChar := by
  unfold bytes
  rw [← String.utf8Encode_toList, List.utf8Encode, List.toList_data_toByteArray]

def asciiList (s : String) : List Char := (bytes s).map fun b => Char.ofNat b.toNat

def isAscii (s : String) : Bool := (bytes s).all (· < 128)

/-- every encoding longer than one byte starts with a byte `≥ 0xc0` -/
theorem utf8EncodeChar_ascii (c : Char) (h : ∀ b ∈ String.utf8EncodeChar c, b < 128) :
    (String.utf8EncodeChar c).map (fun b => Char.ofNat b.toNat) = [c] := by
  have hlt : ∀ n : Nat, UInt8.ofNat n < 128 ↔ n % 256 < 128 := fun n => by simp [UInt8.lt_iff_toNat_lt]
  have hc : c.toNat = c.val.toNat := rfl
  unfold String.utf8EncodeChar at h ⊢
  simp only at h ⊢
  split at h
  · rename_i h1
    rw [if_pos h1]
    simp [Nat.mod_eq_of_lt (show c.toNat < 256 by omega)]
  all_goals
    repeat' split at h
    all_goals
      have := (hlt _).mp (h _ List.mem_cons_self)
      omega

theorem toList_eq_asciiList {s : String} (h : isAscii s = true) : s.toList = asciiList s := by
  simp only [isAscii, asciiList, bytes_eq, List.all_eq_true, decide_eq_true_eq] at h ⊢
  generalize s.toList = l at h ⊢
  induction l with
  | nil => rfl
  | cons c t ih =>
    simp only [List.flatMap_cons, List.mem_append, List.map_append] at h ⊢
    rw [utf8EncodeChar_ascii c fun b hb => h b (Or.inl hb), ← ih fun b hb => h b (Or.inr hb)]
    rfl

end Allfed.Ascii
