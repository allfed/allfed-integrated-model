import AllfedModel.Proofs.Certificate
/-!
# Completion of zero-charge human rounds (property C16)

Without seaweed, with no feed and no biofuel charged, `buildLP i .toHumans` always has a feasible
point (eat the stock in month 0 and every harvest in the month it appears) and its objective is
bounded by month 0's supply relative to need.
-/
namespace Allfed.Proofs.Completion
open Allfed.LP Allfed.AllocLP Allfed.PhysSpec Allfed.Certificate Allfed.Proofs.LP
open Allfed.Proofs.Perturb Allfed.Proofs.Certificate

set_option linter.unusedSectionVars false
set_option linter.unusedVariables false

variable {K : Type} [Field K] [LinearOrder K] [IsStrictOrderedRing K]

/-- the witness without the percent-fed variables -/
def eatBase (i : Inp K) : Var → K
  | .mv .sfStart m => if m = 0 then i.storedInitial else 0
  | .mv .sfHumans m => if m = 0 then i.storedInitial * keep i.wStored else 0
  | .mv .cropHumans m => if m < i.nmonths then at' i.cropProd m * keep i.wCrop else 0
  | .mv .cropConsumed m => if m < i.nmonths then at' i.cropProd m else 0
  | .mv .meatStart m => i.meatSummed
  | .mv .meatEnd m => i.meatSummed
  | _ => 0

/-- `eatBase` with `Humans_Fed_Kcals_m` defined by the `Kcals_Fed_Month_m` equation; objective 0 -/
def eatAll (i : Inp K) : Var → K
  | .mv .consumedKcals m => humanTotal i (eatBase i) m / i.billionKcalsNeeded * 100
  | v => eatBase i v

section
variable {i : Inp K} {m : Nat}

theorem ea_sfStart : eatAll i (.mv .sfStart m) = if m = 0 then i.storedInitial else 0 := rfl
theorem ea_sfEnd : eatAll i (.mv .sfEnd m) = 0 := rfl
theorem ea_sfHumans : eatAll i (.mv .sfHumans m) = if m = 0 then i.storedInitial * keep i.wStored else 0 := rfl
theorem ea_sfFeed : eatAll i (.mv .sfFeed m) = 0 := rfl
theorem ea_sfBiofuel : eatAll i (.mv .sfBiofuel m) = 0 := rfl
theorem ea_scpHumans : eatAll i (.mv .scpHumans m) = 0 := rfl
theorem ea_scpFeed : eatAll i (.mv .scpFeed m) = 0 := rfl
theorem ea_scpBiofuel : eatAll i (.mv .scpBiofuel m) = 0 := rfl
theorem ea_csHumans : eatAll i (.mv .csHumans m) = 0 := rfl
theorem ea_csFeed : eatAll i (.mv .csFeed m) = 0 := rfl
theorem ea_csBiofuel : eatAll i (.mv .csBiofuel m) = 0 := rfl
theorem ea_meatStart : eatAll i (.mv .meatStart m) = i.meatSummed := rfl
theorem ea_meatEnd : eatAll i (.mv .meatEnd m) = i.meatSummed := rfl
theorem ea_meatEaten : eatAll i (.mv .meatEaten m) = 0 := rfl
theorem ea_cropStorage : eatAll i (.mv .cropStorage m) = 0 := rfl
theorem ea_cropConsumed : eatAll i (.mv .cropConsumed m) = if m < i.nmonths then at' i.cropProd m else 0 := rfl
theorem ea_cropHumans : eatAll i (.mv .cropHumans m) = if m < i.nmonths then at' i.cropProd m * keep i.wCrop else 0 := rfl
theorem ea_cropFeed : eatAll i (.mv .cropFeed m) = 0 := rfl
theorem ea_cropBiofuel : eatAll i (.mv .cropBiofuel m) = 0 := rfl
theorem ea_swWet : eatAll i (.mv .swWet m) = 0 := rfl
theorem ea_swHumans : eatAll i (.mv .swHumans m) = 0 := rfl
theorem ea_swFeed : eatAll i (.mv .swFeed m) = 0 := rfl
theorem ea_swBiofuel : eatAll i (.mv .swBiofuel m) = 0 := rfl
theorem ea_usedArea : eatAll i (.mv .usedArea m) = 0 := rfl
theorem ea_consumed :
    eatAll i (.mv .consumedKcals m) = humanTotal i (eatBase i) m / i.billionKcalsNeeded * 100 := rfl

theorem humanTotal_eatAll : humanTotal i (eatAll i) m = humanTotal i (eatBase i) m := rfl

theorem eatBase_nonneg (hS0 : 0 ≤ i.storedInitial) (hwS : i.wStored < 100) (hwC : i.wCrop < 100)
    (hprod : ∀ m, m < i.nmonths → 0 ≤ at' i.cropProd m) (hmeat : 0 ≤ i.meatSummed) :
    ∀ v, 0 ≤ eatBase i v := by
  intro v
  cases v with
  | mv k m =>
    cases k
    case sfStart =>
      show 0 ≤ ite _ _ _
      split_ifs
      exacts [hS0, le_rfl]
    case sfHumans =>
      show 0 ≤ ite _ _ _
      split_ifs
      exacts [mul_nonneg hS0 (keep_pos hwS).le, le_rfl]
    case cropHumans =>
      show 0 ≤ ite _ _ _
      split_ifs with hc
      exacts [mul_nonneg (hprod m hc) (keep_pos hwC).le, le_rfl]
    case cropConsumed =>
      show 0 ≤ ite _ _ _
      split_ifs with hc
      exacts [hprod m hc, le_rfl]
    case meatStart | meatEnd => exact hmeat
    all_goals exact le_rfl
  | objective => exact le_rfl
  | objectiveBest => exact le_rfl

end

theorem zero_charge_feasible_no_seaweed (i : Inp K) (noSeaweed : i.addSeaweed = false)
    (wf : WellFormed i) (need : 0 < i.billionKcalsNeeded)
    (feed0 : ∀ m, at' i.feed m = 0) (biofuel0 : ∀ m, at' i.biofuel m = 0)
    (supplies : (∀ m, 0 ≤ at' i.milk m) ∧ (∀ m, 0 ≤ at' i.greenhouse m) ∧ (∀ m, 0 ≤ at' i.fish m) ∧
      (∀ m, 0 ≤ at' i.scp m) ∧ (∀ m, 0 ≤ at' i.cs m) ∧ (∀ m, 0 ≤ at' i.slaughtered m) ∧
      (∀ m, 0 ≤ at' i.maxCulled m) ∧ 0 ≤ i.meatSummed)
    (limits : 0 ≤ i.limScpH ∧ 0 ≤ i.limCsH) (population : 0 ≤ i.pop ∧ 0 ≤ i.kcalsMonthly) :
    ∃ x, Feasible (buildLP i .toHumans) x := by
  obtain ⟨⟨-, hwS⟩, ⟨-, hwC⟩, -, -, -, -, hprod, hS0, -⟩ := wellFormed_numerals wf
  obtain ⟨hmilk, hgh, hfish, hscp, hcs, hsl, hmc, hmeat⟩ := supplies
  have hbase := eatBase_nonneg (i := i) hS0 hwS hwC hprod hmeat
  have hT : ∀ m, 0 ≤ humanTotal i (eatBase i) m := by
    intro m
    unfold humanTotal
    have h1 := X_nonneg hbase i.addStored .sfHumans m
    have h2 := X_nonneg hbase i.addOutdoor .cropHumans m
    have h3 := mul_nonneg (X_nonneg hbase i.addSeaweed .swHumans m) (seaweedKcals_nonneg wf)
    have h4 := X_nonneg hbase i.addMeat .meatEaten m
    have h5 := X_nonneg hbase i.addCs .csHumans m
    have h6 := X_nonneg hbase i.addScp .scpHumans m
    linarith [hmilk m, hgh m, hfish m]
  have hcons : ∀ m, 0 ≤ eatAll i (.mv .consumedKcals m) := fun m =>
    mul_nonneg (div_nonneg (hT m) need.le) (by norm_num)
  have noSw : i.addSeaweed = true → False := fun hon => by simp [noSeaweed] at hon
  refine ⟨eatAll i, feasible_toHumans_iff.mpr ⟨?_, fun hon => (noSw hon).elim, ?_, ?_, ?_, ?_, ?_, ?_,
    fun m _ => hcons m⟩⟩
  · intro v
    cases v with
    | mv k m =>
      by_cases hk : k = .consumedKcals
      · subst hk; exact hcons m
      · have : eatAll i (.mv k m) = eatBase i (.mv k m) := by
          cases k <;> first | rfl | exact absurd rfl hk
        rw [this]; exact hbase _
    | objective => exact le_rfl
    | objectiveBest => exact le_rfl
  · -- crops: every harvest eaten in its month, nothing stored
    intro hon m hm
    simp only [CropSpec, ea_cropStorage, ea_cropConsumed, ea_cropHumans, ea_cropFeed, ea_cropBiofuel,
      hm, if_true, grossUp_mul_keep hwC, add_zero, sub_self, true_and, ite_self]
  · -- stored food: all of it eaten in month 0
    intro hon m hm
    simp only [StoredSpec, StoredEatenEq, ea_sfStart, ea_sfEnd, ea_sfHumans, ea_sfFeed, ea_sfBiofuel]
    by_cases hm0 : m = 0
    · subst hm0
      simp only [if_true, grossUp_mul_keep hwS, sub_self]
      split_ifs <;> simp only [and_self]
    · simp only [hm0, if_false, grossUp_zero, sub_zero]
      split_ifs <;> simp only [and_self]
  · -- meat: none eaten, the store stays at the horizon's slaughter
    intro hon m hm
    simp only [MeatSpec, meatUse, ea_meatStart, ea_meatEnd, ea_meatEaten, grossUp_zero, sub_zero,
      sub_self, ite_self, true_and]
    split_ifs
    · exact hmc m
    · exact hsl m
  · intro hon m hm
    simp only [scpUse, ea_scpHumans, ea_scpFeed, ea_scpBiofuel, grossUp_zero, add_zero]
    exact hscp m
  · intro hon m hm
    simp only [csUse, ea_csHumans, ea_csFeed, ea_csBiofuel, grossUp_zero, add_zero]
    exact hcs m
  · -- feed and biofuel totals are 0, percent fed by definition, intake caps
    intro m hm
    have hneed : 0 ≤ i.pop * i.kcalsMonthly / 1e9 :=
      div_nonneg (mul_nonneg population.1 population.2) (by norm_num)
    have hc2 : 0 ≤ eatAll i (.mv .consumedKcals m) * i.billionKcalsNeeded / 100.0 :=
      div_nonneg (mul_nonneg (hcons m) need.le) (by norm_num)
    have hintake : ∀ (on : Bool) (vH vF vB : VK) (limH limF limB : K), 0 ≤ limH →
        eatAll i (.mv vH m) = 0 → eatAll i (.mv vF m) = 0 → eatAll i (.mv vB m) = 0 →
        IntakeSpec i (eatAll i) on 1 vH vF vB limH limF limB m := by
      intro on vH vF vB limH limF limB hl e1 e2 e3 _
      rw [e1, e2, e3, feed0, biofuel0]
      have hl' : 0 ≤ limH / 100.0 := div_nonneg hl (by norm_num)
      simp only [zero_mul, mul_zero, le_refl, and_self, and_true]
      exact ⟨mul_nonneg hl' hneed, mul_nonneg hl' hc2⟩
    refine ⟨fun _ => ?_, by rw [ea_consumed, humanTotal_eatAll, sci_100], fun hon => (noSw hon).elim,
      hintake _ _ _ _ _ _ _ limits.1 rfl rfl rfl, hintake _ _ _ _ _ _ _ limits.2 rfl rfl rfl⟩
    simp only [feedTotal, biofuelTotal, X, ea_sfFeed, ea_cropFeed, ea_swFeed, ea_csFeed, ea_scpFeed,
      ea_sfBiofuel, ea_cropBiofuel, ea_swBiofuel, ea_csBiofuel, ea_scpBiofuel, ite_self, zero_mul,
      add_zero, feed0, biofuel0, and_self]

theorem objective_bounded (i : Inp K) (months : 2 ≤ i.nmonths) (noSeaweed : i.addSeaweed = false)
    (wf : WellFormed i) (need : 0 < i.billionKcalsNeeded)
    (supplies : (∀ m, 0 ≤ at' i.milk m) ∧ (∀ m, 0 ≤ at' i.greenhouse m) ∧ (∀ m, 0 ≤ at' i.fish m) ∧
      (∀ m, 0 ≤ at' i.scp m) ∧ (∀ m, 0 ≤ at' i.cs m) ∧ (∀ m, 0 ≤ at' i.slaughtered m) ∧
      (∀ m, 0 ≤ at' i.maxCulled m) ∧ 0 ≤ i.meatSummed)
    (x : Var → K) (hx : Feasible (buildLP i .toHumans) x) :
    x .objective ≤
      (i.storedInitial + at' i.cropProd 0 + at' i.milk 0
        + (if i.storeBetweenYears then i.meatSummed else at' i.slaughtered 0)
        + at' i.cs 0 + at' i.scp 0 + at' i.greenhouse 0 + at' i.fish 0)
        / i.billionKcalsNeeded * 100 := by
  have hN : 0 < i.nmonths := by omega
  obtain ⟨⟨hS0w, hSw⟩, ⟨hC0w, hCw⟩, ⟨hM0w, hMw⟩, ⟨hP0w, hPw⟩, ⟨hZ0w, hZw⟩, -, hprod, hS0, -⟩ :=
    wellFormed_numerals wf
  obtain ⟨-, -, -, hscp, hcs, hsl, -, hmeat⟩ := supplies
  refine le_trans (objective_le_month hx hN) ?_
  rw [kcals_fed hx hN]
  refine mul_le_mul_of_nonneg_right (div_le_div_of_nonneg_right ?_ need.le) (by norm_num)
  -- a resource that is switched off contributes the literal 0, below its non-negative supply
  have hX : ∀ (on : Bool) (k : VK) (u : K), 0 ≤ u → (on = true → x (.mv k 0) ≤ u) → X x on k 0 ≤ u := by
    intro on k u hu h
    unfold X; split_ifs with hon
    exacts [h hon, hu]
  have h1 := hX i.addStored .sfHumans _ hS0 fun hon => by
    simpa only [Nat.zero_le, or_true, if_true] using (stored_parts_le hx hon hS0w hSw hN).1
  have h2 := hX i.addOutdoor .cropHumans _ (hprod 0 hN) fun hon => by
    simpa only [total_eq_cum, cum_zero] using (crop_vars_le hx hon hC0w hCw hN).2.2.1
  have h3 : X x i.addSeaweed .swHumans 0 * i.seaweedKcals = 0 := by
    unfold X; rw [noSeaweed]; simp only [Bool.false_eq_true, if_false, zero_mul]
  have h4 := hX i.addMeat .meatEaten (if i.storeBetweenYears then i.meatSummed else at' i.slaughtered 0)
    (by split_ifs; exacts [hmeat, hsl 0]) fun hon => meatEaten_le hx hon hM0w hMw hN
  have h5 := hX i.addCs .csHumans _ (hcs 0) fun hon => (cs_vars_le hx hon hZ0w hZw hN).1
  have h6 := hX i.addScp .scpHumans _ (hscp 0) fun hon => (scp_vars_le hx hon hP0w hPw hN).1
  unfold humanTotal
  linarith

end Allfed.Proofs.Completion
