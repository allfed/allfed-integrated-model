import AllfedModel.Model.Perturb
import AllfedModel.Proofs.LP
import Mathlib.Algebra.Notation.Lemmas
/-!
# Perturbations of the optimiser's inputs (property C12)

Scale invariance and monotonicity in supplies of `buildLP i .toHumans`, on top of the month-wise
characterisation `feasible_toHumans_iff` of `Proofs/LP.lean`.
-/
namespace Allfed.Proofs.Perturb
open Allfed.LP Allfed.AllocLP Allfed.PhysSpec Allfed.Perturb Allfed.Proofs.LP

set_option linter.unusedSectionVars false
set_option linter.unusedVariables false

variable {K : Type} [Field K] [LinearOrder K] [IsStrictOrderedRing K]

theorem nonneg_of_mv {y : Var → K} (hmv : ∀ k m, 0 ≤ y (.mv k m)) (ho : 0 ≤ y .objective)
    (hbest : 0 ≤ y .objectiveBest) : ∀ v, 0 ≤ y v
  | .mv k m => hmv k m
  | .objective => ho
  | .objectiveBest => hbest

theorem X_mul {x y : Var → K} {on : Bool} {k : VK} {m : Nat} {c : K}
    (h : y (.mv k m) = c * x (.mv k m)) : X y on k m = c * X x on k m := by
  unfold X; split_ifs
  · exact h
  · rw [mul_zero]

/-! ## scale invariance

Every clause of `HumanSpec` is an (in)equation between quantities, so under `scaleInp k` and
`scaleX k` both sides get the factor `k`: each proof pulls `k` out (`scaleX_mv`, `at'_map_mul`,
`grossUp_mul`, `mul_assoc`, `← mul_add`, `← mul_sub`) and cancels it. -/

section Scale
variable (k : K) (i : Inp K) (x : Var → K)

theorem scaleX_mv (kd : VK) (hne : kd ≠ .consumedKcals) (m : Nat) :
    scaleX k x (.mv kd m) = k * x (.mv kd m) := by
  cases kd
  case consumedKcals => exact absurd rfl hne
  all_goals rfl

theorem scaleX_consumed (m : Nat) : scaleX k x (.mv .consumedKcals m) = x (.mv .consumedKcals m) :=
  rfl

theorem X_scaleX (on : Bool) (kd : VK) (hne : kd ≠ .consumedKcals) (m : Nat) :
    X (scaleX k x) on kd m = k * X x on kd m :=
  X_mul (scaleX_mv k x kd hne m)

theorem feedTotal_scale (m : Nat) :
    feedTotal (scaleInp k i) (scaleX k x) m = k * feedTotal i x m := by
  unfold feedTotal
  simp only [scaleInp, X_scaleX, ne_eq, reduceCtorEq, not_false_eq_true]
  ring

theorem biofuelTotal_scale (m : Nat) :
    biofuelTotal (scaleInp k i) (scaleX k x) m = k * biofuelTotal i x m := by
  unfold biofuelTotal
  simp only [scaleInp, X_scaleX, ne_eq, reduceCtorEq, not_false_eq_true]
  ring

theorem humanTotal_scale (m : Nat) :
    humanTotal (scaleInp k i) (scaleX k x) m = k * humanTotal i x m := by
  unfold humanTotal
  simp only [scaleInp, X_scaleX, ne_eq, reduceCtorEq, not_false_eq_true, at'_map_mul]
  ring

theorem intake_scale (hk : 0 < k) (on : Bool) (ratio : K) (vH vF vB : VK)
    (hH : vH ≠ .consumedKcals) (hF : vF ≠ .consumedKcals) (hB : vB ≠ .consumedKcals)
    (limH limF limB : K) (m : Nat)
    (h : IntakeSpec i x on ratio vH vF vB limH limF limB m) :
    IntakeSpec (scaleInp k i) (scaleX k x) on ratio vH vF vB limH limF limB m := by
  unfold IntakeSpec at h ⊢
  simpa only [scaleInp, scaleX_mv k x _ hH, scaleX_mv k x _ hF, scaleX_mv k x _ hB, scaleX_consumed,
    at'_map_mul, mul_assoc, mul_div_assoc, mul_left_comm _ k, mul_le_mul_iff_right₀ hk] using h

theorem humanSpec_scale (hk : 0 < k) (h : HumanSpec i x) :
    HumanSpec (scaleInp k i) (scaleX k x) where
  nonneg := nonneg_of_mv (fun kd m => by
      by_cases hc : kd = .consumedKcals
      · subst hc; exact h.nonneg _
      · rw [scaleX_mv k x kd hc]; exact mul_nonneg hk.le (h.nonneg _))
    (h.nonneg _) (mul_nonneg hk.le (h.nonneg _))
  seaweed := fun hon m hm => by
    have H := h.seaweed hon m hm
    unfold SeaweedSpec seaweedLedger at H ⊢
    simpa only [scaleInp, scaleX_mv, ne_eq, reduceCtorEq, not_false_eq_true, grossUp_mul, at'_map_mul,
      mul_assoc, mul_left_comm _ k, ← mul_sub, mul_right_inj' hk.ne', mul_le_mul_iff_right₀ hk,
      mul_eq_zero, hk.ne', false_or] using H
  crops := fun hon m hm => by
    have H := h.crops hon m hm
    unfold CropSpec at H ⊢
    simpa only [scaleInp, scaleX_mv, ne_eq, reduceCtorEq, not_false_eq_true, grossUp_mul, at'_map_mul,
      ← mul_sub, ← mul_add, mul_right_inj' hk.ne', mul_eq_zero, hk.ne', false_or] using H
  stored := fun hon m hm => by
    have H := h.stored hon m hm
    unfold StoredSpec StoredEatenEq at H ⊢
    simpa only [scaleInp, scaleX_mv, ne_eq, reduceCtorEq, not_false_eq_true, grossUp_mul,
      ← mul_sub, mul_right_inj' hk.ne', mul_eq_zero, hk.ne', false_or] using H
  meat := fun hon m hm => by
    have H := h.meat hon m hm
    unfold MeatSpec meatUse at H ⊢
    simpa only [scaleInp, scaleX_mv, ne_eq, reduceCtorEq, not_false_eq_true, grossUp_mul, at'_map_mul,
      ← mul_sub, mul_right_inj' hk.ne', mul_le_mul_iff_right₀ hk] using H
  scp := fun hon m hm => by
    have H := h.scp hon m hm
    unfold scpUse at H ⊢
    simpa only [scaleInp, scaleX_mv, ne_eq, reduceCtorEq, not_false_eq_true, grossUp_mul, at'_map_mul,
      ← mul_add, mul_le_mul_iff_right₀ hk] using H
  cs := fun hon m hm => by
    have H := h.cs hon m hm
    unfold csUse at H ⊢
    simpa only [scaleInp, scaleX_mv, ne_eq, reduceCtorEq, not_false_eq_true, grossUp_mul, at'_map_mul,
      ← mul_add, mul_le_mul_iff_right₀ hk] using H
  general := fun m hm => by
    obtain ⟨H1, H2, H3, H4, H5⟩ := h.general m hm
    refine ⟨?_, ?_, intake_scale k i x hk _ _ _ _ _ (by decide) (by decide) (by decide) _ _ _ m H3,
      intake_scale k i x hk _ _ _ _ _ (by decide) (by decide) (by decide) _ _ _ m H4,
      intake_scale k i x hk _ _ _ _ _ (by decide) (by decide) (by decide) _ _ _ m H5⟩
    · intro hany
      obtain ⟨f1, f2⟩ := H1 hany
      rw [feedTotal_scale, biofuelTotal_scale, f1, f2]
      exact ⟨(at'_map_mul k _ m).symm, (at'_map_mul k _ m).symm⟩
    · rw [humanTotal_scale, scaleX_consumed, H2]
      show _ = k * humanTotal i x m / (k * i.billionKcalsNeeded) * 100.0
      rw [mul_div_mul_left _ _ hk.ne']
  objective := h.objective

end Scale

theorem scale_feasible (k : K) (hk : 0 < k) (i : Inp K) (x : Var → K)
    (h : Feasible (buildLP i .toHumans) x) :
    Feasible (buildLP (scaleInp k i) .toHumans) (scaleX k x) ∧
      scaleX k x .objective = x .objective :=
  ⟨feasible_toHumans_iff.mpr (humanSpec_scale k i x hk (feasible_toHumans_iff.mp h)), rfl⟩

theorem scaleInp_inv (k : K) (hk : k ≠ 0) (i : Inp K) : scaleInp k⁻¹ (scaleInp k i) = i := by
  have e : ∀ l : List K, List.map (fun a => k⁻¹ * a) (List.map (fun a => k * a) l) = l := fun l => by
    rw [List.map_map, (funext fun a => inv_mul_cancel_left₀ hk a : ((k⁻¹ * ·) ∘ (k * ·)) = id), List.map_id]
  cases i
  simp only [scaleInp, e, inv_mul_cancel_left₀ hk]

theorem scale_optimum (k : K) (hk : 0 < k) (i : Inp K) (z : K) :
    (∃ x, Feasible (buildLP i .toHumans) x ∧ x .objective = z) ↔
    (∃ x, Feasible (buildLP (scaleInp k i) .toHumans) x ∧ x .objective = z) := by
  constructor
  · rintro ⟨x, hx, hz⟩
    exact ⟨scaleX k x, (scale_feasible k hk i x hx).1, hz⟩
  · rintro ⟨x, hx, hz⟩
    have := (scale_feasible k⁻¹ (inv_pos.mpr hk) (scaleInp k i) x hx).1
    rw [scaleInp_inv k hk.ne'] at this
    exact ⟨scaleX k⁻¹ x, this, hz⟩

theorem one_le_keep_div {w w' : K} (hw' : w' ≤ w) (hw : w < 100) : 1 ≤ keep w' / keep w :=
  (one_le_div (keep_pos hw)).mpr
    (sub_le_sub_left (div_le_div_of_nonneg_right hw' (by norm_num)) 1)

theorem grossUp_rescale {w w' : K} (hw' : w' ≤ w) (hw : w < 100) (v : K) :
    grossUp (keep w' / keep w * v) w' = grossUp v w := by
  have hk := (keep_pos hw).ne'
  have hk' := (keep_pos (lt_of_le_of_lt hw' hw)).ne'
  rw [grossUp_eq, grossUp_eq]
  field_simp

section More
variable {i : Inp K} {x y : Var → K} {m : Nat}

theorem intake_mono {on : Bool} {ratio : K} {vH vF vB : VK} {limH limF limB : K}
    (h : IntakeSpec i x on ratio vH vF vB limH limF limB m)
    (hH : y (.mv vH m) = x (.mv vH m)) (hF : y (.mv vF m) = x (.mv vF m))
    (hB : y (.mv vB m) = x (.mv vB m))
    (hc : x (.mv .consumedKcals m) ≤ y (.mv .consumedKcals m))
    (hlim : 0 ≤ limH) (hb : 0 ≤ i.billionKcalsNeeded) :
    IntakeSpec i y on ratio vH vF vB limH limF limB m := by
  intro hon
  obtain ⟨⟨h1, h2⟩, h3, h4⟩ := h hon
  rw [hH, hF, hB]
  refine ⟨⟨h1, h2.trans ?_⟩, h3, h4⟩
  have h100 : (0 : K) ≤ 100.0 := by rw [sci_100]; norm_num
  exact mul_le_mul_of_nonneg_left
    (div_le_div_of_nonneg_right (mul_le_mul_of_nonneg_right hc hb) h100) (div_nonneg hlim h100)

/-- the monthly variables a point that gives people more has to leave as they are: those the totals
    of feed and biofuel and the caps on SCP and sugar read, and the meat eaten -/
def fixedKind : VK → Bool
  | .meatEaten | .csHumans | .scpHumans
  | .sfFeed | .cropFeed | .swFeed | .csFeed | .scpFeed
  | .sfBiofuel | .cropBiofuel | .swBiofuel | .csBiofuel | .scpBiofuel => true
  | _ => false

theorem X_congr {on : Bool} {k : VK} (h : y (.mv k m) = x (.mv k m)) : X y on k m = X x on k m := by
  unfold X; rw [h]

theorem X_le {on : Bool} {k : VK} (h : x (.mv k m) ≤ y (.mv k m)) : X x on k m ≤ X y on k m := by
  unfold X; split_ifs
  · exact h
  · exact le_rfl

theorem X_add {on : Bool} {k : VK} {d : K} (h : y (.mv k m) = x (.mv k m) + d) :
    X y on k m = X x on k m + if on = true then d else 0 := by
  unfold X; split_ifs
  · exact h
  · rw [add_zero]

/-- `y`, with the percent fed of `x` raised by what people get more under `y` -/
def refed (i : Inp K) (x y : Var → K) : Var → K
  | .mv .consumedKcals m =>
    x (.mv .consumedKcals m) + (humanTotal i y m - humanTotal i x m) / i.billionKcalsNeeded * 100.0
  | v => y v

theorem le_refed (hT : humanTotal i x m ≤ humanTotal i y m) (hb : 0 ≤ i.billionKcalsNeeded) :
    x (.mv .consumedKcals m) ≤ refed i x y (.mv .consumedKcals m) :=
  le_add_of_nonneg_right
    (mul_nonneg (div_nonneg (sub_nonneg.mpr hT) hb) (by rw [sci_100]; norm_num))

/-- People get more: `y` with its percent fed brought up to date keeps the sign constraints, the
    rows shared by all resources and the objective rows, because the totals of feed and biofuel are
    those of `x` and the caps on SCP and sugar only loosen.  The resources' own rows are left to the
    caller.
    The callers use these conclusions, and the clauses `h.seaweed`, `h.crops`, … of `x` about the
    resources they leave alone, for an input `{ i with … }` and the new point: the changed field is
    not read there and the new point is `x` on those variables, so they transfer by unfolding. -/
theorem of_humanTotal_le (h : HumanSpec i x)
    (hy : ∀ k m, x (.mv k m) ≤ y (.mv k m) ∧ (fixedKind k = true → y (.mv k m) = x (.mv k m)))
    (ho : y .objective = x .objective) (hbest : y .objectiveBest = x .objectiveBest)
    (hT : ∀ m, humanTotal i x m ≤ humanTotal i y m)
    (hsw : ∀ m, m < i.nmonths → IntakeSpec i (refed i x y) i.addSeaweed i.seaweedKcals
      .swHumans .swFeed .swBiofuel i.limSwH i.limSwF i.limSwB m)
    (hlim : 0 ≤ i.limScpH ∧ 0 ≤ i.limCsH) (hb : 0 ≤ i.billionKcalsNeeded) :
    (∀ v, 0 ≤ refed i x y v) ∧ (∀ m, m < i.nmonths → GeneralSpec i (refed i x y) m) ∧
      ∀ m, m < i.nmonths → refed i x y .objective ≤ refed i x y (.mv .consumedKcals m) := by
  have hs : ∀ k m, fixedKind k = true → y (.mv k m) = x (.mv k m) := fun k m => (hy k m).2
  have hX : ∀ {on : Bool} k m, fixedKind k = true → X y on k m = X x on k m := fun k m hk =>
    X_congr (hs k m hk)
  have hc : ∀ m, x (.mv .consumedKcals m) ≤ refed i x y (.mv .consumedKcals m) := fun m =>
    le_refed (hT m) hb
  refine ⟨nonneg_of_mv (fun k m => ?_) (ho ▸ h.nonneg _ : 0 ≤ y .objective)
      (hbest ▸ h.nonneg _ : 0 ≤ y .objectiveBest), fun m hm => ?_,
    fun m hm => (ho ▸ h.objective m hm : y .objective ≤ _).trans (hc m)⟩
  · cases k
    case consumedKcals => exact (h.nonneg _).trans (hc m)
    all_goals exact (h.nonneg _).trans (hy _ m).1
  · obtain ⟨H1, H2, -, H4, H5⟩ := h.general m hm
    refine ⟨?_, ?_, hsw m hm,
      intake_mono H4 (hs _ m rfl) (hs _ m rfl) (hs _ m rfl) (hc m) hlim.1 hb,
      intake_mono H5 (hs _ m rfl) (hs _ m rfl) (hs _ m rfl) (hc m) hlim.2 hb⟩
    · show _ → feedTotal i y m = _ ∧ biofuelTotal i y m = _
      unfold feedTotal biofuelTotal
      rw [hX .sfFeed m rfl, hX .cropFeed m rfl, hX .swFeed m rfl, hX .csFeed m rfl, hX .scpFeed m rfl,
        hX .sfBiofuel m rfl, hX .cropBiofuel m rfl, hX .swBiofuel m rfl, hX .csBiofuel m rfl,
        hX .scpBiofuel m rfl]
      exact H1
    · show _ + _ = humanTotal i y m / _ * _
      rw [H2, ← add_mul, ← add_div, add_sub_cancel]

/-- `of_humanTotal_le` when people get more stored food and crops and as much seaweed as before:
    the human total rises and seaweed's caps loosen like those of SCP and sugar -/
theorem of_more (h : HumanSpec i x)
    (hy : ∀ k m, x (.mv k m) ≤ y (.mv k m) ∧ (fixedKind k = true → y (.mv k m) = x (.mv k m)))
    (hsw : ∀ m, y (.mv .swHumans m) = x (.mv .swHumans m))
    (ho : y .objective = x .objective) (hbest : y .objectiveBest = x .objectiveBest)
    (hlim : 0 ≤ i.limSwH ∧ 0 ≤ i.limScpH ∧ 0 ≤ i.limCsH) (hb : 0 ≤ i.billionKcalsNeeded) :
    (∀ v, 0 ≤ refed i x y v) ∧ (∀ m, m < i.nmonths → GeneralSpec i (refed i x y) m) ∧
      ∀ m, m < i.nmonths → refed i x y .objective ≤ refed i x y (.mv .consumedKcals m) := by
  have hT : ∀ m, humanTotal i x m ≤ humanTotal i y m := fun m => by
    unfold humanTotal
    rw [X_congr (hsw m), X_congr ((hy .meatEaten m).2 rfl), X_congr ((hy .csHumans m).2 rfl),
      X_congr ((hy .scpHumans m).2 rfl)]
    linarith [X_le (on := i.addStored) (hy .sfHumans m).1, X_le (on := i.addOutdoor) (hy .cropHumans m).1]
  exact of_humanTotal_le h hy ho hbest hT (fun m hm =>
    intake_mono (h.general m hm).intakeSeaweed (hsw m) ((hy .swFeed m).2 rfl) ((hy .swBiofuel m).2 rfl)
      (le_refed (hT m) hb) hlim.1 hb) hlim.2 hb

end More

/-- the meat stock `d` higher in every month (the point of `C12.mono_meat`) -/
def shiftMeat (x : Var → K) (d : K) : Var → K
  | .mv .meatStart m => x (.mv .meatStart m) + d
  | .mv .meatEnd m => x (.mv .meatEnd m) + d
  | v => x v

/-- `x` with the percent fed of month `m` raised by `g m` -/
def raiseConsumed (x : Var → K) (g : Nat → K) : Var → K
  | .mv .consumedKcals m => x (.mv .consumedKcals m) + g m
  | v => x v

theorem humanTotal_constants (i : Inp K) (milk' fish' gh' : List K) (x : Var → K) (m : Nat) :
    humanTotal { i with milk := milk', fish := fish', greenhouse := gh' } x m =
      humanTotal i x m + ((at' milk' m - at' i.milk m) + (at' fish' m - at' i.fish m)
        + (at' gh' m - at' i.greenhouse m)) := by
  unfold humanTotal; ring

theorem mono_constants (i : Inp K) (milk' fish' gh' : List K) (hm : SeriesLe i.milk milk')
    (hf : SeriesLe i.fish fish') (hg : SeriesLe i.greenhouse gh') (hb : 0 ≤ i.billionKcalsNeeded)
    (hlim : 0 ≤ i.limSwH ∧ 0 ≤ i.limScpH ∧ 0 ≤ i.limCsH)
    (x : Var → K) (h : Feasible (buildLP i .toHumans) x) :
    ∃ x', Feasible (buildLP { i with milk := milk', fish := fish', greenhouse := gh' } .toHumans) x' ∧
      x .objective ≤ x' .objective := by
  rw [feasible_toHumans_iff] at h
  let g : Nat → K := fun m =>
    ((at' milk' m - at' i.milk m) + (at' fish' m - at' i.fish m)
      + (at' gh' m - at' i.greenhouse m)) / i.billionKcalsNeeded * 100
  have hg0 : ∀ m, 0 ≤ g m := fun m =>
    mul_nonneg (div_nonneg (by linarith [hm m, hf m, hg m]) hb) (by norm_num)
  have hc : ∀ m, x (.mv .consumedKcals m) ≤ raiseConsumed x g (.mv .consumedKcals m) := fun m =>
    le_add_of_nonneg_right (hg0 m)
  refine ⟨raiseConsumed x g, feasible_toHumans_iff.mpr ⟨?_, h.seaweed, h.crops, h.stored, h.meat,
    h.scp, h.cs, fun m hmN => ?_, fun m hmN => (h.objective m hmN).trans (hc m)⟩, le_rfl⟩
  · refine nonneg_of_mv (fun k m => ?_) (h.nonneg _) (h.nonneg _)
    cases k
    case consumedKcals => exact (h.nonneg _).trans (hc m)
    all_goals exact h.nonneg _
  · obtain ⟨H1, H2, H3, H4, H5⟩ := h.general m hmN
    refine ⟨H1, ?_, intake_mono H3 rfl rfl rfl (hc m) hlim.1 hb,
      intake_mono H4 rfl rfl rfl (hc m) hlim.2.1 hb, intake_mono H5 rfl rfl rfl (hc m) hlim.2.2 hb⟩
    -- `raiseConsumed x g` agrees with `x` on what `humanTotal` reads
    show x (.mv .consumedKcals m) + ((at' milk' m - at' i.milk m) + (at' fish' m - at' i.fish m)
      + (at' gh' m - at' i.greenhouse m)) / i.billionKcalsNeeded * 100 =
      humanTotal { i with milk := milk', fish := fish', greenhouse := gh' } x m / i.billionKcalsNeeded * 100.0
    rw [humanTotal_constants, H2, sci_100, ← add_mul, ← add_div]

/-- the stock `d` higher throughout; in month `l`, if the stock has to be used up by then (`s`),
    people eat the extra `e` instead of leaving it -/
def shiftStored (x : Var → K) (d e : K) (s : Bool) (l : Nat) : Var → K
  | .mv .sfStart m => x (.mv .sfStart m) + d
  | .mv .sfEnd m => x (.mv .sfEnd m) + (if s = true ∧ m = l then 0 else d)
  | .mv .sfHumans m => x (.mv .sfHumans m) + (if s = true ∧ m = l then e else 0)
  | v => x v

theorem mono_storedInitial (i : Inp K) (d : K) (hd : 0 ≤ d) (hw : i.wStored < 100)
    (hb : 0 ≤ i.billionKcalsNeeded)
    (hlim : 0 ≤ i.limSwH ∧ 0 ≤ i.limScpH ∧ 0 ≤ i.limCsH)
    (x : Var → K) (h : Feasible (buildLP i .toHumans) x) :
    ∃ x', Feasible (buildLP { i with storedInitial := i.storedInitial + d } .toHumans) x' ∧
      x .objective ≤ x' .objective := by
  rw [feasible_toHumans_iff] at h
  have he : 0 ≤ d * keep i.wStored := mul_nonneg hd (keep_pos hw).le
  obtain ⟨n, g, o⟩ := of_more h
    (y := shiftStored x d (d * keep i.wStored) i.storeBetweenYears (i.nmonths - 1))
    (fun k m => by
      cases k
      case sfStart => exact ⟨le_add_of_nonneg_right hd, nofun⟩
      case sfEnd => exact ⟨le_add_of_nonneg_right (ite_nonneg le_rfl hd), nofun⟩
      case sfHumans => exact ⟨le_add_of_nonneg_right (ite_nonneg he le_rfl), nofun⟩
      all_goals exact ⟨le_rfl, fun _ => rfl⟩)
    (fun _ => rfl) rfl rfl hlim hb
  refine ⟨_, feasible_toHumans_iff.mpr ⟨n, h.seaweed, h.crops, ?_, h.meat, h.scp, h.cs, g, o⟩, le_rfl⟩
  intro hon m hm
  -- `hm` is about the months of the new input, which are those of `i`; `omega` needs it so
  have hm : m < i.nmonths := hm
  obtain ⟨HA, H4⟩ := storedSpec_iff.mp (h.stored hon m hm)
  obtain ⟨H1, H2, H3⟩ := storedSpecA_iff.mp HA
  rw [storedSpec_iff, storedSpecA_iff]
  simp only [StoredEatenEq, refed, shiftStored]
  refine ⟨⟨?_, fun hc => ?_, fun hs h12 => ?_⟩, fun hs h0 hl => ?_⟩
  · -- the month before `m` is never the last one
    split_ifs at H1 ⊢
    · rw [H1]
    · omega
    · rw [H1]
  · by_cases hl : i.storeBetweenYears = true ∧ m = i.nmonths - 1
    · rw [if_pos hl, if_pos hl, grossUp_add_keep hw, add_zero, H2 hc]; ring
    · rw [if_neg hl, if_neg hl, add_zero, H2 hc]; ring
  · rw [if_neg fun hl => Bool.false_ne_true (hs ▸ hl.1), add_zero]
    exact H3 hs h12
  · rw [if_pos ⟨hs, hl⟩, add_zero]
    exact H4 hs h0 hl

/-- crop storage raised by the running surplus `D` before month `l`; in month `l` the whole surplus
    is consumed and people eat `e` more -/
def shiftCrops (x : Var → K) (D : Nat → K) (l : Nat) (e : K) : Var → K
  | .mv .cropStorage m => x (.mv .cropStorage m) + (if m < l then D m else 0)
  | .mv .cropConsumed m => x (.mv .cropConsumed m) + (if m = l then D l else 0)
  | .mv .cropHumans m => x (.mv .cropHumans m) + (if m = l then e else 0)
  | v => x v

theorem mono_cropProd (i : Inp K) (prod' : List K) (hp : SeriesLe i.cropProd prod')
    (hw : i.wCrop < 100) (hN : 2 ≤ i.nmonths)
    (hb : 0 ≤ i.billionKcalsNeeded) (hlim : 0 ≤ i.limSwH ∧ 0 ≤ i.limScpH ∧ 0 ≤ i.limCsH)
    (x : Var → K) (h : Feasible (buildLP i .toHumans) x) :
    ∃ x', Feasible (buildLP { i with cropProd := prod' } .toHumans) x' ∧
      x .objective ≤ x' .objective := by
  rw [feasible_toHumans_iff] at h
  let δ : Nat → K := fun k => at' prod' k - at' i.cropProd k
  have hD : ∀ m, 0 ≤ cum δ m := fun m => cum_nonneg δ m fun k _ => sub_nonneg.mpr (hp k)
  have he : 0 ≤ cum δ (i.nmonths - 1) * keep i.wCrop := mul_nonneg (hD _) (keep_pos hw).le
  obtain ⟨n, g, o⟩ := of_more h
    (y := shiftCrops x (cum δ) (i.nmonths - 1) (cum δ (i.nmonths - 1) * keep i.wCrop))
    (fun k m => by
      cases k
      case cropStorage | cropConsumed =>
        exact ⟨le_add_of_nonneg_right (ite_nonneg (hD _) le_rfl), nofun⟩
      case cropHumans => exact ⟨le_add_of_nonneg_right (ite_nonneg he le_rfl), nofun⟩
      all_goals exact ⟨le_rfl, fun _ => rfl⟩)
    (fun _ => rfl) rfl rfl hlim hb
  refine ⟨_, feasible_toHumans_iff.mpr ⟨n, h.seaweed, ?_, h.stored, h.meat, h.scp, h.cs, g, o⟩, le_rfl⟩
  intro hon m hm
  have hm : m < i.nmonths := hm
  obtain ⟨⟨H1, H2⟩, H3⟩ := cropSpec_iff.mp (h.crops hon m hm)
  rw [cropSpec_iff]
  unfold CropSpecA
  simp only [refed, shiftCrops]
  refine ⟨⟨?_, ?_⟩, fun h0 hl => ?_⟩
  · split_ifs
    · rw [grossUp_add_keep hw, H1]; ring
    · rw [add_zero, add_zero, H1]
  · -- the surplus in store grows by the month's extra production until it is eaten
    have hδ : at' prod' m = at' i.cropProd m + δ m := by
      show _ = _ + (at' prod' m - at' i.cropProd m); ring
    by_cases h0 : m = 0
    · rw [if_pos h0] at H2 ⊢
      rw [if_pos (by omega : m < i.nmonths - 1), if_neg (by omega : ¬m = i.nmonths - 1), H2, hδ, h0,
        cum_zero]
      ring
    · rw [if_neg h0] at H2 ⊢
      rw [H2, hδ, if_pos (by omega : m - 1 < i.nmonths - 1)]
      rcases Nat.lt_or_eq_of_le (Nat.le_sub_one_of_lt hm) with hl | hl
      · rw [if_pos hl, if_neg hl.ne, cum_step δ m h0]; ring
      · rw [if_neg hl.not_lt, if_pos hl, ← hl, cum_step δ m h0]; ring
  · rw [if_neg hl.not_lt, add_zero]
    exact H3 h0 hl

section Charge

/-- stored food no longer fed to animals / turned into biofuel in month `m` -/
def freedStored (x : Var → K) (lam mu : Nat → K) (m : Nat) : K :=
  (1 - lam m) * x (.mv .sfFeed m) + (1 - mu m) * x (.mv .sfBiofuel m)

def freedCrops (x : Var → K) (lam mu : Nat → K) (m : Nat) : K :=
  (1 - lam m) * x (.mv .cropFeed m) + (1 - mu m) * x (.mv .cropBiofuel m)

/-- what people get more in month `m` (billion kcals) -/
def gain (i : Inp K) (x : Var → K) (lam mu : Nat → K) (m : Nat) : K :=
  (if i.addStored = true then freedStored x lam mu m * keep i.wStored else 0)
    + (if i.addOutdoor = true then freedCrops x lam mu m * keep i.wCrop else 0)

/-- every feed variable of month `m` scaled by `lam m`, every biofuel variable by `mu m`; the freed
    stored food and crops go to people in the same month, freed SCP and sugar are dropped -/
def recharge (i : Inp K) (x : Var → K) (lam mu : Nat → K) : Var → K
  | .mv .sfFeed m => lam m * x (.mv .sfFeed m)
  | .mv .sfBiofuel m => mu m * x (.mv .sfBiofuel m)
  | .mv .cropFeed m => lam m * x (.mv .cropFeed m)
  | .mv .cropBiofuel m => mu m * x (.mv .cropBiofuel m)
  | .mv .scpFeed m => lam m * x (.mv .scpFeed m)
  | .mv .scpBiofuel m => mu m * x (.mv .scpBiofuel m)
  | .mv .csFeed m => lam m * x (.mv .csFeed m)
  | .mv .csBiofuel m => mu m * x (.mv .csBiofuel m)
  | .mv .sfHumans m => x (.mv .sfHumans m) + freedStored x lam mu m * keep i.wStored
  | .mv .cropHumans m => x (.mv .cropHumans m) + freedCrops x lam mu m * keep i.wCrop
  | .mv .consumedKcals m => x (.mv .consumedKcals m) + gain i x lam mu m / i.billionKcalsNeeded * 100
  | v => x v

variable {i : Inp K} {x : Var → K} {lam mu : Nat → K} {m : Nat}

theorem rc_sfStart : recharge i x lam mu (.mv .sfStart m) = x (.mv .sfStart m) := rfl
theorem rc_sfEnd : recharge i x lam mu (.mv .sfEnd m) = x (.mv .sfEnd m) := rfl
theorem rc_sfHumans : recharge i x lam mu (.mv .sfHumans m) = x (.mv .sfHumans m) + freedStored x lam mu m * keep i.wStored := rfl
theorem rc_sfFeed : recharge i x lam mu (.mv .sfFeed m) = lam m * x (.mv .sfFeed m) := rfl
theorem rc_sfBiofuel : recharge i x lam mu (.mv .sfBiofuel m) = mu m * x (.mv .sfBiofuel m) := rfl
theorem rc_scpHumans : recharge i x lam mu (.mv .scpHumans m) = x (.mv .scpHumans m) := rfl
theorem rc_scpFeed : recharge i x lam mu (.mv .scpFeed m) = lam m * x (.mv .scpFeed m) := rfl
theorem rc_scpBiofuel : recharge i x lam mu (.mv .scpBiofuel m) = mu m * x (.mv .scpBiofuel m) := rfl
theorem rc_csHumans : recharge i x lam mu (.mv .csHumans m) = x (.mv .csHumans m) := rfl
theorem rc_csFeed : recharge i x lam mu (.mv .csFeed m) = lam m * x (.mv .csFeed m) := rfl
theorem rc_csBiofuel : recharge i x lam mu (.mv .csBiofuel m) = mu m * x (.mv .csBiofuel m) := rfl
theorem rc_meatStart : recharge i x lam mu (.mv .meatStart m) = x (.mv .meatStart m) := rfl
theorem rc_meatEnd : recharge i x lam mu (.mv .meatEnd m) = x (.mv .meatEnd m) := rfl
theorem rc_meatEaten : recharge i x lam mu (.mv .meatEaten m) = x (.mv .meatEaten m) := rfl
theorem rc_cropStorage : recharge i x lam mu (.mv .cropStorage m) = x (.mv .cropStorage m) := rfl
theorem rc_cropConsumed : recharge i x lam mu (.mv .cropConsumed m) = x (.mv .cropConsumed m) := rfl
theorem rc_cropHumans : recharge i x lam mu (.mv .cropHumans m) = x (.mv .cropHumans m) + freedCrops x lam mu m * keep i.wCrop := rfl
theorem rc_cropFeed : recharge i x lam mu (.mv .cropFeed m) = lam m * x (.mv .cropFeed m) := rfl
theorem rc_cropBiofuel : recharge i x lam mu (.mv .cropBiofuel m) = mu m * x (.mv .cropBiofuel m) := rfl
theorem rc_swWet : recharge i x lam mu (.mv .swWet m) = x (.mv .swWet m) := rfl
theorem rc_swHumans : recharge i x lam mu (.mv .swHumans m) = x (.mv .swHumans m) := rfl
theorem rc_swFeed : recharge i x lam mu (.mv .swFeed m) = x (.mv .swFeed m) := rfl
theorem rc_swBiofuel : recharge i x lam mu (.mv .swBiofuel m) = x (.mv .swBiofuel m) := rfl
theorem rc_usedArea : recharge i x lam mu (.mv .usedArea m) = x (.mv .usedArea m) := rfl
theorem rc_consumedKcals : recharge i x lam mu (.mv .consumedKcals m) = x (.mv .consumedKcals m) + gain i x lam mu m / i.billionKcalsNeeded * 100 := rfl

theorem share_spec {a b : K} (h0 : 0 ≤ a) (h1 : a ≤ b) : 0 ≤ a / b ∧ a / b ≤ 1 ∧ a / b * b = a :=
  ⟨div_nonneg h0 (h0.trans h1), div_le_one_of_le₀ h1 (h0.trans h1),
    div_mul_cancel_of_imp fun hb => le_antisymm (hb ▸ h1) h0⟩

theorem cap_scale {a r c b l : K} (h : a * r ≤ c * b) (hl : 0 ≤ l) : l * a * r ≤ c * (l * b) := by
  rw [mul_assoc, mul_left_comm c]
  exact mul_le_mul_of_nonneg_left h hl

theorem feedTotal_recharge (hs : i.addSeaweed = false) :
    feedTotal i (recharge i x lam mu) m = lam m * feedTotal i x m := by
  unfold feedTotal
  rw [X_mul (x := x) (c := lam m) (k := .sfFeed) rfl, X_mul (x := x) (c := lam m) (k := .cropFeed) rfl,
    X_mul (x := x) (c := lam m) (k := .csFeed) rfl, X_mul (x := x) (c := lam m) (k := .scpFeed) rfl]
  simp only [X, hs, Bool.false_eq_true, if_false]
  ring

theorem biofuelTotal_recharge (hs : i.addSeaweed = false) :
    biofuelTotal i (recharge i x lam mu) m = mu m * biofuelTotal i x m := by
  unfold biofuelTotal
  rw [X_mul (x := x) (c := mu m) (k := .sfBiofuel) rfl, X_mul (x := x) (c := mu m) (k := .cropBiofuel) rfl,
    X_mul (x := x) (c := mu m) (k := .csBiofuel) rfl, X_mul (x := x) (c := mu m) (k := .scpBiofuel) rfl]
  simp only [X, hs, Bool.false_eq_true, if_false]
  ring

theorem humanTotal_recharge :
    humanTotal i (recharge i x lam mu) m = humanTotal i x m + gain i x lam mu m := by
  show X (recharge i x lam mu) i.addStored .sfHumans m + X (recharge i x lam mu) i.addOutdoor .cropHumans m
    + X x i.addSeaweed .swHumans m * _ + _ + X x i.addMeat .meatEaten m + X x i.addCs .csHumans m
    + X x i.addScp .scpHumans m + _ + _ = _
  rw [X_add (x := x) (k := .sfHumans) rfl, X_add (x := x) (k := .cropHumans) rfl]
  unfold humanTotal gain
  ring

theorem charge_antitone_partial (i : Inp K) (feed' biofuel' : List K) (hs : i.addSeaweed = false)
    (hf : SeriesLe feed' i.feed) (hb : SeriesLe biofuel' i.biofuel)
    (hf0 : ∀ m, 0 ≤ at' feed' m) (hb0 : ∀ m, 0 ≤ at' biofuel' m)
    (hwS0 : 0 ≤ i.wStored) (hwS : i.wStored < 100) (hwC0 : 0 ≤ i.wCrop) (hwC : i.wCrop < 100)
    (hbkn : 0 < i.billionKcalsNeeded) (hlim : 0 ≤ i.limScpH ∧ 0 ≤ i.limCsH)
    (x : Var → K) (h : Feasible (buildLP i .toHumans) x) :
    ∃ x', Feasible (buildLP { i with feed := feed', biofuel := biofuel' } .toHumans) x' ∧
      x .objective ≤ x' .objective := by
  rw [feasible_toHumans_iff] at h
  let lam : Nat → K := fun m => at' feed' m / at' i.feed m
  let mu : Nat → K := fun m => at' biofuel' m / at' i.biofuel m
  have hl : ∀ m, 0 ≤ lam m ∧ lam m ≤ 1 ∧ lam m * at' i.feed m = at' feed' m :=
    fun m => share_spec (hf0 m) (hf m)
  have hmu : ∀ m, 0 ≤ mu m ∧ mu m ≤ 1 ∧ mu m * at' i.biofuel m = at' biofuel' m :=
    fun m => share_spec (hb0 m) (hb m)
  have hkS := keep_pos hwS
  have hkC := keep_pos hwC
  have hfree : ∀ (m : Nat) {a b : K}, 0 ≤ a → 0 ≤ b → 0 ≤ (1 - lam m) * a + (1 - mu m) * b :=
    fun m _ _ ha hb => add_nonneg (mul_nonneg (sub_nonneg.mpr (hl m).2.1) ha)
      (mul_nonneg (sub_nonneg.mpr (hmu m).2.1) hb)
  have hfs : ∀ m, 0 ≤ freedStored x lam mu m := fun m => hfree m (h.nonneg _) (h.nonneg _)
  have hfc : ∀ m, 0 ≤ freedCrops x lam mu m := fun m => hfree m (h.nonneg _) (h.nonneg _)
  have hgain : ∀ m, 0 ≤ gain i x lam mu m := fun m =>
    add_nonneg (ite_nonneg (mul_nonneg (hfs m) hkS.le) le_rfl)
      (ite_nonneg (mul_nonneg (hfc m) hkC.le) le_rfl)
  have hcons : ∀ m, x (.mv .consumedKcals m) ≤ recharge i x lam mu (.mv .consumedKcals m) := fun m =>
    le_add_of_nonneg_right (mul_nonneg (div_nonneg (hgain m) hbkn.le) (by norm_num))
  -- a monthly cap on what is drawn survives when less of it is fed and burnt
  have hcap : ∀ (m : Nat) {a f b s : K}, 0 ≤ f → 0 ≤ b → a + f + b ≤ s →
      a + lam m * f + mu m * b ≤ s := fun m _ _ _ _ hf hb H =>
    (add_le_add (add_le_add le_rfl (mul_le_of_le_one_left hf (hl m).2.1))
      (mul_le_of_le_one_left hb (hmu m).2.1)).trans H
  refine ⟨recharge i x lam mu, feasible_toHumans_iff.mpr ?_, le_rfl⟩
  exact {
    nonneg := nonneg_of_mv (fun k m => by
        cases k
        case sfFeed | cropFeed | scpFeed | csFeed => exact mul_nonneg (hl m).1 (h.nonneg _)
        case sfBiofuel | cropBiofuel | scpBiofuel | csBiofuel => exact mul_nonneg (hmu m).1 (h.nonneg _)
        case sfHumans => exact add_nonneg (h.nonneg _) (mul_nonneg (hfs m) hkS.le)
        case cropHumans => exact add_nonneg (h.nonneg _) (mul_nonneg (hfc m) hkC.le)
        case consumedKcals => exact (h.nonneg _).trans (hcons m)
        all_goals exact h.nonneg _)
      (h.nonneg _) (h.nonneg _)
    seaweed := h.seaweed
    meat := h.meat
    -- what is no longer fed or burnt is eaten, so the same amount is consumed
    crops := fun hon m hm => by
      obtain ⟨H1, H2⟩ := h.crops hon m hm
      refine ⟨?_, H2⟩
      simp only [recharge]
      rw [grossUp_add_keep hwC, H1]
      unfold freedCrops
      ring
    stored := fun hon m hm => by
      obtain ⟨HA, H4⟩ := storedSpec_iff.mp (h.stored hon m hm)
      obtain ⟨H1, H2, H3⟩ := storedSpecA_iff.mp HA
      rw [storedSpec_iff, storedSpecA_iff]
      simp only [StoredEatenEq, recharge, freedStored]
      refine ⟨⟨H1, fun hc => ?_, fun hs h12 => ?_⟩, H4⟩
      · rw [grossUp_add_keep hwS, H2 hc]; ring
      · obtain ⟨e1, e2, e3⟩ := H3 hs h12
        rw [e1, e2, e3]
        exact ⟨by ring, by ring, by ring⟩
    scp := fun hon m hm => hcap m (h.nonneg _) (h.nonneg _) (h.scp hon m hm)
    cs := fun hon m hm => hcap m (h.nonneg _) (h.nonneg _) (h.cs hon m hm)
    objective := fun m hm => (h.objective m hm).trans (hcons m)
    general := fun m hm => by
      obtain ⟨H1, H2, -, H4, H5⟩ := h.general m hm
      refine ⟨fun hany => ?_, ?_, fun hon => absurd (hs ▸ hon) Bool.false_ne_true, ?_, ?_⟩
      · obtain ⟨f1, f2⟩ := H1 hany
        show feedTotal i _ m = at' feed' m ∧ biofuelTotal i _ m = at' biofuel' m
        rw [feedTotal_recharge hs, biofuelTotal_recharge hs, f1, f2]
        exact ⟨(hl m).2.2, (hmu m).2.2⟩
      · show _ + gain i x lam mu m / _ * 100 = humanTotal i (recharge i x lam mu) m / _ * 100.0
        rw [humanTotal_recharge, H2, sci_100, ← add_mul, ← add_div]
      -- SCP and sugar: the human caps are those of the point with only the percent fed raised,
      -- the feed and biofuel caps shrink with the charge
      · have I := intake_mono H4
          (y := raiseConsumed x fun m => gain i x lam mu m / i.billionKcalsNeeded * 100)
          rfl rfl rfl (hcons m) hlim.1 hbkn.le
        exact fun hon => ⟨(I hon).1, (hl m).2.2 ▸ cap_scale (H4 hon).2.1 (hl m).1,
          (hmu m).2.2 ▸ cap_scale (H4 hon).2.2 (hmu m).1⟩
      · have I := intake_mono H5
          (y := raiseConsumed x fun m => gain i x lam mu m / i.billionKcalsNeeded * 100)
          rfl rfl rfl (hcons m) hlim.2 hbkn.le
        exact fun hon => ⟨(I hon).1, (hl m).2.2 ▸ cap_scale (H5 hon).2.1 (hl m).1,
          (hmu m).2.2 ▸ cap_scale (H5 hon).2.2 (hmu m).1⟩ }

end Charge

/-! ## why the monotonicity theorems ask for non-negative human intake limits -/

/-- SCP switched on with a *negative* human intake limit, nobody to feed (`pop = 0`) -/
def negLimitInst : Inp ℚ := { emptyInst with nmonths := 2, addScp := true, limScpH := -100 }

theorem limits_needed_counterexample :
    ∃ (i : Inp ℚ) (milk' : List ℚ) (x : Var → ℚ), SeriesLe i.milk milk' ∧
      0 < i.billionKcalsNeeded ∧ Feasible (buildLP i .toHumans) x ∧
      ¬ ∃ x', Feasible (buildLP { i with milk := milk' } .toHumans) x' := by
  refine ⟨negLimitInst, [1], tablePoint [] 0, ?_, by decide +kernel,
    feasible_tablePoint _ _ _ (by decide +kernel) (by decide +kernel) le_rfl, ?_⟩
  · intro m
    exact getD_nonneg [1] (by decide +kernel) m
  · rintro ⟨x', hx'⟩
    rw [feasible_toHumans_iff] at hx'
    obtain ⟨-, H2, -, H4, -⟩ := hx'.general 0 (by decide)
    -- month 0, `s` the SCP people eat: the percent fed is `s + 1` (the milk) and the cap reads
    -- `s ≤ −(s + 1)`
    have hc : x' (.mv .consumedKcals 0) = x' (.mv .scpHumans 0) + 1 := by
      rw [H2]
      norm_num [humanTotal, X, negLimitInst, emptyInst, at']
      exact add_comm _ _
    have h4 : x' (.mv .scpHumans 0) ≤ -x' (.mv .consumedKcals 0) := by
      have := (H4 rfl).1.2
      norm_num [negLimitInst, emptyInst] at this
      linarith
    linarith [hx'.nonneg (.mv .scpHumans 0)]

def boostStored (x : Var → K) (r : K) : Var → K
  | .mv .sfHumans m => r * x (.mv .sfHumans m)
  | v => x v

theorem mono_wasteStored (i : Inp K) (w' : K) (hw' : w' ≤ i.wStored) (hw : i.wStored < 100)
    (hb : 0 ≤ i.billionKcalsNeeded) (hlim : 0 ≤ i.limSwH ∧ 0 ≤ i.limScpH ∧ 0 ≤ i.limCsH)
    (x : Var → K) (h : Feasible (buildLP i .toHumans) x) :
    ∃ x', Feasible (buildLP { i with wStored := w' } .toHumans) x' ∧ x .objective ≤ x' .objective := by
  rw [feasible_toHumans_iff] at h
  have hr := one_le_keep_div hw' hw
  obtain ⟨n, g, o⟩ := of_more h (y := boostStored x (keep w' / keep i.wStored))
    (fun k m => by
      cases k
      case sfHumans => exact ⟨le_mul_of_one_le_left (h.nonneg _) hr, nofun⟩
      all_goals exact ⟨le_rfl, fun _ => rfl⟩)
    (fun _ => rfl) rfl rfl hlim hb
  refine ⟨_, feasible_toHumans_iff.mpr ⟨n, h.seaweed, h.crops, ?_, h.meat, h.scp, h.cs, g, o⟩, le_rfl⟩
  -- the stored-food ledger: the same gross amount is drawn
  intro hon m hm
  obtain ⟨HA, H4⟩ := storedSpec_iff.mp (h.stored hon m hm)
  obtain ⟨H1, H2, H3⟩ := storedSpecA_iff.mp HA
  rw [storedSpec_iff, storedSpecA_iff]
  simp only [StoredEatenEq, refed, boostStored, grossUp_rescale hw' hw]
  exact ⟨⟨H1, H2, fun hs h12 => ⟨by rw [(H3 hs h12).1, mul_zero], (H3 hs h12).2⟩⟩, H4⟩

def boostCrops (x : Var → K) (r : K) : Var → K
  | .mv .cropHumans m => r * x (.mv .cropHumans m)
  | v => x v

theorem mono_wasteCrop (i : Inp K) (w' : K) (hw' : w' ≤ i.wCrop) (hw : i.wCrop < 100)
    (hb : 0 ≤ i.billionKcalsNeeded) (hlim : 0 ≤ i.limSwH ∧ 0 ≤ i.limScpH ∧ 0 ≤ i.limCsH)
    (x : Var → K) (h : Feasible (buildLP i .toHumans) x) :
    ∃ x', Feasible (buildLP { i with wCrop := w' } .toHumans) x' ∧ x .objective ≤ x' .objective := by
  rw [feasible_toHumans_iff] at h
  have hr := one_le_keep_div hw' hw
  obtain ⟨n, g, o⟩ := of_more h (y := boostCrops x (keep w' / keep i.wCrop))
    (fun k m => by
      cases k
      case cropHumans => exact ⟨le_mul_of_one_le_left (h.nonneg _) hr, nofun⟩
      all_goals exact ⟨le_rfl, fun _ => rfl⟩)
    (fun _ => rfl) rfl rfl hlim hb
  refine ⟨_, feasible_toHumans_iff.mpr ⟨n, h.seaweed, ?_, h.stored, h.meat, h.scp, h.cs, g, o⟩, le_rfl⟩
  intro hon m hm
  obtain ⟨H1, H2⟩ := h.crops hon m hm
  exact ⟨(grossUp_rescale hw' hw _).symm ▸ H1, H2⟩

def boostSeaweed (x : Var → K) (r : K) : Var → K
  | .mv .swHumans m => r * x (.mv .swHumans m)
  | v => x v

theorem mono_wasteSeaweed_partial (i : Inp K) (w' : K) (hw' : w' ≤ i.wSeaweed) (hw : i.wSeaweed < 100)
    (hb : 0 ≤ i.billionKcalsNeeded) (hkc : 0 ≤ i.seaweedKcals)
    (hlim : 0 ≤ i.limScpH ∧ 0 ≤ i.limCsH)
    (x : Var → K) (h : Feasible (buildLP i .toHumans) x)
    (hcaps : i.addSeaweed = true → ∀ m, m < i.nmonths →
      (1 - w' / 100) / (1 - i.wSeaweed / 100) * x (.mv .swHumans m) * i.seaweedKcals
        ≤ i.limSwH / 100.0 * (i.pop * i.kcalsMonthly / 1e9) ∧
      (1 - w' / 100) / (1 - i.wSeaweed / 100) * x (.mv .swHumans m) * i.seaweedKcals
        ≤ i.limSwH / 100.0 *
          ((x (.mv .consumedKcals m)
            + ((1 - w' / 100) / (1 - i.wSeaweed / 100) - 1) * x (.mv .swHumans m) * i.seaweedKcals
                / i.billionKcalsNeeded * 100) * i.billionKcalsNeeded / 100.0)) :
    ∃ x', Feasible (buildLP { i with wSeaweed := w' } .toHumans) x' ∧ x .objective ≤ x' .objective := by
  rw [feasible_toHumans_iff] at h
  have hr := one_le_keep_div hw' hw
  have hdiff : ∀ m, humanTotal i (boostSeaweed x (keep w' / keep i.wSeaweed)) m - humanTotal i x m =
      (keep w' / keep i.wSeaweed - 1) * X x i.addSeaweed .swHumans m * i.seaweedKcals := fun m => by
    show X x i.addStored .sfHumans m + X x i.addOutdoor .cropHumans m
      + X (boostSeaweed x _) i.addSeaweed .swHumans m * _ + _ + X x i.addMeat .meatEaten m
      + X x i.addCs .csHumans m + X x i.addScp .scpHumans m + _ + _ - _ = _
    rw [X_mul (x := x) (k := .swHumans) rfl]
    unfold humanTotal
    ring
  obtain ⟨n, g, o⟩ := of_humanTotal_le h (y := boostSeaweed x (keep w' / keep i.wSeaweed))
    (fun k m => by
      cases k
      case swHumans => exact ⟨le_mul_of_one_le_left (h.nonneg _) hr, nofun⟩
      all_goals exact ⟨le_rfl, fun _ => rfl⟩)
    rfl rfl
    (fun m => sub_nonneg.mp (by
      rw [hdiff]
      exact mul_nonneg (mul_nonneg (sub_nonneg.mpr hr) (X_nonneg h.nonneg _ _ _)) hkc))
    (fun m hm hon => by
      -- `hcaps` spells out the new percent fed; the feed and biofuel rows are those of `x`
      obtain ⟨c1, c2⟩ := hcaps hon m hm
      refine ⟨⟨c1, ?_⟩, ((h.general m hm).intakeSeaweed hon).2⟩
      show _ ≤ _ * ((_ + (_ - _) / _ * 100.0) * _ / _)
      rw [hdiff, X_on hon, sci_100]
      rw [sci_100] at c2
      exact c2)
    hlim hb
  refine ⟨_, feasible_toHumans_iff.mpr ⟨n, ?_, h.crops, h.stored, h.meat, h.scp, h.cs, g, o⟩, le_rfl⟩
  intro hon m hm
  obtain ⟨hbd, hl⟩ := h.seaweed hon m hm
  refine ⟨hbd, ?_⟩
  simp only [refed, boostSeaweed, seaweedLedger, grossUp_rescale hw' hw]
  split_ifs at hl ⊢
  · exact ⟨hl.1, hl.2.1, by rw [hl.2.2.1, mul_zero], hl.2.2.2⟩
  · exact hl

/-- 1 t of seaweed on 1 km² at the density ceiling, doubling in month 1, half of the harvest wasted
    at retail; people may eat at most 0.5 (100 % of a need of 0.5) -/
def swCapInst : Inp ℚ :=
  { emptyInst with nmonths := 2, addSeaweed := true, pop := 1, kcalsMonthly := 500000000,
                   seaweedKcals := 1, initialSeaweed := 1, maxDensity := 1, initialBuiltArea := 1,
                   builtArea := [1, 1], growth := [0, 100], limSwH := 100, wSeaweed := 50 }

theorem mono_wasteSeaweed_counterexample :
    ∃ (i : Inp ℚ) (w' : ℚ) (x : Var → ℚ), 0 ≤ w' ∧ w' ≤ i.wSeaweed ∧ i.wSeaweed < 100 ∧
      0 < i.billionKcalsNeeded ∧ (0 ≤ i.limSwH ∧ 0 ≤ i.limScpH ∧ 0 ≤ i.limCsH) ∧
      0 ≤ i.seaweedKcals ∧ Feasible (buildLP i .toHumans) x ∧
      ¬ ∃ x', Feasible (buildLP { i with wSeaweed := w' } .toHumans) x' := by
  -- the point: harvest 1 t in month 1; after waste people eat 0.5
  refine ⟨swCapInst, 0, tablePoint [(.swWet, [1, 1]), (.usedArea, [1, 1]), (.swHumans, [0, 1 / 2]),
    (.consumedKcals, [0, 1 / 2])] 0, le_rfl, by decide +kernel, by decide +kernel, by decide +kernel,
    ⟨by decide +kernel, by decide +kernel, by decide +kernel⟩, by decide +kernel,
    feasible_tablePoint _ _ _ (by decide +kernel) (by decide +kernel) le_rfl, ?_⟩
  rintro ⟨x, hx⟩
  have hs := feasible_toHumans_iff.mp hx
  have s1 := hs.seaweed rfl 1 (by decide)
  have s0 := hs.seaweed rfl 0 (by decide)
  have hle := s1.1.2.1
  have hl := s1.2
  have hl0 := s0.2
  rw [if_neg (by decide)] at hl
  rw [if_pos rfl] at hl0
  have w0 : x (.mv .swWet 0) = 1 := hl0.1
  obtain ⟨-, -, hint, -, -⟩ := hs.general 1 (by decide)
  obtain ⟨⟨c1, -⟩, sF, sB⟩ := hint rfl
  have nF := hs.nonneg (.mv .swFeed 1)
  have nB := hs.nonneg (.mv .swBiofuel 1)
  unfold seaweedLedger grossUp at hl
  -- with no waste the rows of month 1 read `wet₁ = 2 − h − f − b` and `wet₁ ≤ 1` (ledger, density
  -- ceiling), so `h + f + b ≥ 1`, against `f, b ≤ 0` (no charge) and `h ≤ 1/2` (intake cap)
  norm_num [swCapInst, emptyInst, at', w0] at hl hle c1 sF sB
  linarith

end Allfed.Proofs.Perturb
