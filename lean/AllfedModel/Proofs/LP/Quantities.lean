import AllfedModel.Model.PhysSpec
import AllfedModel.Proofs.Basic
import Mathlib.Tactic.Linarith
import Mathlib.Tactic.FieldSimp
/-!
The supply-side quantities of `Model/PhysSpec.lean` over a linearly ordered field: running totals
`cum`, stock ledgers in closed form, the gross-up for retail waste, variables of switched-off
resources.
-/
set_option linter.unusedSectionVars false

namespace Allfed.Proofs.Perturb

variable {K : Type} [Field K] [LinearOrder K] [IsStrictOrderedRing K]

/-- the share a waste percentage `w` leaves, under the name the statements of `Proofs/Perturb.lean` use -/
def keep (w : K) : K := 1 - w / 100

end Allfed.Proofs.Perturb

namespace Allfed.Proofs.LP
open Allfed.LP Allfed.AllocLP Allfed.PhysSpec Allfed.Proofs.Perturb

variable {K : Type} [Field K] [LinearOrder K] [IsStrictOrderedRing K]

theorem cum_zero (f : ℕ → K) : cum f 0 = f 0 := rfl
theorem cum_succ (f : ℕ → K) (m : ℕ) : cum f (m + 1) = cum f m + f (m + 1) := rfl

theorem cum_step (f : ℕ → K) (m : ℕ) (hm0 : m ≠ 0) : cum f m = cum f (m - 1) + f m := by
  obtain ⟨n, rfl⟩ : ∃ n, m = n + 1 := ⟨m - 1, by omega⟩
  rfl

theorem cum_congr (f g : ℕ → K) (m : ℕ) (h : ∀ k, k ≤ m → f k = g k) : cum f m = cum g m := by
  induction m with
  | zero => exact h 0 le_rfl
  | succ m ih =>
    rw [cum_succ, cum_succ, ih (fun k hk => h k (by omega)), h (m + 1) le_rfl]

theorem cum_le_cum (f g : ℕ → K) (m : ℕ) (h : ∀ k, k ≤ m → f k ≤ g k) : cum f m ≤ cum g m := by
  induction m with
  | zero => exact h 0 le_rfl
  | succ m ih =>
    exact add_le_add (ih (fun k hk => h k (by omega))) (h (m + 1) le_rfl)

theorem cum_nonneg (f : ℕ → K) (m : ℕ) (h : ∀ k, k ≤ m → 0 ≤ f k) : 0 ≤ cum f m := by
  induction m with
  | zero => exact h 0 le_rfl
  | succ m ih =>
    exact add_nonneg (ih (fun k hk => h k (by omega))) (h (m + 1) le_rfl)

theorem cum_mono (f : ℕ → K) (n m : ℕ) (hnm : n ≤ m) (h : ∀ k, n < k → k ≤ m → 0 ≤ f k) :
    cum f n ≤ cum f m := by
  induction m, hnm using Nat.le_induction with
  | base => exact le_rfl
  | succ m hnm ih =>
    have h1 := ih (fun k hk hk' => h k hk (by omega))
    have h2 := h (m + 1) (by omega) le_rfl
    rw [cum_succ]; linarith

theorem cum_eq_of_zero (f : ℕ → K) (n m : ℕ) (hnm : n ≤ m) (h : ∀ k, n < k → k ≤ m → f k = 0) :
    cum f m = cum f n := by
  induction m, hnm using Nat.le_induction with
  | base => rfl
  | succ m hnm ih =>
    rw [cum_succ, ih (fun k hk hk' => h k hk (by omega)), h (m + 1) (by omega) le_rfl, add_zero]

theorem cum_le_of_zero_after {f : ℕ → K} {b : K} {n N : ℕ}
    (hle : ∀ m, m < N → m ≤ n → cum f m ≤ b) (hz : ∀ k, n < k → k < N → f k = 0)
    (m : ℕ) (hm : m < N) : cum f m ≤ b := by
  rcases le_or_gt m n with h | h
  · exact hle m hm h
  · rw [cum_eq_of_zero f n m h.le (fun k hk hk' => hz k hk (by omega))]
    exact hle n (by omega) le_rfl

theorem single_le_cum (f : ℕ → K) (m : ℕ) (h : ∀ k, k ≤ m → 0 ≤ f k) : f m ≤ cum f m := by
  cases m with
  | zero => exact le_rfl
  | succ m => exact le_add_of_nonneg_left (cum_nonneg f m (fun k hk => h k (by omega)))

theorem ledger_telescope (S E U : ℕ → K) (S0 : K) (n : ℕ) (h0 : S 0 = S0)
    (hs : ∀ m, m ≠ 0 → m ≤ n → S m = E (m - 1)) (he : ∀ m, m ≤ n → E m = S m - U m) :
    ∀ m, m ≤ n → E m = S0 - cum U m := by
  intro m
  induction m with
  | zero => intro _; rw [he 0 (Nat.zero_le _), h0, cum_zero]
  | succ m ih =>
    intro hm
    rw [he _ hm, hs (m + 1) (by omega) hm, Nat.add_sub_cancel, ih (by omega), cum_succ]
    ring

theorem inflow_telescope (St P C : ℕ → K) (n : ℕ) (h0 : St 0 = P 0 - C 0)
    (hs : ∀ m, m ≠ 0 → m ≤ n → St m = P m + St (m - 1) - C m) :
    ∀ m, m ≤ n → St m = cum P m - cum C m := by
  intro m
  induction m with
  | zero => intro _; rw [h0, cum_zero, cum_zero]
  | succ m ih =>
    intro hm
    rw [hs (m + 1) (by omega) hm, Nat.add_sub_cancel, ih (by omega), cum_succ, cum_succ]
    ring

/-- the closed form of `ledger_telescope` satisfies the ledger -/
theorem ledger_closed (U : ℕ → K) (S0 : K) (m : ℕ) :
    S0 - cum U m = (if m = 0 then S0 else S0 - cum U (m - 1)) - U m := by
  split_ifs with h
  · subst h; rfl
  · rw [cum_step U m h]; ring

theorem inflow_closed (P C : ℕ → K) (m : ℕ) :
    cum P m - cum C m =
      if m = 0 then P 0 - C 0 else P m + (cum P (m - 1) - cum C (m - 1)) - C m := by
  split_ifs with h
  · subst h; rfl
  · rw [cum_step P m h, cum_step C m h]; ring

theorem keep_pos {w : K} (hw : w < 100) : 0 < keep w := by
  unfold keep
  have : w / 100 < 1 := by rw [div_lt_one (by norm_num)]; exact hw
  linarith

theorem grossUp_eq (v w : K) : grossUp v w = v / keep w := by
  simp only [grossUp, keep, sci_100]

theorem grossUp_zero (w : K) : grossUp (0 : K) w = 0 := by simp only [grossUp, zero_div]

theorem grossUp_mul (k v w : K) : grossUp (k * v) w = k * grossUp v w := by
  unfold grossUp; exact mul_div_assoc k v _

theorem grossUp_mono {w u v : K} (hw : w < 100) (h : u ≤ v) : grossUp u w ≤ grossUp v w := by
  rw [grossUp_eq, grossUp_eq]
  exact div_le_div_of_nonneg_right h (keep_pos hw).le

theorem grossUp_nonneg {v w : K} (hw : w < 100) (hv : 0 ≤ v) : 0 ≤ grossUp v w := by
  rw [grossUp_eq]; exact div_nonneg hv (keep_pos hw).le

theorem le_grossUp {v w : K} (hw0 : 0 ≤ w) (hw : w < 100) (hv : 0 ≤ v) : v ≤ grossUp v w := by
  rw [grossUp_eq, le_div_iff₀ (keep_pos hw)]
  unfold keep
  have : 0 ≤ v * (w / 100) := mul_nonneg hv (div_nonneg hw0 (by norm_num))
  linarith

/-- eating `e·(1 − w/100)` more draws `e` more from the stock -/
theorem grossUp_add_keep {w : K} (hw : w < 100) (v e : K) :
    grossUp (v + e * keep w) w = grossUp v w + e := by
  have hk := (keep_pos hw).ne'
  rw [grossUp_eq, grossUp_eq]
  field_simp

theorem grossUp_mul_keep {w : K} (hw : w < 100) (e : K) : grossUp (e * keep w) w = e := by
  have := grossUp_add_keep hw 0 e
  rwa [zero_add, grossUp_zero, zero_add] at this

section Use
variable {i : Inp K} {x : Var → K}

theorem storedUse_nonneg (hx : ∀ v, 0 ≤ x v) (hw : i.wStored < 100) (k : Nat) :
    0 ≤ storedUse i x k :=
  add_nonneg (add_nonneg (grossUp_nonneg hw (hx _)) (hx _)) (hx _)

theorem cropUse_nonneg (hx : ∀ v, 0 ≤ x v) (hw : i.wCrop < 100) (k : Nat) : 0 ≤ cropUse i x k :=
  add_nonneg (add_nonneg (grossUp_nonneg hw (hx _)) (hx _)) (hx _)

theorem meatUse_nonneg (hx : ∀ v, 0 ≤ x v) (hw : i.wMeat < 100) (k : Nat) : 0 ≤ meatUse i x k :=
  grossUp_nonneg hw (hx _)

end Use

theorem X_on {x : Var → K} {on : Bool} (hon : on = true) (k : VK) (m : Nat) :
    X x on k m = x (.mv k m) := by
  unfold X; rw [if_pos hon]

theorem X_nonneg {x : Var → K} (hx : ∀ v, 0 ≤ x v) (on : Bool) (k : VK) (m : Nat) :
    0 ≤ X x on k m := by
  unfold X; split_ifs
  · exact hx _
  · exact le_rfl

theorem feed_biofuel_nonneg (i : Inp K) {x : Var → K} (hx : ∀ v, 0 ≤ x v) (hk : 0 ≤ i.seaweedKcals)
    (m : Nat) : 0 ≤ feedTotal i x m ∧ 0 ≤ biofuelTotal i x m := by
  have h := X_nonneg hx
  constructor <;> exact add_nonneg (add_nonneg (add_nonneg (add_nonneg (h _ _ _) (h _ _ _))
    (mul_nonneg (h _ _ _) hk)) (h _ _ _)) (h _ _ _)

theorem at'_map_mul (k : K) (l : List K) (m : Nat) : at' (l.map (k * ·)) m = k * at' l m := by
  have := List.getD_map (f := (k * ·)) (l := l) (n := m) (d := (0 : K))
  rwa [mul_zero] at this

end Allfed.Proofs.LP
