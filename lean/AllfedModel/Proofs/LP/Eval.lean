import AllfedModel.Proofs.LP.Quantities
/-!
Syntactic linear programmes (`Model/LP.lean`) over a linearly ordered field: `Aff.eval` is a
homomorphism, a row holds iff its (in)equation holds, feasibility of a programme with extra rows,
and — over ℚ — feasibility of a concrete point by evaluation.
-/
namespace Allfed.Proofs.LP
open Allfed.LP Allfed.AllocLP Allfed.PhysSpec

set_option linter.unusedSectionVars false

variable {K : Type} [Field K] [LinearOrder K] [IsStrictOrderedRing K]

section Eval
variable (x : Var → K)

theorem sumTerms_nil : Aff.sumTerms x ([] : List (Var × K)) = 0 := rfl

theorem sumTerms_cons (v : Var) (c : K) (t : List (Var × K)) :
    Aff.sumTerms x ((v, c) :: t) = c * x v + Aff.sumTerms x t := rfl

theorem sumTerms_append (a b : List (Var × K)) :
    Aff.sumTerms x (a ++ b) = Aff.sumTerms x a + Aff.sumTerms x b := by
  induction a with
  | nil => simp only [List.nil_append, sumTerms_nil, zero_add]
  | cons p t ih =>
    obtain ⟨v, c⟩ := p
    simp only [List.cons_append, sumTerms_cons, ih, add_assoc]

/-- every coefficient map of `Aff` (`smul`, `mulr`, `divr`, `neg`) multiplies by a constant -/
theorem sumTerms_map (g : K → K) (s : K) (hg : ∀ c, g c = s * c) (l : List (Var × K)) :
    Aff.sumTerms x (l.map fun p => (p.1, g p.2)) = s * Aff.sumTerms x l := by
  induction l with
  | nil => simp only [List.map_nil, sumTerms_nil, mul_zero]
  | cons p t ih =>
    obtain ⟨v, c⟩ := p
    show Aff.sumTerms x ((v, g c) :: _) = _
    rw [sumTerms_cons, sumTerms_cons, ih, hg]; ring

theorem eval_def (a : Aff K) : Aff.eval x a = Aff.sumTerms x a.terms + a.const := rfl

theorem eval_var (v : Var) : Aff.eval x (Aff.var v : Aff K) = x v := by
  simp only [eval_def, Aff.var, sumTerms_cons, sumTerms_nil, one_mul, add_zero]

theorem eval_mv (k : VK) (m : Nat) : Aff.eval x (mv k m : Aff K) = x (.mv k m) := eval_var x _

theorem eval_k (c : K) : Aff.eval x (Aff.k c) = c := by
  simp only [eval_def, Aff.k, sumTerms_nil, zero_add]

theorem eval_add (a b : Aff K) : Aff.eval x (a + b) = Aff.eval x a + Aff.eval x b := by
  show Aff.eval x (Aff.add a b) = _
  simp only [eval_def, Aff.add, sumTerms_append]; ring

theorem eval_smul (s : K) (a : Aff K) : Aff.eval x (Aff.smul s a) = s * Aff.eval x a := by
  simp only [eval_def, Aff.smul, sumTerms_map x (s * ·) s (fun _ => rfl)]; ring

theorem eval_mulr (a : Aff K) (s : K) : Aff.eval x (Aff.mulr a s) = Aff.eval x a * s := by
  simp only [eval_def, Aff.mulr, sumTerms_map x (· * s) s (fun _ => mul_comm _ _)]; ring

theorem eval_divr (a : Aff K) (s : K) : Aff.eval x (Aff.divr a s) = Aff.eval x a / s := by
  simp only [eval_def, Aff.divr, sumTerms_map x (· / s) s⁻¹ (fun _ => by ring)]; ring

theorem eval_neg (a : Aff K) : Aff.eval x (-a) = -Aff.eval x a := by
  show Aff.eval x (Aff.neg a) = _
  simp only [eval_def, Aff.neg, sumTerms_map x (-·) (-1) (fun _ => by ring)]; ring

theorem eval_sub (a b : Aff K) : Aff.eval x (a - b) = Aff.eval x a - Aff.eval x b := by
  show Aff.eval x (a + -b) = _
  rw [eval_add, eval_neg]; ring

/-- no hypothesis on the waste percentage: in a field `(c·1)/d·x = (c·x)/d` also for `d = 0` -/
theorem eval_gross (a : Aff K) (w : K) : Aff.eval x (gross a w) = grossUp (Aff.eval x a) w := by
  simp only [gross, grossUp, eval_divr, eval_mulr, mul_one]

theorem eval_varIf (b : Bool) (v : Var) :
    Aff.eval x (Aff.varIf b v : Aff K) = if b then x v else 0 := by
  cases b
  · simp only [Aff.varIf, Bool.false_eq_true, if_false, eval_k]
  · simp only [Aff.varIf, if_true, eval_var]

theorem holds_le (n : String) (l r : Aff K) :
    Row.holds x ⟨n, l, .le, r⟩ ↔ Aff.eval x l ≤ Aff.eval x r := Iff.rfl
theorem holds_eq (n : String) (l r : Aff K) :
    Row.holds x ⟨n, l, .eq, r⟩ ↔ Aff.eval x l = Aff.eval x r := Iff.rfl
theorem holds_ge (n : String) (l r : Aff K) :
    Row.holds x ⟨n, l, .ge, r⟩ ↔ Aff.eval x r ≤ Aff.eval x l := Iff.rfl
theorem holds_row_le (nm : String) (m : Nat) (l r : Aff K) :
    (row nm m l .le r).holds x ↔ Aff.eval x l ≤ Aff.eval x r := Iff.rfl
theorem holds_row_eq (nm : String) (m : Nat) (l r : Aff K) :
    (row nm m l .eq r).holds x ↔ Aff.eval x l = Aff.eval x r := Iff.rfl
theorem holds_row_ge (nm : String) (m : Nat) (l r : Aff K) :
    (row nm m l .ge r).holds x ↔ Aff.eval x r ≤ Aff.eval x l := Iff.rfl

end Eval

/-- turn `∀ r ∈ <explicit list of rows>, r.holds x` into the conjunction of what the rows say -/
macro "lp_rows" : tactic => `(tactic|
  simp only [List.forall_mem_append, List.forall_mem_cons, List.not_mem_nil, false_imp_iff,
    implies_true, and_true, holds_row_le, holds_row_eq, holds_row_ge, eval_mv, eval_k, eval_add,
    eval_sub, eval_smul, eval_mulr, eval_divr, eval_gross])

theorem extra_rows_preserve (rows extra : List (Row K)) (x : Var → K)
    (h : Feasible (rows ++ extra) x) : Feasible rows x :=
  ⟨fun r hr => h.1 r (List.mem_append_left _ hr), h.2⟩

theorem rowExcess_iff (x : Var → K) (r : Row K) :
    r.holds x ↔ ∀ e ∈ rowExcess x r, e.value ≤ 0 := by
  obtain ⟨n, l, rel, rh⟩ := r
  cases rel <;> simp only [holds_le, holds_eq, holds_ge, rowExcess, List.forall_mem_cons,
    List.not_mem_nil, false_imp_iff, implies_true, and_true, sub_nonpos, le_antisymm_iff]

/-! The rows of a concrete instance over ℚ are checked by evaluation (`decide +kernel` on a Boolean
version of `Row.holds`). -/

def holdsB (x : Var → ℚ) (r : Row ℚ) : Bool :=
  match r.rel with
  | .le => decide (Aff.eval x r.lhs ≤ Aff.eval x r.rhs)
  | .eq => decide (Aff.eval x r.lhs = Aff.eval x r.rhs)
  | .ge => decide (Aff.eval x r.rhs ≤ Aff.eval x r.lhs)

theorem holdsB_iff (x : Var → ℚ) (r : Row ℚ) : holdsB x r = true ↔ r.holds x := by
  obtain ⟨n, l, rel, rh⟩ := r
  cases rel <;> exact decide_eq_true_iff

theorem rows_hold_of_all (x : Var → ℚ) (rows : List (Row ℚ)) (h : rows.all (holdsB x) = true) :
    ∀ r ∈ rows, r.holds x :=
  fun r hr => (holdsB_iff x r).mp (List.all_eq_true.mp h r hr)

def tablePoint (t : List (VK × List ℚ)) (z : ℚ) : Var → ℚ
  | .mv k m => ((t.lookup k).getD []).getD m 0
  | .objective => z
  | .objectiveBest => 0

theorem tablePoint_nonneg (t : List (VK × List ℚ)) (z : ℚ) (ht : ∀ p ∈ t, ∀ a ∈ p.2, 0 ≤ a)
    (hz : 0 ≤ z) : ∀ v, 0 ≤ tablePoint t z v := by
  intro v
  cases v with
  | mv k m =>
    refine getD_nonneg _ ?_ m
    cases hl : t.lookup k with
    | none => exact fun a ha => absurd ha List.not_mem_nil
    | some l =>
      obtain ⟨t₁, t₂, rfl, -⟩ := List.lookup_eq_some_iff.mp hl
      exact ht (k, l) (List.mem_append_right _ List.mem_cons_self)
  | objective => exact hz
  | objectiveBest => exact le_rfl

theorem feasible_tablePoint (rows : List (Row ℚ)) (t : List (VK × List ℚ)) (z : ℚ)
    (hr : rows.all (holdsB (tablePoint t z)) = true) (ht : ∀ p ∈ t, ∀ a ∈ p.2, 0 ≤ a)
    (hz : 0 ≤ z) : Feasible rows (tablePoint t z) :=
  ⟨rows_hold_of_all _ _ hr, tablePoint_nonneg t z ht hz⟩

end Allfed.Proofs.LP
