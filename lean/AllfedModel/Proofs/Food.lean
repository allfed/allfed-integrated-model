import AllfedModel.Model.Food
import Mathlib.Algebra.Order.Field.Basic
import Mathlib.Algebra.Order.Field.Rat
/-!
Proofs for property C11 (unit labels of food quantities).  The label part is list reasoning over the
suffixes (no characters); numbers matter only for the comparison predicates (any linearly ordered field).
Every operation of `Model/Food.lean` is a cascade of `guard'`s and `if`s ending in a builder, so a statement
about what it returns is a term of the same shape: `Res.guard` (which hands on the condition that held) and
`Res.ite` walk down the cascade, and a lemma about the builder closes it.
-/
set_option linter.unusedSectionVars false

namespace Allfed.Proofs.FoodP
open Allfed.Food

theorem guard'_ok {β : Type} (c : Bool) (e : Err) (k : Except Err β) (v : β) :
    guard' c e k = .ok v ↔ c = true ∧ k = .ok v := by
  unfold guard'
  cases c <;> simp

theorem guard'_false {β : Type} (c : Bool) (e : Err) (k : Except Err β) (h : c = false) :
    guard' c e k = .error e := by
  subst h; rfl

theorem guard'_true {β : Type} (c : Bool) (e : Err) (k : Except Err β) (h : c = true) :
    guard' c e k = k := by
  subst h; rfl

theorem guard'_err {β : Type} (c : Bool) (e e' : Err) (k : Except Err β) (h : guard' c e k = .error e') :
    (c = false ∧ e' = e) ∨ (c = true ∧ k = .error e') := by
  unfold guard' at h
  cases c <;> simp_all

/-- every value `r` can return satisfies `P` -/
def Res {β : Type} (P : β → Prop) (r : Except Err β) : Prop := ∀ v, r = .ok v → P v

theorem Res.ok {β : Type} {P : β → Prop} {v : β} (h : P v) : Res P (.ok v) :=
  fun w hw => by cases hw; exact h

theorem Res.error {β : Type} {P : β → Prop} {e : Err} : Res P (.error e : Except Err β) :=
  fun _ h => nomatch h

theorem Res.guard {β : Type} {P : β → Prop} {c : Bool} {e : Err} {k : Except Err β}
    (h : c = true → Res P k) : Res P (guard' c e k) :=
  fun v hv => h ((guard'_ok ..).1 hv).1 v ((guard'_ok ..).1 hv).2

theorem Res.ite {β : Type} {P : β → Prop} {c : Prop} [Decidable c] {x y : Except Err β}
    (hx : Res P x) (hy : Res P y) : Res P (if c then x else y) := by
  split
  · exact hx
  · exact hy

theorem seriesOK_iff (l : Label) :
    l.seriesOK = true ↔ ∃ pre, l.sfx = pre ++ [Suffix.each] ∧ Suffix.each ∉ pre := by
  unfold Label.seriesOK
  constructor
  · intro h
    split at h
    · rename_i rest hr
      exact ⟨rest.reverse, List.reverse_eq_cons_iff.1 hr, by simpa using h⟩
    · cases h
  · rintro ⟨pre, h1, h2⟩
    simp [h1, h2]

theorem scalarOK_iff (l : Label) : l.scalarOK = true ↔ Suffix.each ∉ l.sfx := by
  simp [Label.scalarOK, Label.hasEach]

theorem hasEach_of_seriesOK (l : Label) (h : l.seriesOK = true) : l.hasEach = true := by
  obtain ⟨pre, h1, _⟩ := (seriesOK_iff l).1 h
  simp [Label.hasEach, h1]

theorem fixEach_of_seriesOK (l : Label) (h : l.seriesOK = true) : l.fixEach = l := by
  simp [Label.fixEach, hasEach_of_seriesOK l h]

theorem takeWhile_ne_each (pre : List Suffix) (h : Suffix.each ∉ pre) (t : List Suffix) :
    (pre ++ Suffix.each :: t).takeWhile (fun s => s != Suffix.each) = pre := by
  induction pre with
  | nil => simp
  | cons x xs ih =>
    rw [List.mem_cons, not_or] at h
    simp [Ne.symm h.1, ih h.2]

theorem map_toPer (pre : List Suffix) (h : Suffix.each ∉ pre) : pre.map Suffix.toPer = pre :=
  (List.map_congr_left fun x hx => by cases x <;> simp_all [Suffix.toPer]).trans (List.map_id pre)

theorem each_not_mem_map_toPer (l : List Suffix) : Suffix.each ∉ l.map Suffix.toPer := by
  induction l with
  | nil => simp
  | cons x xs ih => cases x <;> simp_all [Suffix.toPer]

theorem toTotal_of_seriesOK (l : Label) (h : l.seriesOK = true) :
    l.toTotal = ⟨l.base, l.sfx.dropLast⟩ ∧ Suffix.each ∉ l.sfx.dropLast := by
  obtain ⟨pre, h1, h2⟩ := (seriesOK_iff l).1 h
  simp [Label.toTotal, h1, takeWhile_ne_each pre h2 [], h2]

theorem toElement_of_seriesOK (l : Label) (h : l.seriesOK = true) :
    l.toElement = ⟨l.base, l.sfx.dropLast ++ [Suffix.per]⟩ ∧ Suffix.each ∉ l.sfx.dropLast := by
  obtain ⟨pre, h1, h2⟩ := (seriesOK_iff l).1 h
  simp [Label.toElement, h1, map_toPer pre h2, h2, Suffix.toPer]

theorem scalarOK_toTotal (l : Label) (h : l.seriesOK = true) : l.toTotal.scalarOK = true := by
  have := toTotal_of_seriesOK l h
  rw [scalarOK_iff, this.1]; exact this.2

theorem scalarOK_toElement (l : Label) (h : l.seriesOK = true) : l.toElement.scalarOK = true := by
  have := toElement_of_seriesOK l h
  rw [scalarOK_iff, this.1]
  simp [this.2]

theorem seriesOK_addEach (l : Label) (h : l.scalarOK = true) : l.addEach.seriesOK = true :=
  (seriesOK_iff _).2 ⟨l.sfx, rfl, (scalarOK_iff l).1 h⟩

theorem scalarOK_addPer (l : Label) (h : l.scalarOK = true) : l.addPer.scalarOK = true := by
  rw [scalarOK_iff] at *
  simp [Label.addPer, h]

theorem labelsFor_true_iff (ku fu pu : Label) :
    labelsFor true ku fu pu = true ↔
      ku.seriesOK = true ∧ fu.seriesOK = true ∧ pu.seriesOK = true ∧ ku.sfx = fu.sfx ∧ fu.sfx = pu.sfx := by
  simp [labelsFor, and_assoc]

theorem labelsFor_false_iff (ku fu pu : Label) :
    labelsFor false ku fu pu = true ↔
      ku.scalarOK = true ∧ fu.scalarOK = true ∧ pu.scalarOK = true ∧ ku.sfx = fu.sfx ∧ fu.sfx = pu.sfx := by
  simp [labelsFor, and_assoc]

theorem labelsFor_toTotal {ku fu pu : Label} (h : labelsFor true ku fu pu = true) :
    labelsFor false ku.toTotal fu.toTotal pu.toTotal = true := by
  rw [labelsFor_true_iff] at h
  exact (labelsFor_false_iff ..).2 ⟨scalarOK_toTotal _ h.1, scalarOK_toTotal _ h.2.1, scalarOK_toTotal _ h.2.2.1,
    congrArg (List.takeWhile _) h.2.2.2.1, congrArg (List.takeWhile _) h.2.2.2.2⟩

theorem labelsFor_toElement {ku fu pu : Label} (h : labelsFor true ku fu pu = true) :
    labelsFor false ku.toElement fu.toElement pu.toElement = true := by
  rw [labelsFor_true_iff] at h
  exact (labelsFor_false_iff ..).2 ⟨scalarOK_toElement _ h.1, scalarOK_toElement _ h.2.1, scalarOK_toElement _ h.2.2.1,
    congrArg (List.map _) h.2.2.2.1, congrArg (List.map _) h.2.2.2.2⟩

theorem labelsFor_addEach {ku fu pu : Label} (h : labelsFor false ku fu pu = true) :
    labelsFor true ku.addEach fu.addEach pu.addEach = true := by
  rw [labelsFor_false_iff] at h
  exact (labelsFor_true_iff ..).2 ⟨seriesOK_addEach _ h.1, seriesOK_addEach _ h.2.1, seriesOK_addEach _ h.2.2.1,
    congrArg (· ++ [Suffix.each]) h.2.2.2.1, congrArg (· ++ [Suffix.each]) h.2.2.2.2⟩

theorem labelsFor_fixEach {ku fu pu : Label} (h : labelsFor true ku fu pu = true) :
    ku.fixEach = ku ∧ fu.fixEach = fu ∧ pu.fixEach = pu := by
  rw [labelsFor_true_iff] at h
  exact ⟨fixEach_of_seriesOK _ h.1, fixEach_of_seriesOK _ h.2.1, fixEach_of_seriesOK _ h.2.2.1⟩

section
variable {α : Type} [Add α] [Sub α] [Mul α] [Div α] [Neg α] [LE α] [LT α]
  [DecidableLE α] [DecidableLT α] [OfNat α 0] [OfNat α 1] [OfScientific α]

/-- "the unit labels describe the numbers" -/
structure LabelOK (v : FoodVal α) : Prop where
  units : v.units = [v.ku, v.fu, v.pu]
  shape : shapeOK v = true
  labels : labelsFor v.series v.ku v.fu v.pu = true

theorem labelOK_iff (v : FoodVal α) : labelOK v = true ↔ LabelOK v := by
  simp only [labelOK, Bool.and_eq_true, beq_iff_eq]
  exact ⟨fun h => ⟨h.1.1, h.1.2, h.2⟩, fun h => ⟨⟨h.units, h.shape⟩, h.labels⟩⟩

theorem unitsAgree_iff (v : FoodVal α) : unitsAgree v = true ↔ v.units = [v.ku, v.fu, v.pu] := by
  simp [unitsAgree]

/-- every register is correctly labelled -/
def AllOK (s : State α) : Prop := ∀ v ∈ s, LabelOK v
/-- in every register the list `units` is the three labels -/
def AllAgree (s : State α) : Prop := ∀ v ∈ s, v.units = [v.ku, v.fu, v.pu]

theorem LabelOK.labels_of {v : FoodVal α} {ser : Bool} (h : LabelOK v) (hs : v.series = ser) :
    labelsFor ser v.ku v.fu v.pu = true := hs ▸ h.labels

theorem LabelOK.allEach {v : FoodVal α} (h : LabelOK v) (hs : v.series = true) : v.allEach = true := by
  have := (labelsFor_true_iff _ _ _).1 (h.labels_of hs)
  simp [FoodVal.allEach, hasEach_of_seriesOK _ this.1, hasEach_of_seriesOK _ this.2.1, hasEach_of_seriesOK _ this.2.2.1]

theorem LabelOK.noEach {v : FoodVal α} (h : LabelOK v) (hs : v.series = false) : v.noEach = true := by
  have := (labelsFor_false_iff _ _ _).1 (h.labels_of hs)
  simp only [Label.scalarOK] at this
  simp [FoodVal.noEach, this.1, this.2.1, this.2.2.1]

theorem LabelOK.lengths {v : FoodVal α} (h : LabelOK v) (hs : v.series = true) :
    0 < v.kcals.length ∧ v.fat.length = v.kcals.length ∧ v.protein.length = v.kcals.length := by
  have := h.shape
  simp only [shapeOK, hs, if_true, Bool.and_eq_true, decide_eq_true_eq, beq_iff_eq] at this
  exact ⟨this.1.1, this.1.2, this.2⟩

theorem LabelOK.validate {v : FoodVal α} (h : LabelOK v) : validate v = true := by
  unfold Food.validate
  cases hs : v.series
  · simp
  · have hl := h.lengths hs
    simp [h.allEach hs, hl.1, hl.2.1, hl.2.2]

theorem LabelOK.series_eq_hasEach {v : FoodVal α} (h : LabelOK v) : v.series = v.ku.hasEach := by
  cases hs : v.series
  · have := h.noEach hs
    simp only [FoodVal.noEach, Bool.and_eq_true, Bool.not_eq_true'] at this
    exact this.1.1.symm
  · have := h.allEach hs
    simp only [FoodVal.allEach, Bool.and_eq_true] at this
    exact this.1.1.symm

theorem series_eq_of_units_eq {a b : FoodVal α} (ha : LabelOK a) (hb : LabelOK b) (hu : a.units = b.units) :
    a.series = b.series := by
  have hk : a.ku = b.ku := by
    rw [ha.units, hb.units] at hu
    exact (List.cons.inj hu).1
  rw [ha.series_eq_hasEach, hb.series_eq_hasEach, hk]

section
variable {a b : FoodVal α} {ku fu pu : Label}

/-- `v` is correctly labelled, and `d` is its shape (`true` = series) and its three labels: the tuple `docLabels` predicts -/
def Closed (v : FoodVal α) (d : Bool × Label × Label × Label) : Prop :=
  LabelOK v ∧ d = (v.series, v.ku, v.fu, v.pu)

theorem Closed.series {v : FoodVal α} {ser : Bool} (h : Closed v (ser, ku, fu, pu)) :
    v.series = ser := (congrArg Prod.fst h.2).symm

theorem Closed.eqs {v : FoodVal α} {ser : Bool} (h : Closed v (ser, ku, fu, pu)) :
    v.ku = ku ∧ v.fu = fu ∧ v.pu = pu := by
  have := h.2
  simp only [Prod.mk.injEq] at this
  exact ⟨this.2.1.symm, this.2.2.1.symm, this.2.2.2.symm⟩

theorem buildScalar_closed (k f p : α) (h : labelsFor false ku fu pu = true) :
    Closed (buildScalar k f p ku fu pu) (false, ku, fu, pu) :=
  ⟨⟨rfl, rfl, h⟩, rfl⟩

theorem buildSeries_ok (k f p : List α) (ku fu pu : Label) (v : FoodVal α)
    (h : buildSeries k f p ku fu pu = .ok v) :
    v = { series := true, kcals := k, fat := f, protein := p, ku := ku.fixEach, fu := fu.fixEach, pu := pu.fixEach,
          units := [ku.fixEach, fu.fixEach, pu.fixEach] } ∧
    k.length = f.length ∧ f.length = p.length ∧ 0 < k.length := by
  unfold buildSeries at h
  simp only [guard'_ok, Bool.and_eq_true, beq_iff_eq, decide_eq_true_eq, Except.ok.injEq] at h
  exact ⟨h.2.2.symm, h.1.1, h.1.2, h.2.1⟩

/-- a series built from labels that are right once the missing `each month` is appended -/
theorem buildSeries_closed' {k f p : List α}
    (hl : labelsFor true ku.fixEach fu.fixEach pu.fixEach = true) :
    Res (Closed · (true, ku.fixEach, fu.fixEach, pu.fixEach)) (buildSeries k f p ku fu pu) := by
  intro v h
  obtain ⟨rfl, h1, h2, h3⟩ := buildSeries_ok k f p ku fu pu v h
  exact ⟨⟨rfl, by simp [shapeOK, h3, h1.symm, h2.symm], hl⟩, rfl⟩

theorem buildSeries_closed {k f p : List α} (hl : labelsFor true ku fu pu = true) :
    Res (Closed · (true, ku, fu, pu)) (buildSeries k f p ku fu pu) := by
  obtain ⟨e1, e2, e3⟩ := labelsFor_fixEach hl
  intro v h
  have := buildSeries_closed' (by rwa [e1, e2, e3]) v h
  rwa [e1, e2, e3] at this

theorem build_closed {ser : Bool} {k f p : List α} (hl : labelsFor ser ku fu pu = true) :
    Res (Closed · (ser, ku, fu, pu)) (build ser k f p ku fu pu) := by
  cases ser
  · exact Res.ok (buildScalar_closed _ _ _ hl)
  · exact buildSeries_closed hl

theorem combine_ok (f : α → α → α) (a b : FoodVal α) (ku fu pu : Label) (v : FoodVal α)
    (h : combine f a b ku fu pu = .ok v) :
    ∃ k ff p, build (a.series || b.series) k ff p ku fu pu = .ok v := by
  unfold combine at h
  split at h
  · exact ⟨_, _, _, h⟩
  · cases h

theorem combine_closed {f : α → α → α}
    (hl : labelsFor (a.series || b.series) ku fu pu = true) :
    Res (Closed · (a.series || b.series, ku, fu, pu)) (combine f a b ku fu pu) := fun v h =>
  have ⟨_, _, _, hb⟩ := combine_ok f a b ku fu pu v h
  build_closed hl v hb

theorem mapVal_closed {f : α → α} (hl : labelsFor a.series ku fu pu = true) :
    Res (Closed · (a.series, ku, fu, pu)) (mapVal f a ku fu pu) :=
  build_closed hl

theorem total_closed (x y z : α) (ha : LabelOK a) (hsa : a.series = true) :
    Res (Closed · (false, a.ku.toTotal, a.fu.toTotal, a.pu.toTotal))
      (relabelTotal (buildScalar x y z a.ku a.fu a.pu)) :=
  .guard fun _ => .ok (buildScalar_closed x y z (labelsFor_toTotal (ha.labels_of hsa)))

theorem pick_ok (a m : FoodVal α) (i : Int) (h : pick a i = .ok m) :
    ∃ x y z, m = buildScalar x y z a.ku a.fu a.pu := by
  unfold pick at h
  split at h
  · cases h
  · exact ⟨_, _, _, (Except.ok.inj h).symm⟩

theorem monthOf_closed (i : Int) (ha : LabelOK a) (hsa : a.series = true) :
    Res (Closed · (false, a.ku.toElement, a.fu.toElement, a.pu.toElement)) (monthOf a i) := by
  unfold monthOf
  split
  · exact .error
  · rename_i m hp
    obtain ⟨x, y, z, rfl⟩ := pick_ok a m i hp
    exact .guard fun _ => .ok (buildScalar_closed x y z (labelsFor_toElement (ha.labels_of hsa)))

/-- what `+`, `−` and the elementwise minimum share: operands with the same units list have the same
    shape, and the result keeps their labels -/
theorem combine_same_closed {f : α → α → α} (ha : LabelOK a) (hb : LabelOK b)
    (hu : (a.units == b.units) = true) :
    Res (Closed · (a.series, a.ku, a.fu, a.pu)) (combine f a b a.ku a.fu a.pu) := by
  have hs : (a.series || b.series) = a.series := by
    rw [← series_eq_of_units_eq ha hb (eq_of_beq hu), Bool.or_self]
  have := combine_closed (f := f) (b := b) (hs ▸ ha.labels)
  rwa [hs] at this

theorem add_closed (ha : LabelOK a) (hb : LabelOK b) :
    Res (Closed · (a.series, a.ku, a.fu, a.pu)) (add a b) :=
  .guard fun hu => combine_same_closed ha hb hu

theorem sub_closed (ha : LabelOK a) (hb : LabelOK b) :
    Res (Closed · (a.series, a.ku, a.fu, a.pu)) (sub a b) :=
  .guard fun hu => combine_same_closed ha hb hu

theorem minElem_closed (ha : LabelOK a) (hb : LabelOK b) :
    Res (Closed · (a.series, a.ku, a.fu, a.pu)) (minElem a b) :=
  .guard fun hu => .ite (combine_same_closed ha hb hu) .error

theorem div_closed (ha : LabelOK a) (hb : LabelOK b) :
    Res (Closed · (a.series, if a.series then Label.ratio.addEach else Label.ratio,
      if a.series then Label.ratio.addEach else Label.ratio, if a.series then Label.ratio.addEach else Label.ratio))
      (div a b) := by
  refine .guard fun hu => ?_
  have hs : b.series = a.series := (series_eq_of_units_eq ha hb (eq_of_beq hu)).symm
  have hc := fun ku fu pu => combine_closed (f := (· / ·)) (a := a) (b := b) (ku := ku) (fu := fu) (pu := pu)
  rw [hs, Bool.or_self] at hc
  cases hsa : a.series <;> simp only [hsa, if_true, if_false, Bool.false_eq_true] at hc ⊢
  -- `by decide`: `ratio` fits a single value, `ratio each month` a series
  · exact .guard fun _ => hc _ _ _ (by decide)
  · exact .guard fun _ => .guard fun _ => .guard fun _ => hc _ _ _ (by decide)

/-- the labels a product carries: a single ratio times a series keeps the series' labels; otherwise
    the labels of the operand that is not the ratio (`self`'s when `other` is a ratio) -/
def mulLabelsOf (a b : FoodVal α) : FoodVal α :=
  if !a.series && b.series then b else if b.isRatio then a else b

theorem mul_ok {v : FoodVal α} (h : mul a b = .ok v) :
    combine (· * ·) a b (mulLabelsOf a b).ku (mulLabelsOf a b).fu (mulLabelsOf a b).pu = .ok v ∧
      (mulLabelsOf a b).series = (a.series || b.series) := by
  unfold mul at h
  unfold mulLabelsOf
  cases hsa : a.series <;> cases hsb : b.series <;>
    simp only [hsa, hsb, guard'_ok, Bool.not_false, Bool.not_true, Bool.and_true, Bool.and_false, Bool.and_self,
      Bool.or_self, Bool.or_false, Bool.or_true, if_true, if_false, Bool.false_eq_true] at h ⊢
  · -- single × single: `mul` and `mulLabelsOf` branch alike on `b.isRatio`
    cases hr : b.isRatio <;> simp only [hr, if_true, if_false, Bool.false_eq_true] at h ⊢
    · exact ⟨h.2, hsb⟩
    · exact ⟨h.2, hsa⟩
  · -- single × series: the series' labels
    exact ⟨h.2, trivial⟩
  · -- series × single: the guard `b.isRatio` (`h.2.1`) makes `mulLabelsOf` pick `a`
    simp only [h.2.1, if_true]
    exact ⟨h.2.2, hsa⟩
  · -- series × series: as the first case, behind the two `validate` guards
    cases hr : b.isRatio <;> simp only [hr, if_true, if_false, Bool.false_eq_true] at h ⊢
    · exact ⟨h.2.2.2, hsb⟩
    · exact ⟨h.2.2.2, hsa⟩

theorem mulLabelsOf_labelOK (ha : LabelOK a) (hb : LabelOK b) : LabelOK (mulLabelsOf a b) := by
  unfold mulLabelsOf; split_ifs <;> assumption

theorem mul_closed (ha : LabelOK a) (hb : LabelOK b) :
    Res (Closed · (a.series || b.series, (mulLabelsOf a b).ku, (mulLabelsOf a b).fu, (mulLabelsOf a b).pu))
      (mul a b) := fun v h =>
  combine_closed ((mul_ok h).2 ▸ (mulLabelsOf_labelOK ha hb).labels) v (mul_ok h).1

theorem mulNum_closed (c : α) (ha : LabelOK a) :
    Res (Closed · (a.series, a.ku, a.fu, a.pu)) (mulNum a c) :=
  .guard fun _ => mapVal_closed ha.labels

theorem divNum_closed (c : α) (ha : LabelOK a) :
    Res (Closed · (a.series, a.ku, a.fu, a.pu)) (divNum a c) :=
  mapVal_closed ha.labels

theorem neg_closed (ha : LabelOK a) : Res (Closed · (a.series, a.ku, a.fu, a.pu)) (neg a) :=
  mapVal_closed ha.labels

theorem absVal_closed (ha : LabelOK a) : Res (Closed · (a.series, a.ku, a.fu, a.pu)) (absVal a) :=
  mapVal_closed ha.labels

theorem clip_closed (ha : LabelOK a) : Res (Closed · (a.series, a.ku, a.fu, a.pu)) (clip a) :=
  .guard fun _ => mapVal_closed ha.labels

theorem rounded_closed (rnd : Int → α → α) (d : Int) (ha : LabelOK a) :
    Res (Closed · (a.series, a.ku, a.fu, a.pu)) (rounded rnd a d) :=
  .guard fun _ => mapVal_closed ha.labels

theorem mulArr_closed (arr : List α) (ha : LabelOK a) :
    Res (Closed · (true, if a.series then a.ku else a.ku.addEach, if a.series then a.fu else a.fu.addEach,
      if a.series then a.pu else a.pu.addEach)) (mulArr a arr) := by
  unfold mulArr
  cases hsa : a.series <;> simp only [Bool.not_false, Bool.not_true, if_true, if_false, Bool.false_eq_true]
  · exact buildSeries_closed (labelsFor_addEach (ha.labels_of hsa))
  · exact .guard fun _ => .ite (buildSeries_closed (ha.labels_of hsa)) .error

theorem getMonth_closed (i : Int) (ha : LabelOK a) :
    Res (Closed · (false, a.ku.toElement, a.fu.toElement, a.pu.toElement)) (getMonth a i) :=
  .guard fun hs => .guard fun _ => monthOf_closed i ha hs

theorem getSlice_closed (lo hi : Int) (ha : LabelOK a) :
    Res (Closed · (true, a.ku, a.fu, a.pu)) (getSlice a lo hi) :=
  .guard fun hs => .guard fun _ => buildSeries_closed (ha.labels_of hs)

theorem sumMonths_closed (ha : LabelOK a) :
    Res (Closed · (false, a.ku.toTotal, a.fu.toTotal, a.pu.toTotal)) (sumMonths a) :=
  .guard fun hs => .guard fun _ => total_closed _ _ _ ha hs

theorem minAll_closed (ha : LabelOK a) :
    Res (Closed · (false, a.ku.toTotal, a.fu.toTotal, a.pu.toTotal)) (minAll a) :=
  .guard fun hs => total_closed _ _ _ ha hs

theorem maxAll_closed (ha : LabelOK a) :
    Res (Closed · (false, a.ku.toTotal, a.fu.toTotal, a.pu.toTotal)) (maxAll a) :=
  .guard fun hs => total_closed _ _ _ ha hs

theorem runningSum_closed (ha : LabelOK a) :
    Res (Closed · (true, a.ku, a.fu, a.pu)) (runningSum a) :=
  .guard fun hs => .guard fun _ => buildSeries_closed (ha.labels_of hs)

theorem shift_closed (m : Int) (ha : LabelOK a) :
    Res (Closed · (true, a.ku, a.fu, a.pu)) (shift a m) :=
  .guard fun hs => buildSeries_closed (ha.labels_of hs)

/-- the form (`each month` / `per month` / total) `in_units` gives to the requested unit names -/
def formOf (a : FoodVal α) (t : Label) : Label :=
  if a.ku.hasEach then t.addEach else if a.ku.hasPer then t.addPer else t

theorem labelsFor_form (a : FoodVal α) (ha : LabelOK a) (tk tf tp : Label)
    (hk : tk.sfx = []) (hf : tf.sfx = []) (hp : tp.sfx = []) :
    labelsFor a.series (formOf a tk) (formOf a tf) (formOf a tp) = true := by
  unfold formOf
  rw [← ha.series_eq_hasEach]
  cases a.series
  · -- a single value: the plain name, or `per month` appended; neither carries `each month`
    simp only [Bool.false_eq_true, if_false]
    split <;> simp [labelsFor, Label.scalarOK, Label.hasEach, Label.addPer, hk, hf, hp]
  · -- a series: `each month` appended once to a plain name
    simp [labelsFor, Label.seriesOK, Label.addEach, hk, hf, hp]

theorem inUnits_closed (c : Gen.Units.Conv α) (tk tf tp : Label) (ha : LabelOK a)
    (hk : tk.sfx = []) (hf : tf.sfx = []) (hp : tp.sfx = []) :
    Res (Closed · (a.series, formOf a tk, formOf a tf, formOf a tp)) (inUnits c a tk tf tp) := by
  intro v h
  unfold inUnits at h
  have hu0 : a.units.getD 0 default = a.ku := by rw [ha.units]; rfl
  simp only [hu0] at h
  split at h
  · exact build_closed (labelsFor_form a ha tk tf tp hk hf hp) v h
  · cases h

theorem construct_closed (args : CtorArgs α) (ku fu pu : Label) (hl : ctorLabelsOK args ku fu pu = true) :
    Res (Closed · (match args with
      | .scalar _ _ _ => (false, ku, fu, pu)
      | .series _ _ _ => (true, ku.fixEach, fu.fixEach, pu.fixEach))) (construct args ku fu pu) := by
  cases args with
  | scalar k f p => exact .ok (buildScalar_closed k f p hl)
  | series k f p => exact .guard fun _ => .guard fun _ => .guard fun _ => buildSeries_closed' hl

end

/-- every successful outcome of `r` has `units = [ku, fu, pu]` -/
def UnitsP (r : Except Err (FoodVal α)) : Prop := ∀ v, r = .ok v → v.units = [v.ku, v.fu, v.pu]

-- `UnitsP r` unfolds to `Res (fun v => v.units = [v.ku, v.fu, v.pu]) r`: the `Res` lemmas apply to it as they stand.

theorem UnitsP.error (e : Err) : UnitsP (.error e : Except Err (FoodVal α)) :=
  Res.error

theorem UnitsP.buildSeries {k f p : List α} {ku fu pu : Label} : UnitsP (buildSeries k f p ku fu pu) := by
  intro v hv
  obtain ⟨rfl, _⟩ := buildSeries_ok k f p ku fu pu v hv
  rfl

theorem UnitsP.build (ser : Bool) (k f p : List α) (ku fu pu : Label) : UnitsP (build ser k f p ku fu pu) := by
  cases ser
  · exact Res.ok rfl
  · exact .buildSeries

theorem UnitsP.combine (f : α → α → α) (a b : FoodVal α) (ku fu pu : Label) : UnitsP (combine f a b ku fu pu) :=
  fun v hv =>
  have ⟨k, ff, p, hb⟩ := combine_ok f a b ku fu pu v hv
  UnitsP.build _ k ff p ku fu pu v hb

theorem UnitsP.mapVal {f : α → α} {a : FoodVal α} {ku fu pu : Label} : UnitsP (mapVal f a ku fu pu) :=
  .build _ _ _ _ _ _ _

theorem UnitsP.relabelTotal {m : FoodVal α} : UnitsP (relabelTotal m) := Res.guard fun _ => Res.ok rfl
theorem UnitsP.relabelElement {m : FoodVal α} : UnitsP (relabelElement m) := Res.guard fun _ => Res.ok rfl
theorem UnitsP.relabelList {m : FoodVal α} : UnitsP (relabelList m) := Res.guard fun _ => Res.ok rfl

theorem UnitsP.monthOf {a : FoodVal α} {i : Int} : UnitsP (monthOf a i) := by
  unfold Food.monthOf
  split
  · exact .error _
  · exact .relabelElement

theorem UnitsP.inUnits (c : Gen.Units.Conv α) (a : FoodVal α) (tk tf tp : Label) : UnitsP (inUnits c a tk tf tp) := by
  unfold Food.inUnits
  dsimp only
  split
  · exact .build _ _ _ _ _ _ _
  · exact .error _

theorem UnitsP.construct (args : CtorArgs α) (ku fu pu : Label) : UnitsP (construct args ku fu pu) := by
  cases args with
  | scalar k f p => exact Res.ok rfl
  | series k f p => exact Res.guard fun _ => Res.guard fun _ => Res.guard fun _ => UnitsP.buildSeries

theorem reg_ok (s : State α) (i : Nat) (a : FoodVal α) : reg s i = .ok a ↔ s[i % s.length]? = some a := by
  unfold reg
  split <;> simp_all

theorem Res.bind1 {β : Type} {P : β → Prop} {s : State α} {i : Nat} {f : FoodVal α → Except Err β}
    (h : ∀ a, s[i % s.length]? = some a → Res P (f a)) : Res P (bind1 s i f) := by
  intro x hx
  unfold Food.bind1 at hx
  split at hx
  · rename_i a ha
    exact h a ((reg_ok s i a).1 ha) x hx
  · cases hx

theorem Res.bind2 {β : Type} {P : β → Prop} {s : State α} {i j : Nat} {f : FoodVal α → FoodVal α → Except Err β}
    (h : ∀ a b, s[i % s.length]? = some a → s[j % s.length]? = some b → Res P (f a b)) : Res P (bind2 s i j f) := by
  intro x hx
  unfold Food.bind2 at hx
  split at hx
  · rename_i a b ha hb
    exact h a b ((reg_ok s i a).1 ha) ((reg_ok s j b).1 hb) x hx
  all_goals cases hx

theorem valOf_ok {r : Except Err (FoodVal α)} {o : Out α} (h : valOf r = .ok o) : ∃ v, r = .ok v ∧ o = .val v := by
  unfold valOf at h; split at h <;> simp_all

theorem inPlaceOf_ok {r : Except Err (FoodVal α)} {o : Out α} (h : inPlaceOf r = .ok o) :
    ∃ v, r = .ok v ∧ o = .inPlace v := by
  unfold inPlaceOf at h; split at h <;> simp_all

theorem boolOf_ok {r : Except Err Bool} {o : Out α} (h : boolOf r = .ok o) : ∃ b, o = .bool b := by
  unfold boolOf at h
  split at h
  · exact ⟨_, (Except.ok.inj h).symm⟩
  · cases h

/-- The hypothesis is that of `eval_units`: an operation may return a quantity or rewrite a register.  What went
    through `valOf` is not `.inPlace`, so the second alternative is empty (in `Res.of_inPlaceOf` the first). -/
theorem Res.of_valOf {P : FoodVal α → Prop} {r : Except Err (FoodVal α)} {v : FoodVal α}
    (h : valOf r = .ok (.val v) ∨ valOf r = .ok (.inPlace v)) (hr : Res P r) : P v := by
  rcases h with h | h
  all_goals
    obtain ⟨w, hw, e⟩ := valOf_ok h
    cases e
  exact hr v hw

theorem Res.of_inPlaceOf {P : FoodVal α → Prop} {r : Except Err (FoodVal α)} {v : FoodVal α}
    (h : inPlaceOf r = .ok (.val v) ∨ inPlaceOf r = .ok (.inPlace v)) (hr : Res P r) : P v := by
  rcases h with h | h
  all_goals
    obtain ⟨w, hw, e⟩ := inPlaceOf_ok h
    cases e
  exact hr v hw

theorem eval_isSetter {cfg : Cfg α} {op : Op α} {s : State α} {o : Out α} (h : eval cfg op s = .ok o) :
    op.isSetter = true ↔ ∃ v, o = .inPlace v := by
  cases op with
  | relabelTotal | relabelElement | relabelList | setUnits | getUnits =>
    obtain ⟨_, _, rfl⟩ := inPlaceOf_ok h
    exact ⟨fun _ => ⟨_, rfl⟩, fun _ => rfl⟩
  | pred2 | pred1 | geZero =>
    obtain ⟨_, rfl⟩ := boolOf_ok h
    exact ⟨fun h => (nomatch h), fun ⟨_, e⟩ => nomatch e⟩
  | minNutrient | maxNutrient | labelQ =>
    refine ⟨fun h => (nomatch h), fun ⟨_, e⟩ => ?_⟩
    -- these three wrap their answer themselves: after `split`, `h` equates `.ok (.nutrient ..)` / `.ok (.labels ..)`
    -- or an `.error` with `.ok (.inPlace _)`, and `simp` refutes it by the constructors
    subst e; simp only [eval] at h; split at h <;> simp at h
  | _ =>
    obtain ⟨_, _, rfl⟩ := valOf_ok h
    exact ⟨fun h => (nomatch h), fun ⟨_, e⟩ => nomatch e⟩

/-- the shape and the labels the documentation of each operation implies for its result, read off the
    operands' labels (in words at `C11_doc_labels`) -/
def docLabels (op : Op α) (s : State α) : Option (Bool × Label × Label × Label) :=
  let r := fun (i : Nat) => s[i % s.length]?
  match op with
  | .construct (.scalar _ _ _) ku fu pu => some (false, ku, fu, pu)
  | .construct (.series _ _ _) ku fu pu => some (true, ku.fixEach, fu.fixEach, pu.fixEach)
  | .add i _ | .sub i _ | .minElem i _ | .mulNum i _ | .divNum i _ | .neg i | .abs i | .clip i | .round i _ =>
    (r i).map fun a => (a.series, a.ku, a.fu, a.pu)
  | .shift i _ | .getSlice i _ _ | .runningSum i => (r i).map fun a => (true, a.ku, a.fu, a.pu)
  | .mulArr i _ => (r i).map fun a =>
      (true, if a.series then a.ku else a.ku.addEach, if a.series then a.fu else a.fu.addEach,
        if a.series then a.pu else a.pu.addEach)
  | .mul i j => (r i).bind fun a => (r j).map fun b =>
      (a.series || b.series, (mulLabelsOf a b).ku, (mulLabelsOf a b).fu, (mulLabelsOf a b).pu)
  | .div i _ => (r i).map fun a =>
      (a.series, if a.series then Label.ratio.addEach else Label.ratio, if a.series then Label.ratio.addEach else Label.ratio,
        if a.series then Label.ratio.addEach else Label.ratio)
  | .getInt i _ | .getMonth i _ => (r i).map fun a => (false, a.ku.toElement, a.fu.toElement, a.pu.toElement)
  | .sum i | .minAll i | .maxAll i => (r i).map fun a => (false, a.ku.toTotal, a.fu.toTotal, a.pu.toTotal)
  | .inUnits i tk tf tp => (r i).map fun a => (a.series, formOf a tk, formOf a tf, formOf a tp)
  | _ => none

/-- The conclusions of the three `closed_bind` lemmas are what `docLabels op s` unfolds to, so that `exact` closes
    each case of `eval_closed`: for an operation on two registers whose labels depend on both operands (`mul`), on
    the first only (`_fst`: `+ − / min`), and for an operation on one register. -/
theorem closed_bind2 {f : FoodVal α → FoodVal α → Except Err (FoodVal α)}
    {d : FoodVal α → FoodVal α → Bool × Label × Label × Label} {s : State α} {i j : Nat}
    (hs : AllOK s) (hf : ∀ a b, LabelOK a → LabelOK b → Res (Closed · (d a b)) (f a b)) :
    Res (fun v => LabelOK v ∧
      (s[i % s.length]?.bind fun a => s[j % s.length]?.map fun b => d a b) = some (v.series, v.ku, v.fu, v.pu))
      (bind2 s i j f) :=
  Res.bind2 fun a b h1 h2 v hv =>
    have := hf a b (hs a (List.mem_of_getElem? h1)) (hs b (List.mem_of_getElem? h2)) v hv
    ⟨this.1, by rw [h1, h2]; exact congrArg some this.2⟩

theorem closed_bind2_fst {f : FoodVal α → FoodVal α → Except Err (FoodVal α)}
    {d : FoodVal α → Bool × Label × Label × Label} {s : State α} {i j : Nat}
    (hs : AllOK s) (hf : ∀ a b, LabelOK a → LabelOK b → Res (Closed · (d a)) (f a b)) :
    Res (fun v => LabelOK v ∧ s[i % s.length]?.map d = some (v.series, v.ku, v.fu, v.pu)) (bind2 s i j f) :=
  Res.bind2 fun a b h1 h2 v hv =>
    have := hf a b (hs a (List.mem_of_getElem? h1)) (hs b (List.mem_of_getElem? h2)) v hv
    ⟨this.1, by rw [h1]; exact congrArg some this.2⟩

theorem closed_bind1 {f : FoodVal α → Except Err (FoodVal α)} {d : FoodVal α → Bool × Label × Label × Label}
    {s : State α} {i : Nat} (hs : AllOK s) (hf : ∀ a, LabelOK a → Res (Closed · (d a)) (f a)) :
    Res (fun v => LabelOK v ∧ s[i % s.length]?.map d = some (v.series, v.ku, v.fu, v.pu)) (bind1 s i f) :=
  Res.bind1 fun a h1 v hv =>
    have := hf a (hs a (List.mem_of_getElem? h1)) v hv
    ⟨this.1, by rw [h1]; exact congrArg some this.2⟩

theorem eval_closed (cfg : Cfg α) (op : Op α) (s : State α) (v : FoodVal α) (hs : AllOK s)
    (ha : op.argsOK = true) (h : eval cfg op s = .ok (.val v)) :
    LabelOK v ∧ docLabels op s = some (v.series, v.ku, v.fu, v.pu) := by
  cases op with
  | construct args ku fu pu =>
    have := Res.of_valOf (.inl h) (construct_closed args ku fu pu ha)
    cases args <;> exact ⟨this.1, congrArg some this.2⟩
  | add i j => exact Res.of_valOf (.inl h) (closed_bind2_fst hs fun _ _ ha hb => add_closed ha hb)
  | sub i j => exact Res.of_valOf (.inl h) (closed_bind2_fst hs fun _ _ ha hb => sub_closed ha hb)
  | mul i j => exact Res.of_valOf (.inl h) (closed_bind2 hs fun _ _ ha hb => mul_closed ha hb)
  | div i j => exact Res.of_valOf (.inl h) (closed_bind2_fst hs fun _ _ ha hb => div_closed ha hb)
  | minElem i j => exact Res.of_valOf (.inl h) (closed_bind2_fst hs fun _ _ ha hb => minElem_closed ha hb)
  | mulNum i c => exact Res.of_valOf (.inl h) (closed_bind1 hs fun _ ha => mulNum_closed c ha)
  | divNum i c => exact Res.of_valOf (.inl h) (closed_bind1 hs fun _ ha => divNum_closed c ha)
  | mulArr i l => exact Res.of_valOf (.inl h) (closed_bind1 hs fun _ ha => mulArr_closed l ha)
  | neg i => exact Res.of_valOf (.inl h) (closed_bind1 hs fun _ ha => neg_closed ha)
  | abs i => exact Res.of_valOf (.inl h) (closed_bind1 hs fun _ ha => absVal_closed ha)
  | clip i => exact Res.of_valOf (.inl h) (closed_bind1 hs fun _ ha => clip_closed ha)
  | round i d => exact Res.of_valOf (.inl h) (closed_bind1 hs fun _ ha => rounded_closed cfg.rnd d ha)
  | shift i m => exact Res.of_valOf (.inl h) (closed_bind1 hs fun _ ha => shift_closed m ha)
  | getSlice i lo hi => exact Res.of_valOf (.inl h) (closed_bind1 hs fun _ ha => getSlice_closed lo hi ha)
  -- `getInt` is `getMonth` word for word
  | getInt i k | getMonth i k => exact Res.of_valOf (.inl h) (closed_bind1 hs fun _ ha => getMonth_closed k ha)
  | sum i => exact Res.of_valOf (.inl h) (closed_bind1 hs fun _ ha => sumMonths_closed ha)
  | runningSum i => exact Res.of_valOf (.inl h) (closed_bind1 hs fun _ ha => runningSum_closed ha)
  | minAll i => exact Res.of_valOf (.inl h) (closed_bind1 hs fun _ ha => minAll_closed ha)
  | maxAll i => exact Res.of_valOf (.inl h) (closed_bind1 hs fun _ ha => maxAll_closed ha)
  | inUnits i tk tf tp =>
    simp only [Op.argsOK, Bool.and_eq_true, List.isEmpty_iff] at ha
    exact Res.of_valOf (.inl h) (closed_bind1 hs fun _ h => inUnits_closed cfg.conv tk tf tp h ha.1.1 ha.1.2 ha.2)
  | relabelTotal | relabelElement | relabelList | setUnits | getUnits => obtain ⟨_, _, e⟩ := inPlaceOf_ok h; cases e
  | pred2 | pred1 | geZero => obtain ⟨_, e⟩ := boolOf_ok h; cases e
  -- they answer with `.nutrient` / `.labels`, as in `eval_isSetter`
  | minNutrient | maxNutrient | labelQ => simp only [eval] at h; split at h <;> simp at h

theorem eval_units (cfg : Cfg α) (op : Op α) (s : State α) (v : FoodVal α)
    (h : eval cfg op s = .ok (.val v) ∨ eval cfg op s = .ok (.inPlace v)) : v.units = [v.ku, v.fu, v.pu] := by
  -- operations of one shape share a line; the term follows the operation's definition
  cases op with
  | construct args ku fu pu => exact Res.of_valOf h (UnitsP.construct args ku fu pu)
  | add | sub => exact Res.of_valOf h (Res.bind2 fun _ _ _ _ => .guard fun _ => UnitsP.combine _ _ _ _ _ _)
  | mul => exact Res.of_valOf h (Res.bind2 fun _ _ _ _ v h => UnitsP.combine _ _ _ _ _ _ v (mul_ok h).1)
  | div =>
    exact Res.of_valOf h (Res.bind2 fun _ _ _ _ => .guard fun _ => .ite
      (.guard fun _ => .guard fun _ => .guard fun _ => UnitsP.combine _ _ _ _ _ _)
      (.guard fun _ => UnitsP.combine _ _ _ _ _ _))
  | minElem => exact Res.of_valOf h (Res.bind2 fun _ _ _ _ => .guard fun _ => .ite (UnitsP.combine _ _ _ _ _ _) .error)
  | mulNum | clip | round => exact Res.of_valOf h (Res.bind1 fun _ _ => .guard fun _ => UnitsP.mapVal)
  | divNum | neg | abs => exact Res.of_valOf h (Res.bind1 fun _ _ => UnitsP.mapVal)
  | mulArr =>
    exact Res.of_valOf h (Res.bind1 fun _ _ => .ite UnitsP.buildSeries (.guard fun _ => .ite UnitsP.buildSeries .error))
  | shift => exact Res.of_valOf h (Res.bind1 fun _ _ => .guard fun _ => UnitsP.buildSeries)
  | getSlice | runningSum => exact Res.of_valOf h (Res.bind1 fun _ _ => .guard fun _ => .guard fun _ => UnitsP.buildSeries)
  | getInt | getMonth => exact Res.of_valOf h (Res.bind1 fun _ _ => .guard fun _ => .guard fun _ => UnitsP.monthOf)
  | sum => exact Res.of_valOf h (Res.bind1 fun _ _ => .guard fun _ => .guard fun _ => UnitsP.relabelTotal)
  | minAll | maxAll => exact Res.of_valOf h (Res.bind1 fun _ _ => .guard fun _ => UnitsP.relabelTotal)
  | inUnits i tk tf tp => exact Res.of_valOf h (Res.bind1 fun a _ => UnitsP.inUnits cfg.conv a tk tf tp)
  | relabelTotal => exact Res.of_inPlaceOf h (Res.bind1 fun _ _ => UnitsP.relabelTotal)
  | relabelElement => exact Res.of_inPlaceOf h (Res.bind1 fun _ _ => UnitsP.relabelElement)
  | relabelList => exact Res.of_inPlaceOf h (Res.bind1 fun _ _ => UnitsP.relabelList)
  | setUnits | getUnits => exact Res.of_inPlaceOf h (Res.bind1 fun _ _ => .ok rfl : UnitsP _)
  | pred2 | pred1 | geZero => rcases h with h | h <;> (obtain ⟨_, e⟩ := boolOf_ok h; cases e)
  -- they answer with `.nutrient` / `.labels`, as in `eval_isSetter`
  | minNutrient | maxNutrient | labelQ => rcases h with h | h <;> (simp only [eval] at h; split at h <;> simp at h)

/-- `v` has the shape and the numbers of `a` (a setter changes labels only) -/
def SameNumbers (v a : FoodVal α) : Prop :=
  v.series = a.series ∧ v.kcals = a.kcals ∧ v.fat = a.fat ∧ v.protein = a.protein

theorem setter_numbers (cfg : Cfg α) (op : Op α) (s : State α) (v : FoodVal α)
    (h : eval cfg op s = .ok (.inPlace v)) : ∃ a, s[op.target % s.length]? = some a ∧ SameNumbers v a := by
  have key : ∀ {i : Nat} {f : FoodVal α → Except Err (FoodVal α)}, (∀ a, Res (SameNumbers · a) (f a)) →
      Res (fun v => ∃ a, s[i % s.length]? = some a ∧ SameNumbers v a) (bind1 s i f) :=
    fun hf => Res.bind1 fun a h1 v hv => ⟨a, h1, hf a v hv⟩
  cases op with
  | relabelTotal | relabelElement | relabelList =>
    exact Res.of_inPlaceOf (.inr h) (key fun a => Res.guard fun _ => Res.ok ⟨rfl, rfl, rfl, rfl⟩)
  | setUnits | getUnits => exact Res.of_inPlaceOf (.inr h) (key fun a => Res.ok ⟨rfl, rfl, rfl, rfl⟩)
  | _ => exact nomatch (eval_isSetter h).2 ⟨v, rfl⟩

theorem step_ok (cfg : Cfg α) (op : Op α) (s s' : State α) (h : step cfg op s = .ok s') :
    ∃ o, eval cfg op s = .ok o ∧ s' = applyOut op o s := by
  unfold step at h
  split at h
  · exact ⟨_, ‹_›, (Except.ok.inj h).symm⟩
  · cases h

theorem mem_applyOut {op : Op α} {o : Out α} {s : State α} {x : FoodVal α} (hx : x ∈ applyOut op o s) :
    x ∈ s ∨ o = .val x ∨ o = .inPlace x := by
  cases o <;> simp only [applyOut] at hx
  · rcases List.mem_append.1 hx with h | h
    · exact .inl h
    · exact .inr (.inl (by rw [List.mem_singleton.1 h]))
  · rcases List.mem_or_eq_of_mem_set hx with h | rfl
    · exact .inl h
    · exact .inr (.inr rfl)
  all_goals exact .inl hx

theorem step_allOK (cfg : Cfg α) (op : Op α) (s s' : State α) (hs : AllOK s) (hset : op.isSetter = false)
    (ha : op.argsOK = true) (h : step cfg op s = .ok s') : AllOK s' := by
  obtain ⟨o, ho, rfl⟩ := step_ok cfg op s s' h
  intro x hx
  rcases mem_applyOut hx with hx | rfl | rfl
  · exact hs x hx
  · exact (eval_closed cfg op s x hs ha ho).1
  · rw [(eval_isSetter ho).2 ⟨x, rfl⟩] at hset; cases hset

theorem step_allAgree (cfg : Cfg α) (op : Op α) (s s' : State α) (hs : AllAgree s)
    (h : step cfg op s = .ok s') : AllAgree s' := by
  obtain ⟨o, ho, rfl⟩ := step_ok cfg op s s' h
  intro x hx
  rcases mem_applyOut hx with hx | rfl | rfl
  · exact hs x hx
  · exact eval_units cfg op s x (.inl ho)
  · exact eval_units cfg op s x (.inr ho)

/-- What every accepted step of an admissible operation preserves holds after `runSkip` (a rejected operation is
    skipped); `run_induction` is the same for `run`, which stops at the first rejection. -/
theorem runSkip_induction (cfg : Cfg α) {I : State α → Prop} {adm : Op α → Prop}
    (hstep : ∀ op s s', adm op → I s → step cfg op s = .ok s' → I s') :
    ∀ (ops : List (Op α)) (s : State α), (∀ op ∈ ops, adm op) → I s → I (runSkip cfg ops s)
  | [], _, _, hs => hs
  | op :: t, s, hops, hs => by
    have ht := runSkip_induction cfg hstep t
    unfold runSkip
    split
    · exact ht _ (fun o ho => hops o (.tail _ ho)) (hstep op s _ (hops op (.head _)) hs ‹_›)
    · exact ht s (fun o ho => hops o (.tail _ ho)) hs

theorem run_induction (cfg : Cfg α) {I : State α → Prop} {adm : Op α → Prop}
    (hstep : ∀ op s s', adm op → I s → step cfg op s = .ok s' → I s') :
    ∀ (ops : List (Op α)) (s s' : State α), (∀ op ∈ ops, adm op) → I s → run cfg ops s = .ok s' → I s'
  | [], s, s', _, hs, h => by cases h; exact hs
  | op :: t, s, s', hops, hs, h => by
    unfold run at h
    split at h
    · exact run_induction cfg hstep t _ s' (fun o ho => hops o (.tail _ ho)) (hstep op s _ (hops op (.head _)) hs ‹_›) h
    · cases h

theorem step_appends (cfg : Cfg α) (op : Op α) (s s' : State α) (hset : op.isSetter = false)
    (h : step cfg op s = .ok s') : s' = s ∨ ∃ v, s' = s ++ [v] := by
  obtain ⟨o, ho, rfl⟩ := step_ok cfg op s s' h
  cases o with
  | val v => exact .inr ⟨v, rfl⟩
  | inPlace v => rw [(eval_isSetter ho).2 ⟨v, rfl⟩] at hset; cases hset
  | _ => exact .inl rfl

theorem step_setter (cfg : Cfg α) (op : Op α) (s s' : State α) (hset : op.isSetter = true)
    (h : step cfg op s = .ok s') :
    s'.length = s.length ∧ (∀ k, k ≠ op.target % s.length → s'[k]? = s[k]?) ∧
    (∀ a v, s[op.target % s.length]? = some a → s'[op.target % s.length]? = some v → SameNumbers v a) := by
  obtain ⟨o, ho, rfl⟩ := step_ok cfg op s s' h
  obtain ⟨w, rfl⟩ := (eval_isSetter ho).1 hset
  obtain ⟨a, h1, h2⟩ := setter_numbers cfg op s w ho
  refine ⟨by simp [applyOut], fun k hk => List.getElem?_set_ne (Ne.symm hk), fun a' v' ha' hv' => ?_⟩
  rw [applyOut, List.getElem?_set_self (List.getElem?_eq_some_iff.1 h1).1] at hv'
  cases hv'; cases h1.symm.trans ha'
  exact h2

theorem allLE_reject (iF iP : Bool) (a b : FoodVal α) (hs : a.series = b.series) (h : a.units ≠ b.units) :
    allLE iF iP a b = .error .assert := by
  have hb := beq_eq_false_iff_ne.2 h
  unfold allLE
  cases hsa : a.series <;> (rw [hsa] at hs; simp [← hs, hb])

theorem mul_ratio_left (r x v : FoodVal α) (hr : LabelOK r) (hx : LabelOK x) (hnx : x.isRatio = false)
    (h : mul r x = .ok v) : v.ku = x.ku ∧ v.fu = x.fu ∧ v.pu = x.pu := by
  have := (mul_closed hr hx v h).eqs
  rwa [show mulLabelsOf r x = x by simp [mulLabelsOf, hnx]] at this

theorem mul_ratio_right (x r v : FoodVal α) (hx : LabelOK x) (hr : LabelOK r) (hrr : r.isRatio = true)
    (hnx : x.isRatio = false) (h : mul x r = .ok v) : v.ku = x.ku ∧ v.fu = x.fu ∧ v.pu = x.pu := by
  have := (mul_closed hx hr v h).eqs
  by_cases hc : (!x.series && r.series) = true
  · -- a single non-ratio value times a series is refused
    simp only [Bool.and_eq_true, Bool.not_eq_true'] at hc
    unfold mul at h
    simp [hc.1, hc.2, guard', hnx] at h
  · rwa [show mulLabelsOf x r = x by simp [mulLabelsOf, hc, hrr]] at this

theorem length_of_zipWith_eq (f : α → α → α) (l1 l2 : List α) (h : l1.length = l2.length) :
    (List.zipWith f l1 l2).length = l1.length := by
  simp [h]

/-- two series have the same number of months -/
def Compatible (a b : FoodVal α) : Prop := a.series = true → b.series = true → a.kcals.length = b.kcals.length

theorem combine_isOk (f : α → α → α) (a b : FoodVal α) (ku fu pu : Label) (ha : LabelOK a) (hb : LabelOK b) :
    (∃ v, combine f a b ku fu pu = .ok v) ↔ Compatible a b := by
  unfold combine Compatible
  cases hsa : a.series <;> cases hsb : b.series
  · simp [bop, build]
  · obtain ⟨h0, h1, h2⟩ := hb.lengths hsb
    simp [bop, build, buildSeries, guard', h0, h1, h2]
  · obtain ⟨h0, h1, h2⟩ := ha.lengths hsa
    simp [bop, build, buildSeries, guard', h0, h1, h2]
  · obtain ⟨h0, h1, h2⟩ := ha.lengths hsa
    obtain ⟨g0, g1, g2⟩ := hb.lengths hsb
    by_cases hl : a.kcals.length = b.kcals.length
    · have e1 : a.fat.length = b.fat.length := by omega
      have e2 : a.protein.length = b.protein.length := by omega
      simp [bop, build, buildSeries, guard', hl, e1, e2, g0, g1, g2]
    · simp [bop, hl]

theorem mul_accept_symm (r x : FoodVal α) (hr : LabelOK r) (hx : LabelOK x) (hrr : r.isRatio = true)
    (hnx : x.isRatio = false) : (∃ v, mul r x = .ok v) ↔ (∃ w, mul x r = .ok w) := by
  unfold mul
  -- a series times the single non-ratio `x` is refused on both sides; elsewhere both sides combine under `x`'s labels
  cases hsr : r.series <;> cases hsx : x.series <;>
    simp only [hrr, hnx, hr.validate, hx.validate, guard', Bool.not_false, Bool.not_true, if_true, if_false,
      Bool.false_eq_true, Bool.or_true, Bool.or_false]
  all_goals
    rw [combine_isOk _ r x _ _ _ hr hx, combine_isOk _ x r _ _ _ hx hr]
    exact ⟨fun h a b => (h b a).symm, fun h a b => (h b a).symm⟩

/-- `r` fails, if at all, with an assertion error -/
def OnlyAssert {β : Type} (r : Except Err β) : Prop := ∀ e, r = .error e → e = .assert

theorem OnlyAssert.guard {β : Type} {c : Bool} {k : Except Err β} (h : OnlyAssert k) : OnlyAssert (guard' c .assert k) := by
  intro e he
  rcases guard'_err _ _ _ _ he with h1 | h1
  · exact h1.2
  · exact h e h1.2

theorem OnlyAssert.ite {β : Type} {c : Prop} [Decidable c] {x y : Except Err β} (hx : OnlyAssert x) (hy : OnlyAssert y) :
    OnlyAssert (if c then x else y) := by
  split <;> assumption

theorem OnlyAssert.combine (f : α → α → α) (a b : FoodVal α) (ku fu pu : Label) (ha : LabelOK a) (hb : LabelOK b)
    (hl : a.series = true → b.series = true → a.kcals.length = b.kcals.length) : OnlyAssert (combine f a b ku fu pu) := by
  intro e he
  obtain ⟨v, hv⟩ := (combine_isOk f a b ku fu pu ha hb).2 hl
  cases hv.symm.trans he

theorem add_onlyAssert (a b : FoodVal α) (ha : LabelOK a) (hb : LabelOK b) (hl : Compatible a b) : OnlyAssert (add a b) :=
  .guard (.combine _ a b _ _ _ ha hb hl)
theorem sub_onlyAssert (a b : FoodVal α) (ha : LabelOK a) (hb : LabelOK b) (hl : Compatible a b) : OnlyAssert (sub a b) :=
  .guard (.combine _ a b _ _ _ ha hb hl)
theorem div_onlyAssert (a b : FoodVal α) (ha : LabelOK a) (hb : LabelOK b) (hl : Compatible a b) : OnlyAssert (div a b) :=
  have c := fun ku fu pu => OnlyAssert.combine (· / ·) a b ku fu pu ha hb hl
  .guard (.ite (.guard (.guard (.guard (c _ _ _)))) (.guard (c _ _ _)))
theorem mul_onlyAssert (a b : FoodVal α) (ha : LabelOK a) (hb : LabelOK b) (hl : Compatible a b) : OnlyAssert (mul a b) :=
  have c := fun ku fu pu => OnlyAssert.combine (· * ·) a b ku fu pu ha hb hl
  .ite (.ite (.guard (c _ _ _)) (.guard (.ite (c _ _ _) (c _ _ _))))
    (.guard (.ite (.guard (.guard (.ite (c _ _ _) (c _ _ _)))) (.guard (c _ _ _))))
theorem minElem_onlyAssert (a b : FoodVal α) (ha : LabelOK a) (hb : LabelOK b) (hl : Compatible a b) :
    OnlyAssert (minElem a b) := by
  unfold minElem
  intro e he
  rcases guard'_err _ _ _ _ he with h1 | h1
  · exact h1.2
  · have hs := series_eq_of_units_eq ha hb (eq_of_beq h1.1)
    simp only [hs, beq_self_eq_true, if_true] at h1
    exact OnlyAssert.combine _ a b _ _ _ ha hb hl e h1.2

end

variable {K : Type} [Field K] [LinearOrder K] [IsStrictOrderedRing K]

/-- The monthly branch of a comparison tests `x - y ? 0`, the single-value branch `x ? y`: the same in an ordered
    field.  Beside the bookkeeping of guards, this is what the agreement of the predicates rests on. -/
theorem relOf_true_false (c : Cmp) (x y : K) : relOf c true x y = relOf c false x y := by
  cases c <;> simp [relOf, cmpDiff, cmpDirect]

theorem scalar_fields (a : FoodVal K) (ha : LabelOK a) (hs : a.series = false) :
    ∃ k f p, a.kcals = [k] ∧ a.fat = [f] ∧ a.protein = [p] := by
  have := ha.shape
  simp only [shapeOK, hs, Bool.false_eq_true, if_false, Bool.and_eq_true, beq_iff_eq] at this
  obtain ⟨k, hk⟩ := List.length_eq_one_iff.1 this.1.1
  obtain ⟨f, hf⟩ := List.length_eq_one_iff.1 this.1.2
  obtain ⟨p, hp⟩ := List.length_eq_one_iff.1 this.2
  exact ⟨k, f, p, hk, hf, hp⟩

theorem addEach_inj (l l' : Label) : l.addEach = l'.addEach ↔ l = l' := by
  cases l; cases l'
  simp [Label.addEach]

theorem asSeries_units_beq (a b : FoodVal K) (ha : LabelOK a) (hb : LabelOK b) :
    ((asSeries a).units == (asSeries b).units) = (a.units == b.units) := by
  rw [Bool.eq_iff_iff]
  simp only [beq_iff_eq, asSeries, ha.units, hb.units, List.cons.injEq, addEach_inj, and_true]

theorem asSeries_validate (a : FoodVal K) (ha : LabelOK a) (hs : a.series = false) : validate (asSeries a) = true := by
  obtain ⟨k, f, p, hk, hf, hp⟩ := scalar_fields a ha hs
  simp [validate, asSeries, FoodVal.allEach, Label.hasEach, Label.addEach, hk, hf, hp]

theorem scalar_validate (a : FoodVal K) (hs : a.series = false) : validate a = true := by
  simp [validate, hs]

theorem pred2_asSeries (a b : FoodVal K) (ha : LabelOK a) (hb : LabelOK b) (hsa : a.series = false) (hsb : b.series = false)
    (rel : Bool → K → K → Bool) (anyQ : Bool) (comb : Bool → Bool → Bool → Bool)
    (hrel : ∀ x y, rel true x y = rel false x y) :
    pred2 (asSeries a) (asSeries b) rel anyQ comb = pred2 a b rel anyQ comb := by
  obtain ⟨k, f, p, hk, hf, hp⟩ := scalar_fields a ha hsa
  obtain ⟨k', f', p', hk', hf', hp'⟩ := scalar_fields b hb hsb
  cases anyQ <;> simp [pred2, pairs, asSeries, hsa, hsb, hk, hf, hp, hk', hf', hp', hrel]

theorem evalPred2_asSeries (cfg : Cfg K) (p : Pred2) (a b : FoodVal K) (ha : LabelOK a) (hb : LabelOK b)
    (hsa : a.series = false) (hsb : b.series = false) :
    evalPred2 cfg p (asSeries a) (asSeries b) = evalPred2 cfg p a b := by
  have hu := asSeries_units_beq a b ha hb
  have hv := asSeries_validate a ha hsa
  have hv' := scalar_validate a hsa
  cases p
  case allLE =>
    obtain ⟨k, f, p, hk, hf, hp⟩ := scalar_fields a ha hsa
    obtain ⟨k', f', p', hk', hf', hp'⟩ := scalar_fields b hb hsb
    simp only [evalPred2, allLE]
    have e1 : (asSeries a).series = true := rfl
    have e2 : (asSeries b).series = true := rfl
    simp only [e1, e2, hsa, hsb, Bool.not_true, Bool.not_false, Bool.and_self, Bool.and_false, Bool.false_and,
      Bool.false_eq_true, if_false, if_true, hu]
    cases hue : (a.units == b.units)
    · rfl
    · simp [pairsLE, pairs, asSeries, hk, hf, hp, hk', hf', hp']
  all_goals
    simp only [evalPred2, eqFood, neFood, allGT, allLT, allGE, allCmp, anyGT, anyLT, anyGE, anyLE, hu, hv, hv']
    rw [pred2_asSeries a b ha hb hsa hsb]
  -- `==` and `!=` compare the same way in both branches; the other eight through `relOf`
  case eq | ne => exact fun _ _ => rfl
  all_goals exact relOf_true_false _

theorem pred1_asSeries (a : FoodVal K) (rel : K → Bool) (anyQ : Bool) (comb : Bool → Bool → Bool → Bool) :
    pred1 (asSeries a) rel anyQ comb = pred1 a rel anyQ comb := rfl

theorem evalPred1_asSeries (cfg : Cfg K) (p : Pred1) (a : FoodVal K) (ha : LabelOK a) (hsa : a.series = false) :
    evalPred1 cfg p (asSeries a) = evalPred1 cfg p a := by
  have hv := asSeries_validate a ha hsa
  have hv' := scalar_validate a hsa
  cases p
  case isRatio => simp [evalPred1, FoodVal.isRatio, asSeries, Label.isRatio, Label.addEach]
  case isPercent => simp [evalPred1, FoodVal.isPercent, asSeries, Label.isPercent, Label.addEach]
  all_goals
    simp only [evalPred1, neverNegative, allEqZero, anyEqZero, allGTZero, anyGTZero, hv, hv', pred1_asSeries, guard', if_true]

theorem allGEZero_asSeries (iF iP : Bool) (a : FoodVal K) (thr : K) (ha : LabelOK a) (hsa : a.series = false) :
    allGEZero iF iP (asSeries a) thr = allGEZero iF iP a thr := by
  have hv := asSeries_validate a ha hsa
  have hv' := scalar_validate a hsa
  simp only [allGEZero, hv, hv', pred1_asSeries, guard', if_true]

end Allfed.Proofs.FoodP
